/-
  C13 — Reading never writes; results do not alias the packet.

  Statements are about the heap model RV/Model/Prov.lean: a slice is a view (buffer, offset, length)
  into a heap of mutable buffers, re-slicing stays in the buffer, `make`/`append(nil,…)`/
  `hash.Sum(fresh)`/string conversion allocate, stores and in-capacity appends mutate in place.
  Every observer of the library is mirrored there with the slicing / copying / storing structure of
  the Go code.

    `PureObs m`   running `m` in any heap leaves every buffer that existed before the call
                  unchanged (it may allocate, and may store into what it allocated);
    `FreshObs m`  every slice contained in `m`'s result points into a buffer allocated by the call.

  `observer_pure` / `results_fresh` hold for ALL heaps, packets and arguments.  `old_tagged_int_lookup_writes_packet` shows that the
  layer detects exactly the defect that was repaired: the previous tagged-integer getter, mirrored
  the same way, provably changes the packet.
-/
import RV.Model.Prov
import RV.Proofs.Prov
import RV.Proofs.ProvView
import RV.Proofs.ProvGets
import RV.Proofs.ProvGet
namespace RV.C13
open RV RV.Prov

/-- a pure call leaves the packet value and every input slice exactly as they were -/
theorem pure_means {α} {m : M α} (hm : PureObs m) (h : Heap) (p : HPacket) (hp : p.below h.length)
    (input : Slice) (hi : input.buf < h.length) :
    p.view (m h).2 = p.view h ∧ (m h).2.read input = h.read input :=
  ⟨hm.packet_unchanged h p hp, hm.input_unchanged h input hi⟩

/-- writing through any slice of a fresh result cannot change the packet or any older slice -/
theorem write_result_preserves_packet {α} [HasSlices α] {m : M α} (hf : FreshObs m) (h : Heap)
    (s : Slice) (hs : s ∈ slices (m h).1) (i : Nat) (v : UInt8) (p : HPacket) (hp : p.below h.length)
    (old : Slice) (hold : old.buf < h.length) :
    p.view ((m h).2.write s i v) = p.view (m h).2 ∧ ((m h).2.write s i v).read old = (m h).2.read old :=
  hf.write_preserves h s hs i v p hp old hold

/-- Reading never writes: Parse, MarshalBinary, Encode, the two authenticity predicates, every typed decoder of
    attribute.go, the generated vendor walkers and getters and debug.Dump leave every buffer that existed before
    the call — the packet's attribute values, its secret, the datagram, any argument — byte for byte as it was;
    whatever they store goes into buffers they allocated themselves. -/
theorem observer_pure (H : Hash) (d : Desc) (p : HPacket) (a b s s' : Slice) (auth : Bytes) (vid : Nat) (typ : UInt8) :
    -- packet.go
    PureObs (parseH b s) ∧ PureObs (marshalH p) ∧ PureObs (encodeH H p) ∧
    PureObs (isAuthenticResponseH H a b s) ∧ PureObs (isAuthenticRequestH H a s) ∧
    -- attribute.go
    PureObs (bytesH a) ∧ PureObs (stringH a) ∧ PureObs (integerH a) ∧ PureObs (integer64H a) ∧
    PureObs (shortH a) ∧ PureObs (dateH a) ∧ PureObs (ipAddrH a) ∧ PureObs (ipv6AddrH a) ∧ PureObs (ifidH a) ∧
    PureObs (vendorSpecificH a) ∧ PureObs (tlvH a) ∧ PureObs (ipv6PrefixH a) ∧
    PureObs (userPasswordH H a s auth) ∧ PureObs (tunnelPasswordH H a s auth) ∧
    -- generated code
    PureObs (getsVendorH vid typ p.attrs) ∧ PureObs (lookupVendorH vid typ p.attrs) ∧
    PureObs (decodeValueH H d a s' auth) ∧ PureObs (hLookupH H d p auth) ∧ PureObs (hGetsH H d p auth) ∧
    -- debug
    PureObs (dumpAttrsH H p p.attrs) :=
  ⟨Obs.pureObs (obs_parseH b s), Obs.pureObs (obs_marshalH p), Obs.pureObs (obs_encodeH H p),
   Obs.pureObs (obs_isAuthenticResponseH H a b s), Obs.pureObs (obs_isAuthenticRequestH H a s),
   Obs.pureObs (obs_bytesH a), Obs.pureObs (obs_stringH a),
   Obs.pureObs (obs_scalar a integer),
   Obs.pureObs (obs_scalar a integer64),
   Obs.pureObs (obs_scalar a short),
   Obs.pureObs (obs_scalar a date),
   Obs.pureObs (obs_copyDecH ipAddr a), Obs.pureObs (obs_copyDecH ipv6Addr a),
   Obs.pureObs (obs_copyDecH ifid a),
   Obs.pureObs (obs_vendorSpecificH a), Obs.pureObs (obs_tlvH a), Obs.pureObs (obs_ipv6PrefixH a),
   Obs.pureObs (obs_userPasswordH H a s auth), Obs.pureObs (obs_tunnelPasswordH H a s auth),
   Obs.pureObs (obs_getsVendorH vid typ p.attrs), Obs.pureObs (obs_lookupVendorH vid typ p.attrs),
   Obs.pureObs (obs_decodeValueH H d a s' auth), Obs.pureObs (obs_hLookupH H d p auth),
   Obs.pureObs (obs_hGetsH H d p auth), Obs.pureObs (obs_dumpAttrsH H p p.attrs)⟩

/-- Results do not alias the packet: every `[]byte`, `net.IP`, `*net.IPNet` or string that a typed decoder, a
    generated getter or vendor walker, MarshalBinary or Encode returns lies in a buffer allocated by that call, so
    a caller who writes into it cannot change the packet or anything else that existed before. -/
theorem results_fresh (H : Hash) (d : Desc) (p : HPacket) (a s s' : Slice) (auth : Bytes) (vid : Nat) (typ : UInt8) :
    -- attribute.go: every decoder that returns bytes
    FreshObs (bytesH a) ∧ FreshObs (stringH a) ∧ FreshObs (ipAddrH a) ∧ FreshObs (ipv6AddrH a) ∧ FreshObs (ifidH a) ∧
    FreshObs (vendorSpecificH a) ∧ FreshObs (tlvH a) ∧ FreshObs (ipv6PrefixH a) ∧
    FreshObs (userPasswordH H a s auth) ∧ FreshObs (tunnelPasswordH H a s auth) ∧
    -- generated vendor walkers and getters, for every attribute descriptor
    FreshObs (getsVendorH vid typ p.attrs) ∧ FreshObs (lookupVendorH vid typ p.attrs) ∧
    FreshObs (decodeValueH H d a s' auth) ∧ FreshObs (hLookupH H d p auth) ∧ FreshObs (hGetsH H d p auth) ∧
    -- the encoders' output buffer
    FreshObs (marshalH p) ∧ FreshObs (encodeH H p) :=
  ⟨Obs.freshObs (obs_bytesH a),
   Obs.freshObs (obs_stringH a),
   Obs.freshObs (obs_copyDecH ipAddr a), Obs.freshObs (obs_copyDecH ipv6Addr a),
   Obs.freshObs (obs_copyDecH ifid a),
   Obs.freshObs (obs_vendorSpecificH a), Obs.freshObs (obs_tlvH a), Obs.freshObs (obs_ipv6PrefixH a),
   Obs.freshObs (obs_userPasswordH H a s auth), Obs.freshObs (obs_tunnelPasswordH H a s auth),
   Obs.freshObs (obs_getsVendorH vid typ p.attrs), Obs.freshObs (obs_lookupVendorH vid typ p.attrs),
   Obs.freshObs (obs_decodeValueH H d a s' auth), Obs.freshObs (obs_hLookupH H d p auth),
   Obs.freshObs (obs_hGetsH H d p auth),
   Obs.freshObs (obs_marshalH p), Obs.freshObs (obs_encodeH H p)⟩

/-- instance: writing into what `X_Lookup` returned leaves the packet as it was -/
theorem write_lookup_result_preserves_packet (H : Hash) (d : Desc) (p : HPacket) (auth : Bytes) (h : Heap)
    (hp : p.below h.length) (s : Slice) (hs : s ∈ slices (hLookupH H d p auth h).1) (i : Nat) (v : UInt8) :
    p.view ((hLookupH H d p auth h).2.write s i v) = p.view h := by
  rw [(write_result_preserves_packet (Obs.freshObs (obs_hLookupH H d p auth)) h s hs i v p hp p.secret hp.1).1]
  exact (Obs.pureObs (obs_hLookupH H d p auth)).packet_unchanged h p hp

/-- the parsed attributes live in new buffers (the secret is, by design, the caller's slice), so
    overwriting the datagram afterwards — as a server reusing its receive buffer does — changes no
    parsed attribute -/
theorem parse_no_alias (b secret : Slice) (h : Heap) (hb : b.buf < h.length) (p : HPacket)
    (hp : (parseH b secret h).1 = .ok p) (i : Nat) (v : UInt8) :
    p.secret = secret ∧ ∀ ts ∈ p.attrs, h.length ≤ ts.2.buf ∧ ts.2.buf ≠ b.buf ∧
      ((parseH b secret h).2.write b i v).read ts.2 = (parseH b secret h).2.read ts.2 := by
  have h1 := parseH_fresh b secret h p hp
  refine ⟨h1.1, fun ts hts => ?_⟩
  have h2 := parseH_no_alias b secret h hb p hp i v ts hts
  exact ⟨h1.2 ts hts, h2.1, h2.2⟩

/-- corollary of purity: after any observer the next call sees the same packet and the same inputs -/
theorem repeat_inputs_same {α} {m : M α} (hm : PureObs m) (h : Heap) (p : HPacket) (hp : p.below h.length)
    (input : Slice) (hi : input.buf < h.length) :
    p.view (m h).2 = p.view h ∧ (m h).2.read input = h.read input := pure_means hm h p hp input hi

/-- the tagged-integer getter asked twice answers the same; `radius.Bytes` twice gives equal bytes in two
    different new buffers -/
theorem repeat_read_same (typ : Int) (w : Nat) (p : HPacket) (a : Slice) (h : Heap) (hp : p.below h.length)
    (ha : a.buf < h.length) :
    (taggedIntLookupH typ w p (taggedIntLookupH typ w p h).2).1 = (taggedIntLookupH typ w p h).1 ∧
    (let r₁ := bytesH a h; let r₂ := bytesH a r₁.2; r₂.2.read r₂.1 = r₁.2.read r₁.1 ∧ r₂.1.buf ≠ r₁.1.buf) :=
  ⟨taggedIntLookupH_repeat typ w p h hp, bytesH_repeat a h ha⟩

theorem values_agree (a : Slice) (p : HPacket) (h : Heap) (k : Int) (w : Nat) :
    (bytesH a h).2.read (bytesH a h).1 = bytesOf (h.read a) ∧
    viewRes (ipAddrH a h).2 (ipAddrH a h).1 = ipAddr (h.read a) ∧
    viewRes (ipv6AddrH a h).2 (ipv6AddrH a h).1 = ipv6Addr (h.read a) ∧
    viewRes (ifidH a h).2 (ifidH a h).1 = ifid (h.read a) ∧
    ((tagStripH (h.read a) a).2.buf = a.buf ∧
      ((tagStripH (h.read a) a).1, h.read (tagStripH (h.read a) a).2) =
        (if (h.read a).length ≥ 1 ∧ ((h.read a).getD 0 0).toNat ≤ 0x1F then ((h.read a).getD 0 0, (h.read a).drop 1)
         else (0, h.read a))) ∧
    (lookupRaw p.attrs k).map h.read = (p.view h).attrs.lookup k ∧
    (taggedIntLookupH k w p h).1 =
      (match lookupRaw p.attrs k with
       | none => .err
       | some a =>
         let av := h.read a
         let ta := if av.length ≥ 1 ∧ (av.getD 0 0).toNat ≤ 0x1F then (av.getD 0 0, (0 : UInt8) :: av.drop 1) else (0, av)
         if ta.2.length ≠ w then .err else .ok (ta.1, beNat ta.2)) :=
  ⟨bytesH_view a h, copyDecH_view _ a h, copyDecH_view _ a h, copyDecH_view _ a h, tagStripH_view a h,
   lookupRaw_view p h k, taggedIntLookupH_view k w p h⟩

/-- Parse in the heap model computes the total model's packet (datagram slice inside its buffer) -/
theorem parse_agrees (b secret : Slice) (h : Heap) (hv : b.valid h) (hs : secret.buf < h.length) :
    match (parseH b secret h).1 with
    | .ok p => RV.parse (h.read b) (h.read secret) = .ok (p.view (parseH b secret h).2)
    | .err => RV.parse (h.read b) (h.read secret) = .err
    | .fault => False :=
  parseH_view b secret h hv hs

/-- the body of every generated getter without `encrypt=`: what the caller reads through the
    returned slices is the total model's value, for every attribute descriptor -/
theorem decodeValue_agrees (H : Hash) (d : Desc) (henc : d.encrypt = 0) (a secret : Slice) (auth : Bytes) (h : Heap) :
    viewDec (decodeValueH H d a secret auth h).2 (decodeValueH H d a secret auth h).1 =
      decodeValue H d (h.read a) (h.read secret) auth :=
  decodeValueH_view H d (.inl henc) a secret auth h

/-- `X_Lookup` of a plain attribute (not vendor, not concat, no `encrypt=`) -/
theorem lookup_agrees (H : Hash) (d : Desc) (henc : d.encrypt = 0) (hv : d.vendorID = 0) (hc : d.kind ≠ .concat)
    (p : HPacket) (auth : Bytes) (h : Heap) :
    (hLookupH H d p auth h).1.view (hLookupH H d p auth h).2 =
      hLookup H d (p.view h).attrs (h.read p.secret) auth :=
  hLookupH_view H d henc hv hc p auth h

/-- two `X_Lookup` calls in a row show the caller the same value (plain attribute) -/
theorem repeat_lookup_same (H : Hash) (d : Desc) (henc : d.encrypt = 0) (hv : d.vendorID = 0) (hc : d.kind ≠ .concat)
    (p : HPacket) (auth : Bytes) (h : Heap) (hp : p.below h.length) :
    let r₁ := hLookupH H d p auth h
    let r₂ := hLookupH H d p auth r₁.2
    r₂.1.view r₂.2 = r₁.1.view r₁.2 :=
  (Obs.pureObs (obs_hLookupH H d p auth)).repeat_same p LookupResH.view
    (fun v => hLookup H d v.attrs v.secret auth) (fun g _ => hLookupH_view H d henc hv hc p auth g) h hp

/-! ### Value-level agreement for EVERY descriptor: `encrypt=1`, `encrypt=2`, vendor, concat

    The mirrors of `radius.UserPassword` (`dec = hash.Sum(dec)` appended in place, `dec[i+j] ^= b`
    stored in place, result `dec[:n]`), of `radius.TunnelPassword` (salt copy, plaintext buffer
    written in place, result `plaintext[1:1+n]`), of `_GetsVendor` / `_LookupVendor` (sub-slices of
    `radius.VendorSpecific`'s copy) and of the concat `X_Lookup` (`value = append(value, i...)`) compute,
    in buffers they allocate, exactly the bytes of the total models.  `hH`: the hash has 16-octet
    digests (MD5).  `hp`: the packet's slices point into existing buffers. -/

/-- the typed password decoders, read through the slice they return -/
theorem password_decoders_agree (H : Hash) (hH : ∀ x, (H x).length = 16) (a secret : Slice) (auth : Bytes) (h : Heap) :
    viewRes (userPasswordH H a secret auth h).2 (userPasswordH H a secret auth h).1 =
      userPassword H (h.read a) (h.read secret) auth ∧
    viewRes (tpPlainH H a secret auth h).2 (tpPlainH H a secret auth h).1 =
      tpPlain H (h.read a) (h.read secret) auth :=
  ⟨(userPasswordH_shows H hH a secret auth h).1, (tpPlainH_shows H hH a secret auth h).1⟩

/-- the body of every generated getter, every `encrypt=` -/
theorem decodeValue_agrees_all (H : Hash) (hH : ∀ x, (H x).length = 16) (d : Desc) (a secret : Slice)
    (auth : Bytes) (h : Heap) :
    viewDec (decodeValueH H d a secret auth h).2 (decodeValueH H d a secret auth h).1 =
      decodeValue H d (h.read a) (h.read secret) auth :=
  decodeValueH_view H d (.inr hH) a secret auth h

/-- `_GetsVendor` / `_LookupVendor`: the returned slices, read after the call, are the model's values -/
theorem vendor_walkers_agree (vid : Nat) (typ : UInt8) (p : HPacket) (h : Heap) (hp : p.below h.length) :
    (getsVendorH vid typ p.attrs h).1.map (getsVendorH vid typ p.attrs h).2.read =
      getsVendor vid typ (p.view h).attrs ∧
    ((lookupVendorH vid typ p.attrs h).1).map (lookupVendorH vid typ p.attrs h).2.read =
      lookupVendor vid typ (p.view h).attrs := by
  have h1 : (getsVendorH vid typ p.attrs h).1.map (getsVendorH vid typ p.attrs h).2.read =
      getsVendor vid typ (p.view h).attrs := getsVendorH_view vid typ p.attrs h hp.2
  refine ⟨h1, ?_⟩
  unfold lookupVendor
  rw [← h1]
  show ((getsVendorH vid typ p.attrs h).1.head?).map (getsVendorH vid typ p.attrs h).2.read = _
  rw [List.head?_map]

/-- `X_Lookup` of EVERY attribute descriptor — vendor or not, `encrypt` 0 / 1 / 2, concat included:
    what the caller reads through the returned slices is the total model's answer -/
theorem lookup_agrees_all (H : Hash) (hH : ∀ x, (H x).length = 16) (d : Desc) (p : HPacket) (auth : Bytes)
    (h : Heap) (hp : p.below h.length) :
    (hLookupH H d p auth h).1.view (hLookupH H d p auth h).2 =
      hLookup H d (p.view h).attrs (h.read p.secret) auth :=
  hLookupH_view_all H hH d p auth h hp

/-- two `X_Lookup` calls in a row show the caller the same value, for every descriptor -/
theorem repeat_lookup_same_all (H : Hash) (hH : ∀ x, (H x).length = 16) (d : Desc) (p : HPacket) (auth : Bytes)
    (h : Heap) (hp : p.below h.length) :
    let r₁ := hLookupH H d p auth h
    let r₂ := hLookupH H d p auth r₁.2
    r₂.1.view r₂.2 = r₁.1.view r₁.2 :=
  (Obs.pureObs (obs_hLookupH H d p auth)).repeat_same p LookupResH.view
    (fun v => hLookup H d v.attrs v.secret auth) (hLookupH_view_all H hH d p auth) h hp

/-- the answer of the second `X_Lookup` is the model's answer on the ORIGINAL packet -/
theorem repeat_lookup_is_model (H : Hash) (hH : ∀ x, (H x).length = 16) (d : Desc) (p : HPacket) (auth : Bytes)
    (h : Heap) (hp : p.below h.length) :
    let r₁ := hLookupH H d p auth h
    let r₂ := hLookupH H d p auth r₁.2
    r₂.1.view r₂.2 = hLookup H d (p.view h).attrs (h.read p.secret) auth := by
  intro r₁ r₂
  exact (repeat_lookup_same_all H hH d p auth h hp).trans (hLookupH_view_all H hH d p auth h hp)

/-! ### `X_Gets` for EVERY descriptor

    `X_Gets` decodes the stored values one after the other, and every round allocates.  The caller
    reads ALL returned values in the heap the call leaves, i.e. an early value is read after later
    rounds have run.  `hp`: the packet's slices point into existing buffers; `hH`: 16-octet digests. -/

/-- `X_Gets` of EVERY attribute descriptor — vendor or not, `encrypt` 0 / 1 / 2: the list of
    (tag, value) pairs the caller reads through the returned slices in the FINAL heap, and the success
    flag, are the total model's answer -/
theorem gets_agrees_all (H : Hash) (hH : ∀ x, (H x).length = 16) (d : Desc) (p : HPacket) (auth : Bytes)
    (h : Heap) (hp : p.below h.length) :
    ((hGetsH H d p auth h).1.1.map (fun tv => (tv.1, tv.2.view (hGetsH H d p auth h).2)),
      (hGetsH H d p auth h).1.2) =
      hGets H d (p.view h).attrs (h.read p.secret) auth :=
  hGetsH_view_all H hH d p auth h hp

/-- two `X_Gets` calls in a row show the caller the same list, for every descriptor -/
theorem repeat_gets_same_all (H : Hash) (hH : ∀ x, (H x).length = 16) (d : Desc) (p : HPacket) (auth : Bytes)
    (h : Heap) (hp : p.below h.length) :
    let r₁ := hGetsH H d p auth h
    let r₂ := hGetsH H d p auth r₁.2
    (r₂.1.1.map (fun tv => (tv.1, tv.2.view r₂.2)), r₂.1.2) =
      (r₁.1.1.map (fun tv => (tv.1, tv.2.view r₁.2)), r₁.1.2) :=
  (Obs.pureObs (obs_hGetsH H d p auth)).repeat_same p viewGets
    (fun v => hGets H d v.attrs v.secret auth) (hGetsH_view_all H hH d p auth) h hp

/-- the list of the second `X_Gets` is the model's answer on the ORIGINAL packet -/
theorem repeat_gets_is_model (H : Hash) (hH : ∀ x, (H x).length = 16) (d : Desc) (p : HPacket) (auth : Bytes)
    (h : Heap) (hp : p.below h.length) :
    let r₁ := hGetsH H d p auth h
    let r₂ := hGetsH H d p auth r₁.2
    (r₂.1.1.map (fun tv => (tv.1, tv.2.view r₂.2)), r₂.1.2) =
      hGets H d (p.view h).attrs (h.read p.secret) auth := by
  intro r₁ r₂
  exact (repeat_gets_same_all H hH d p auth h hp).trans (hGetsH_view_all H hH d p auth h hp)

/-- every slice `X_Gets` (and the decode body) returns lies in a buffer that exists in the heap the
    call leaves — together with `results_fresh`: in a buffer the call allocated -/
theorem results_in_bounds (H : Hash) (d : Desc) (p : HPacket) (a s : Slice) (auth : Bytes) (h : Heap) :
    (∀ x ∈ slices (decodeValueH H d a s auth h).1, x.buf < (decodeValueH H d a s auth h).2.length) ∧
    (∀ x ∈ slices (hGetsH H d p auth h).1, x.buf < (hGetsH H d p auth h).2.length) :=
  ⟨Obs.bound (obs_decodeValueH H d a s auth) h, Obs.bound (obs_hGetsH H d p auth) h⟩

/-- monotonicity: a value whose slices lie in existing buffers reads the same in every later heap
    that left those buffers alone — in particular after any further pure observer -/
theorem value_stable_under_pure {α} (v : GValH) (g : Heap) (hv : ∀ s ∈ slices v, s.buf < g.length)
    (m : M α) (hm : PureObs m) : v.view (m g).2 = v.view g :=
  GValH.view_ext (hm g) v hv

/-- the list the FIRST `X_Gets` returned is not disturbed by any later pure observer (a second
    `X_Gets`, a `Parse`, an `Encode`, …): read afterwards, it shows the same values -/
theorem gets_result_stable {α} (H : Hash) (d : Desc) (p : HPacket) (auth : Bytes) (h : Heap)
    (m : M α) (hm : PureObs m) :
    let r₁ := hGetsH H d p auth h
    r₁.1.1.map (fun tv => (tv.1, tv.2.view (m r₁.2).2)) = r₁.1.1.map (fun tv => (tv.1, tv.2.view r₁.2)) := by
  intro r₁
  exact congrArg Prod.fst (viewGets_ext (hm _) _ (Obs.bound (obs_hGetsH H d p auth) h))

/-! ### `X_Get`, `X_LookupString`, `X_GetString`, `X_GetStrings`

    `X_Get` is emitted as `tag, value, _ = X_Lookup(p)`: the named results of `X_Lookup` at its
    `return`, error dropped.  `hGetH` mirrors exactly that (`none` = the zero value of the Go result
    type, which refers to no buffer); `getView` is what the caller sees.  The string flavours use
    `radius.String` / `string(b)` — a new immutable string per conversion. -/

theorem getters_pure_and_fresh (H : Hash) (d : Desc) (p : HPacket) (a s : Slice) (auth : Bytes) :
    PureObs (lookupResultsH H d a s auth) ∧ PureObs (hGetH H d p auth) ∧
    PureObs (lookupStringBodyH H d a s auth) ∧ PureObs (hLookupStringH H d p auth) ∧
    PureObs (hGetStringH H d p auth) ∧ PureObs (hGetStringsH H d p auth) ∧
    FreshObs (lookupResultsH H d a s auth) ∧ FreshObs (hGetH H d p auth) ∧
    FreshObs (lookupStringBodyH H d a s auth) ∧ FreshObs (hLookupStringH H d p auth) ∧
    FreshObs (hGetStringH H d p auth) ∧ FreshObs (hGetStringsH H d p auth) :=
  ⟨Obs.pureObs (obs_lookupResultsH H d a s auth), Obs.pureObs (obs_hGetH H d p auth),
   Obs.pureObs (obs_lookupStringBodyH H d a s auth), Obs.pureObs (obs_hLookupStringH H d p auth),
   Obs.pureObs (obs_hGetStringH H d p auth), Obs.pureObs (obs_hGetStringsH H d p auth),
   Obs.freshObs (obs_lookupResultsH H d a s auth), Obs.freshObs (obs_hGetH H d p auth),
   Obs.freshObs (obs_lookupStringBodyH H d a s auth), Obs.freshObs (obs_hLookupStringH H d p auth),
   Obs.freshObs (obs_hGetStringH H d p auth), Obs.freshObs (obs_hGetStringsH H d p auth)⟩

/-- the named results of `X_Lookup` once the attribute was found (what `X_Get` hands on), every
    descriptor, error paths included -/
theorem lookupResults_agree_all (H : Hash) (hH : ∀ x, (H x).length = 16) (d : Desc) (a secret : Slice)
    (auth : Bytes) (h : Heap) :
    getView d.kind (lookupResultsH H d a secret auth h).2 (lookupResultsH H d a secret auth h).1 =
      lookupResults H d (h.read a) (h.read secret) auth :=
  lookupResultsH_view_all H hH d a secret auth h

/-- `X_Get` of EVERY attribute descriptor: what the caller reads is the total model's `hGet` — also
    when the attribute is absent or undecodable -/
theorem get_agrees_all (H : Hash) (hH : ∀ x, (H x).length = 16) (d : Desc) (p : HPacket) (auth : Bytes)
    (h : Heap) (hp : p.below h.length) :
    getView d.kind (hGetH H d p auth h).2 (hGetH H d p auth h).1 =
      hGet H d (p.view h).attrs (h.read p.secret) auth :=
  hGetH_view_all H hH d p auth h hp

theorem repeat_get_same_all (H : Hash) (hH : ∀ x, (H x).length = 16) (d : Desc) (p : HPacket) (auth : Bytes)
    (h : Heap) (hp : p.below h.length) :
    let r₁ := hGetH H d p auth h
    let r₂ := hGetH H d p auth r₁.2
    getView d.kind r₂.2 r₂.1 = getView d.kind r₁.2 r₁.1 :=
  (Obs.pureObs (obs_hGetH H d p auth)).repeat_same p (getView d.kind)
    (fun v => hGet H d v.attrs v.secret auth) (hGetH_view_all H hH d p auth) h hp

theorem repeat_get_is_model (H : Hash) (hH : ∀ x, (H x).length = 16) (d : Desc) (p : HPacket) (auth : Bytes)
    (h : Heap) (hp : p.below h.length) :
    let r₁ := hGetH H d p auth h
    let r₂ := hGetH H d p auth r₁.2
    getView d.kind r₂.2 r₂.1 = hGet H d (p.view h).attrs (h.read p.secret) auth := by
  intro r₁ r₂
  exact (repeat_get_same_all H hH d p auth h hp).trans (hGetH_view_all H hH d p auth h hp)

/-- `X_LookupString` and `X_GetString`, every descriptor (they are emitted for string / octets /
    concat attributes; `""` is the zero value) -/
theorem string_getters_agree_all (H : Hash) (hH : ∀ x, (H x).length = 16) (d : Desc) (p : HPacket) (auth : Bytes)
    (h : Heap) (hp : p.below h.length) :
    (hLookupStringH H d p auth h).1.view (hLookupStringH H d p auth h).2 =
      hLookupString H d (p.view h).attrs (h.read p.secret) auth ∧
    getView .string (hGetStringH H d p auth h).2 (hGetStringH H d p auth h).1 =
      hGetString H d (p.view h).attrs (h.read p.secret) auth :=
  ⟨hLookupStringH_view_all H hH d p auth h hp, hGetStringH_view_all H hH d p auth h hp⟩

/-- `X_GetStrings` (text kinds): the list read in the final heap and the success flag -/
theorem get_strings_agrees_all (H : Hash) (hH : ∀ x, (H x).length = 16) (d : Desc)
    (hk : d.kind = .string ∨ d.kind = .octets ∨ d.kind = .concat) (p : HPacket) (auth : Bytes)
    (h : Heap) (hp : p.below h.length) :
    ((hGetStringsH H d p auth h).1.1.map (fun tv => (tv.1, tv.2.view (hGetStringsH H d p auth h).2)),
      (hGetStringsH H d p auth h).1.2) =
      hGetStrings H d (p.view h).attrs (h.read p.secret) auth :=
  hGetStringsH_view_all H hH d hk p auth h hp

/-- the string flavours answer the same when asked again -/
theorem repeat_string_getters_same_all (H : Hash) (hH : ∀ x, (H x).length = 16) (d : Desc) (p : HPacket)
    (auth : Bytes) (h : Heap) (hp : p.below h.length) :
    (let r₁ := hLookupStringH H d p auth h
     let r₂ := hLookupStringH H d p auth r₁.2
     r₂.1.view r₂.2 = r₁.1.view r₁.2) ∧
    (let r₁ := hGetStringH H d p auth h
     let r₂ := hGetStringH H d p auth r₁.2
     getView .string r₂.2 r₂.1 = getView .string r₁.2 r₁.1) ∧
    (d.kind = .string ∨ d.kind = .octets ∨ d.kind = .concat →
     let r₁ := hGetStringsH H d p auth h
     let r₂ := hGetStringsH H d p auth r₁.2
     (r₂.1.1.map (fun tv => (tv.1, tv.2.view r₂.2)), r₂.1.2) =
       (r₁.1.1.map (fun tv => (tv.1, tv.2.view r₁.2)), r₁.1.2)) :=
  ⟨(Obs.pureObs (obs_hLookupStringH H d p auth)).repeat_same p LookupResH.view
      (fun v => hLookupString H d v.attrs v.secret auth) (hLookupStringH_view_all H hH d p auth) h hp,
   (Obs.pureObs (obs_hGetStringH H d p auth)).repeat_same p (getView .string)
      (fun v => hGetString H d v.attrs v.secret auth) (hGetStringH_view_all H hH d p auth) h hp,
   fun hk => (Obs.pureObs (obs_hGetStringsH H d p auth)).repeat_same p viewGets
      (fun v => hGetStrings H d v.attrs v.secret auth) (hGetStringsH_view_all H hH d hk p auth) h hp⟩

/-- The PREVIOUS tagged-integer getter (`a[0] = 0x00` stored through the slice `p.Lookup` returned):
    there is a packet on which one `X_Lookup` call changes the packet. -/
theorem old_tagged_int_lookup_writes_packet :
    ∃ (h : Heap) (p : HPacket), p.below h.length ∧
      (oldTaggedIntLookupH 64 4 p h).1 = .ok (5, 7) ∧
      p.view (oldTaggedIntLookupH 64 4 p h).2 ≠ p.view h ∧
      (oldTaggedIntLookupH 64 4 p (oldTaggedIntLookupH 64 4 p h).2).1 = .ok (0, 7) :=
  ⟨histHeap, histPacket, histPacket_below, by decide, old_lookup_changes_view, by decide⟩

/-- the previous getter is not a pure observer -/
theorem old_tagged_int_lookup_not_pure : ¬ PureObs (oldTaggedIntLookupH 64 4 histPacket) := by
  intro hp
  exact old_lookup_changes_view (hp.packet_unchanged histHeap histPacket histPacket_below)

theorem new_tagged_int_lookup_pure (typ : Int) (w : Nat) (p : HPacket) : PureObs (taggedIntLookupH typ w p) :=
  taggedIntLookupH_pure typ w p

example : (taggedIntLookupH 64 4 histPacket histHeap).1 = .ok (5, 7) := new_lookup_on_hist.1
example : (taggedIntLookupH 64 4 histPacket (taggedIntLookupH 64 4 histPacket histHeap).2).1 = .ok (5, 7) :=
  new_lookup_on_hist.2.2

/-- list `Get` / `Lookup` returns a view of the packet; that is allowed, and the model shows it -/
example : lookupRaw histPacket.attrs 64 = some ⟨1, 0, 4⟩ ∧
    histPacket.view (histHeap.write ⟨1, 0, 4⟩ 3 9) ≠ histPacket.view histHeap := raw_lookup_is_view

/-! ### Non-vacuity of `lookup_agrees_all` (vendor, `encrypt=1`, concat): concrete heaps -/

def zh : Hash := fun _ => zeros 16
theorem zh_len : ∀ x, (zh x).length = 16 := fun _ => by simp [zh, zeros]

/-- buffer 0: the secret; buffer 1: a Vendor-Specific attribute of vendor 9 with sub-attributes
    (1, AA BB) and (2, CC); buffer 2: a User-Password style attribute (type 2) holding "ab" under `zh`;
    buffers 3, 4: two chunks of a concat attribute (type 79) -/
def exHeap : Heap :=
  [[0x73], [0, 0, 0, 9, 1, 4, 0xAA, 0xBB, 2, 3, 0xCC], [0x61, 0x62, 0, 0, 0, 0, 0, 0, 0, 0, 0, 0, 0, 0, 0, 0],
   [1, 2], [3]]
def exPacket : HPacket :=
  ⟨1, 7, zeros 16, ⟨0, 0, 1⟩, [(26, ⟨1, 0, 11⟩), (2, ⟨2, 0, 16⟩), (79, ⟨3, 0, 2⟩), (79, ⟨4, 0, 1⟩)]⟩

theorem exPacket_below : exPacket.below exHeap.length := by
  refine ⟨by decide, ?_⟩
  intro ts hts
  simp only [exPacket, List.mem_cons, List.not_mem_nil, or_false] at hts
  rcases hts with rfl | rfl | rfl | rfl <;> decide

/-- a vendor attribute: the value is read out of `radius.VendorSpecific`'s copy -/
example : (hLookupH zh ⟨26, 9, 1, .octets, false, 0, none⟩ exPacket (zeros 16) exHeap).1.view
    (hLookupH zh ⟨26, 9, 1, .octets, false, 0, none⟩ exPacket (zeros 16) exHeap).2 =
    .val 0 (.bytes [0xAA, 0xBB]) := by
  rw [lookup_agrees_all zh zh_len _ _ _ _ exPacket_below]; decide +kernel

/-- an `encrypt=1` attribute: decrypted in a buffer of its own -/
example : (hLookupH zh ⟨2, 0, 0, .string, false, 1, none⟩ exPacket (zeros 16) exHeap).1.view
    (hLookupH zh ⟨2, 0, 0, .string, false, 1, none⟩ exPacket (zeros 16) exHeap).2 =
    .val 0 (.bytes [0x61, 0x62]) := by
  rw [lookup_agrees_all zh zh_len _ _ _ _ exPacket_below]; decide +kernel

/-- a concat attribute: all occurrences appended into a new buffer; the packet's buffers are as
    before, and storing through the result does not reach them -/
example : (hLookupH zh ⟨79, 0, 0, .concat, false, 0, none⟩ exPacket (zeros 16) exHeap).1.view
    (hLookupH zh ⟨79, 0, 0, .concat, false, 0, none⟩ exPacket (zeros 16) exHeap).2 =
    .val 0 (.bytes [1, 2, 3]) := by
  rw [lookup_agrees_all zh zh_len _ _ _ _ exPacket_below]; decide +kernel
example : (hLookupH zh ⟨79, 0, 0, .concat, false, 0, none⟩ exPacket (zeros 16) exHeap).2 =
    exHeap ++ [[1, 2, 3], [1, 2], [3]] := by decide +kernel
example : slices (hLookupH zh ⟨79, 0, 0, .concat, false, 0, none⟩ exPacket (zeros 16) exHeap).1 = [⟨5, 0, 3⟩] := by
  decide +kernel

/-! ### Non-vacuity of `gets_agrees_all`, `get_agrees_all`, `string_getters_agree_all` on the same heap -/

/-- `X_Gets` over the two occurrences of attribute 79 read as plain octets: two values, each in a
    buffer of its own, both read in the final heap -/
example : ((hGetsH zh ⟨79, 0, 0, .octets, false, 0, none⟩ exPacket (zeros 16) exHeap).1.1.map
      (fun tv => (tv.1, tv.2.view (hGetsH zh ⟨79, 0, 0, .octets, false, 0, none⟩ exPacket (zeros 16) exHeap).2)),
    (hGetsH zh ⟨79, 0, 0, .octets, false, 0, none⟩ exPacket (zeros 16) exHeap).1.2) =
    ([(0, .bytes [1, 2]), (0, .bytes [3])], true) := by
  rw [gets_agrees_all zh zh_len _ _ _ _ exPacket_below]; decide +kernel
example : slices (hGetsH zh ⟨79, 0, 0, .octets, false, 0, none⟩ exPacket (zeros 16) exHeap).1 =
    [⟨5, 0, 2⟩, ⟨6, 0, 1⟩] := by decide +kernel

/-- `X_Gets` stops at the first undecodable value: `octets[2]` accepts the first occurrence only -/
example : ((hGetsH zh ⟨79, 0, 0, .octets, false, 0, some 2⟩ exPacket (zeros 16) exHeap).1.1.map
      (fun tv => (tv.1, tv.2.view (hGetsH zh ⟨79, 0, 0, .octets, false, 0, some 2⟩ exPacket (zeros 16) exHeap).2)),
    (hGetsH zh ⟨79, 0, 0, .octets, false, 0, some 2⟩ exPacket (zeros 16) exHeap).1.2) =
    ([(0, .bytes [1, 2])], false) := by
  rw [gets_agrees_all zh zh_len _ _ _ _ exPacket_below]; decide +kernel

/-- `X_Get` on an error path: a tagged integer of the wrong length — the tag octet stripped before
    the failing decode is kept, the value is 0; nothing in the packet was touched -/
example : getView .integer (hGetH zh ⟨79, 0, 0, .integer, true, 0, none⟩ exPacket (zeros 16) exHeap).2
    (hGetH zh ⟨79, 0, 0, .integer, true, 0, none⟩ exPacket (zeros 16) exHeap).1 = (1, .nat 0) :=
  (get_agrees_all zh zh_len ⟨79, 0, 0, .integer, true, 0, none⟩ exPacket (zeros 16) exHeap exPacket_below).trans
    (by decide +kernel)
example : exPacket.view (hGetH zh ⟨79, 0, 0, .integer, true, 0, none⟩ exPacket (zeros 16) exHeap).2 =
    exPacket.view exHeap := by decide +kernel

/-- `X_Get` of an absent attribute: the zero value (a nil `*net.IPNet`), no buffer -/
example : getView .ipv6prefix (hGetH zh ⟨5, 0, 0, .ipv6prefix, false, 0, none⟩ exPacket (zeros 16) exHeap).2
    (hGetH zh ⟨5, 0, 0, .ipv6prefix, false, 0, none⟩ exPacket (zeros 16) exHeap).1 = (0, .pfx none) :=
  (get_agrees_all zh zh_len ⟨5, 0, 0, .ipv6prefix, false, 0, none⟩ exPacket (zeros 16) exHeap exPacket_below).trans
    (by decide +kernel)
example : slices (hGetH zh ⟨5, 0, 0, .ipv6prefix, false, 0, none⟩ exPacket (zeros 16) exHeap).1 = [] := by
  decide +kernel

/-- `X_GetString` of an `encrypt=1` attribute: the decryption buffer, then a string made from it -/
example : getView .string (hGetStringH zh ⟨2, 0, 0, .string, false, 1, none⟩ exPacket (zeros 16) exHeap).2
    (hGetStringH zh ⟨2, 0, 0, .string, false, 1, none⟩ exPacket (zeros 16) exHeap).1 = (0, .bytes [0x61, 0x62]) := by
  rw [(string_getters_agree_all zh zh_len _ _ _ _ exPacket_below).2]; decide +kernel
example : slices (hGetStringH zh ⟨2, 0, 0, .string, false, 1, none⟩ exPacket (zeros 16) exHeap).1 = [⟨6, 0, 2⟩] := by
  decide +kernel

end RV.C13
