/-
  C06 — The server dispatches exactly the authentic, non-duplicate requests and answers them.
  About the datagram pipeline (`classify`) and the dedup table of RV.Model.Server, for every
  schedule and any number of datagrams; the reply's authenticator goes through C03.
  Trace-level statements (`handler_only_if_parsed`, `handler_start_once_and_fresh`, `request_carries`,
  `reply_on_receiving_socket`, `exactly_once_per_datagram`) are about the log of every reachable state:
  which step of the schedule an event came from and what the goroutine had captured (`St.origin`).

  `reply_answers_its_request` links every `reply` of the log to the `recv` that spawned its goroutine, to the
  request handed over and to `reply_authentic`; `keeps_serving` is the "keeps serving" clause of C02; the
  `fine_…` theorems state the trace-level clauses for the machine RV.Model.Server2 in which `ReadFrom`
  returning and the `go` statement are separate steps.
-/
import RV.Model.Server
import RV.Model.Server2
import RV.Proofs.Server
import RV.Proofs.Server2
namespace RV.C06
open RV RV.Server

/-- A datagram reaches the dedup stage iff the secret source yields a non-empty secret, the
    request is authentic under it (unless checking is disabled) and it parses; the packet handed
    on is that parse, carrying that secret; the key is (source, identifier). -/
theorem classify_handle_iff (H : Hash) (cfg : Cfg) (peer : Nat) (d : Bytes) (key : Key) (p : Packet) :
    classify H cfg peer d = .handle key p ↔
      ∃ s, cfg.secretOf peer = .secret s ∧ s ≠ [] ∧
        (cfg.skipVerify = true ∨ isAuthenticRequest H d s = true) ∧
        parse d s = .ok p ∧ key = (peer, p.id) := by
  exact classify_handle_iff' H cfg peer d key p

/-- the request handed to the handler carries the parsed packet and that secret -/
theorem request_fields (H : Hash) (cfg : Cfg) (peer : Nat) (d : Bytes) (key : Key) (p : Packet)
    (h : classify H cfg peer d = .handle key p) :
    ∃ s, cfg.secretOf peer = .secret s ∧ parse d s = .ok p ∧ p.secret = s := by
  obtain ⟨s, hs, _, _, hp, _⟩ := (classify_handle_iff' H cfg peer d key p).mp h
  exact ⟨s, hs, hp, (parse_secret hp).1⟩

/-- The key under which a request is in flight names its source address: requests of different peers
    never share a key, whatever their identifiers (two clients behind one host differ in their port,
    hence in their source address, hence here). -/
theorem key_names_the_peer (H : Hash) (cfg : Cfg) (peer : Nat) (d : Bytes) (key : Key) (p : Packet)
    (h : classify H cfg peer d = .handle key p) : key = (peer, p.id) := by
  obtain ⟨_, _, _, _, _, hk⟩ := (classify_handle_iff' H cfg peer d key p).mp h
  exact hk

theorem different_peers_different_keys (H : Hash) (cfg : Cfg) (peer peer' : Nat) (d d' : Bytes)
    (key key' : Key) (p p' : Packet) (hne : peer ≠ peer')
    (h : classify H cfg peer d = .handle key p) (h' : classify H cfg peer' d' = .handle key' p') :
    key ≠ key' := by
  rw [key_names_the_peer H cfg peer d key p h, key_names_the_peer H cfg peer' d' key' p' h']
  intro e; exact hne (congrArg Prod.fst e)

/-- The handler is invoked for a datagram goroutine iff its datagram passed the pipeline and its
    key is not in flight on that Serve call; every other datagram is dropped without the handler. -/
theorem handler_iff (H : Hash) (cfg : Cfg) (s : St) (t i : Nat) (fate : Fate)
    (ht : s.tasks[t]? = some ⟨i, .spawned fate⟩) :
    (∃ s' key, step H cfg s (.taskRun t) = some s' ∧ s'.tasks[t]? = some ⟨i, .inHandler key⟩) ↔
    (∃ key p, fate = .handle key p ∧ key ∉ s.inflight.getD i []) := by
  have htl := lt_of_getElem?_eq_some ht
  constructor
  · rintro ⟨s', key, hs, hk⟩
    cases taskStep_of_step hs (.inl ⟨_, rfl⟩) with
    | handle ht' hn => rw [ht] at ht'; cases ht'; exact ⟨_, _, rfl, hn⟩
    | drop ht' =>
      rw [activeDone_eq] at hk
      simp [htl] at hk
  · rintro ⟨key, p, rfl, hn⟩
    exact ⟨_, key, (TaskStep.handle ht hn).step, by simp [htl]⟩

/-- Every other datagram is dropped without the handler being invoked (in every state reachable in
    the tree's variant; for arbitrary unreachable states the log could additionally record a double
    close — `RV.Server.dropped_otherwise_false` — which `C07.closes_le_one` excludes). -/
theorem dropped_otherwise (H : Hash) (cfg : Cfg) (hv : cfg.variant = .fixed) (conns : List Nat) (nD : Nat)
    (ls : List Label) (t i : Nat) (fate : Fate)
    (ht : (run H cfg (initWith conns nD) ls).tasks[t]? = some (⟨i, .spawned fate⟩ : Task))
    (hn : ¬ ∃ key p, fate = .handle key p ∧ key ∉ (run H cfg (initWith conns nD) ls).inflight.getD i []) :
    ∃ s', step H cfg (run H cfg (initWith conns nD) ls) (.taskRun t) = some s' ∧
      s'.tasks[t]? = some (⟨i, .done⟩ : Task) ∧
      s'.log = (run H cfg (initWith conns nD) ls).log ++ [.dropped t] ∧
      s'.inflight = (run H cfg (initWith conns nD) ls).inflight := by
  have hI := InvF_run H cfg hv conns nD ls
  generalize run H cfg (initWith conns nD) ls = s at *
  refine ⟨_, (TaskStep.drop ht hn).step, ?_⟩
  -- the goroutine itself is still counted: `lastActive` is open, this `activeDone` closes it at most once
  have hc0 : s.closes = 0 := by
    have := live_pos ht (by simp)
    have := hI.cl1
    have : ¬ s.closes = 1 := fun hx => by have := hI.cl2.mp hx; omega
    omega
  rw [activeDone_eq]
  exact ⟨by simp [lt_of_getElem?_eq_some ht], by simp [closeEv, hc0], rfl⟩

/-- At most one handler per (Serve call, source, identifier), under every schedule: the dedup table
    has no duplicates and holds exactly the keys of the handlers that are running. -/
theorem at_most_one_inflight (H : Hash) (cfg : Cfg) (conns : List Nat) (nD : Nat) (ls : List Label) (i : Nat) :
    let s := run H cfg (initWith conns nD) ls
    (s.inflight.getD i []).Nodup ∧
    ∀ key, key ∈ s.inflight.getD i [] ↔ ∃ t : Nat, s.tasks[t]? = some (⟨i, .inHandler key⟩ : Task) := by
  have hI := InvG_run H cfg conns nD ls
  exact ⟨hI.nodup i, hI.mem i⟩

/-- Once a handler has returned, its key is free again: `taskFinish` is enabled for a running handler and removes its
    key from the dedup table of its Serve call (so that, by `handler_iff`, a later datagram with the same identifier
    from the same source gets the handler). -/
theorem released_after_return (H : Hash) (cfg : Cfg) (conns : List Nat) (nD : Nat) (ls : List Label) (t i : Nat) (key : Key)
    (ht : (run H cfg (initWith conns nD) ls).tasks[t]? = some ⟨i, .inHandler key⟩) :
    ∃ s', step H cfg (run H cfg (initWith conns nD) ls) (.taskFinish t) = some s' ∧ key ∉ s'.inflight.getD i [] := by
  have hI := InvG_run H cfg conns nD ls
  generalize run H cfg (initWith conns nD) ls = s at *
  refine ⟨_, (TaskStep.finish ht).step, ?_⟩
  have hil : i < s.inflight.length := by rw [hI.len]; exact hI.bound t _ ht
  rw [activeDone_eq]
  simp only [getD_set, hil, and_self, if_true]
  exact fun hm => (((hI.nodup i).mem_erase_iff).mp hm).1 rfl

/-- The handler never sees a packet the parser rejects (server clause of C02), in every reachable
    state and under every schedule: a `handlerStart t key` event in the log belongs to a goroutine
    that is in its handler or done, and that was spawned — as the `t`-th goroutine —
    by an enabled `serveRecv i peer d` step of the schedule whose datagram the pipeline classified
    `handle key p`: the secret source answered `peer` with a non-empty secret, the datagram is
    authentic under it (unless checking is disabled) and parses to `p`; the key is (source, identifier). -/
theorem handler_only_if_parsed (H : Hash) (cfg : Cfg) (conns : List Nat) (nD : Nat) (ls : List Label) (t : Nat) (key : Key)
    (h : Event.handlerStart t key ∈ (run H cfg (initWith conns nD) ls).log) :
    (∃ i, (run H cfg (initWith conns nD) ls).tasks[t]? = some ⟨i, .inHandler key⟩ ∨
          (run H cfg (initWith conns nD) ls).tasks[t]? = some ⟨i, .done⟩) ∧
    ∃ (i peer : Nat) (d : Bytes) (p : Packet),
      (∃ ls1 ls2 s1', ls = ls1 ++ Label.serveRecv i peer d :: ls2 ∧
          step H cfg (run H cfg (initWith conns nD) ls1) (.serveRecv i peer d) = some s1' ∧
          (run H cfg (initWith conns nD) ls1).tasks.length = t) ∧
      Event.recv t i peer d ∈ (run H cfg (initWith conns nD) ls).log ∧
      (run H cfg (initWith conns nD) ls).origin[t]? = some ⟨i, peer, d⟩ ∧
      classify H cfg peer d = .handle key p ∧
      ∃ sec, cfg.secretOf peer = .secret sec ∧ sec ≠ [] ∧
        (cfg.skipVerify = true ∨ isAuthenticRequest H d sec = true) ∧
        parse d sec = .ok p ∧ key = (peer, p.id) := by
  refine ⟨(InvG_run H cfg conns nD ls).log t key h, ?_⟩
  have hO := InvO_run H cfg conns nD ls
  obtain ⟨⟨i, peer, d⟩, p, ho, hcl, _⟩ := hO.hs t key h
  simp only at hcl
  have hrecv := (recv_mem_iff hO t i peer d).mpr ho
  obtain ⟨ls1, l, ls2, s1', hls, hst, _, hnew⟩ :=
    log_provenance H cfg _ ls (initWith conns nD) hrecv (by simp [initWith])
  obtain ⟨rfl, hlen⟩ := newEv_recv hnew
  exact ⟨i, peer, d, p, ⟨ls1, ls2, s1', hls, hst, hlen.symm⟩, hrecv, ho, hcl,
    (classify_handle_iff' H cfg peer d key p).mp hcl⟩

/-- how often the handler has been started for goroutine `t` (number of `handlerStart t _` events) -/
def handlerStarts (s : St) (t : Nat) : Nat := hsCount s t

/-- At most once per datagram, at trace level: in every reachable state the log holds at most one
    `handlerStart t _` event for any goroutine `t`. -/
theorem handler_start_at_most_once (H : Hash) (cfg : Cfg) (conns : List Nat) (nD : Nat) (ls : List Label) (t : Nat) :
    handlerStarts (run H cfg (initWith conns nD) ls) t ≤ 1 :=
  InvC_hsCount_le (InvC_run H cfg conns nD ls) t

/-- The handler is started once per goroutine and only while its key is free: a `handlerStart t key`
    event is the only `handlerStart t _` event of the log, and it was appended by a `taskRun t` step of
    the schedule taken in a state in which goroutine `t` had not yet run, its datagram had been classified
    `handle key p`, and `key` was NOT in the dedup table of its Serve call at that moment. -/
theorem handler_start_once_and_fresh (H : Hash) (cfg : Cfg) (conns : List Nat) (nD : Nat) (ls : List Label)
    (t : Nat) (key : Key)
    (h : Event.handlerStart t key ∈ (run H cfg (initWith conns nD) ls).log) :
    handlerStarts (run H cfg (initWith conns nD) ls) t = 1 ∧
    (∀ key', Event.handlerStart t key' ∈ (run H cfg (initWith conns nD) ls).log → key' = key) ∧
    ∃ ls1 ls2 i p s1', ls = ls1 ++ Label.taskRun t :: ls2 ∧
      (run H cfg (initWith conns nD) ls1).tasks[t]? = some ⟨i, .spawned (.handle key p)⟩ ∧
      key ∉ (run H cfg (initWith conns nD) ls1).inflight.getD i [] ∧
      (∀ k, Event.handlerStart t k ∉ (run H cfg (initWith conns nD) ls1).log) ∧
      step H cfg (run H cfg (initWith conns nD) ls1) (.taskRun t) = some s1' ∧
      s1'.tasks[t]? = some ⟨i, .inHandler key⟩ ∧ key ∈ s1'.inflight.getD i [] := by
  have hC := InvC_run H cfg conns nD ls
  refine ⟨?_, fun key' h' => hs_key_unique (InvO_run H cfg conns nD ls) h' h, ?_⟩
  · have h1 := hsCount_pos h
    have h2 := InvC_hsCount_le hC t
    simp only [handlerStarts]; omega
  · obtain ⟨ls1, l, ls2, s1', hls, hst, _, hnew⟩ :=
      log_provenance H cfg _ ls (initWith conns nD) h (by simp [initWith])
    obtain ⟨rfl, i, p, ht, hfree⟩ := newEv_handlerStart hnew
    refine ⟨ls1, ls2, i, p, s1', hls, ht, hfree, ?_, hst, ?_⟩
    · intro k hk
      obtain ⟨i', h1 | h1⟩ := (InvG_run H cfg conns nD ls1).log t k hk
      · rw [ht] at h1; cases h1
      · rw [ht] at h1; cases h1
    · have htl := lt_of_getElem?_eq_some ht
      have hil : i < (run H cfg (initWith conns nD) ls1).inflight.length := by
        rw [(InvG_run H cfg conns nD ls1).len]; exact (InvG_run H cfg conns nD ls1).bound t _ ht
      cases taskStep_of_step hst (.inl ⟨_, rfl⟩) with
      | handle ht' => rw [ht] at ht'; cases ht'; exact ⟨by simp [htl], by simp [hil]⟩
      | drop ht' hn => rw [ht] at ht'; cases ht'; exact absurd ⟨key, p, rfl, hfree⟩ hn

/-- Conversely (with `handler_iff`): in a reachable state a goroutine whose datagram was classified
    `handle key p` and whose key is free DOES get the handler when it runs — the step appends the
    request (parsed packet, the datagram's source address, the conn of the Serve call that read it,
    the server's context) and the `handlerStart` event, and puts the key in flight. -/
theorem handler_started_if_free (H : Hash) (cfg : Cfg) (conns : List Nat) (nD : Nat) (ls : List Label)
    (t i : Nat) (key : Key) (p : Packet)
    (ht : (run H cfg (initWith conns nD) ls).tasks[t]? = some ⟨i, .spawned (.handle key p)⟩)
    (hfree : key ∉ (run H cfg (initWith conns nD) ls).inflight.getD i []) :
    ∃ peer d s', (run H cfg (initWith conns nD) ls).origin[t]? = some ⟨i, peer, d⟩ ∧
      classify H cfg peer d = .handle key p ∧
      step H cfg (run H cfg (initWith conns nD) ls) (.taskRun t) = some s' ∧
      s'.tasks[t]? = some ⟨i, .inHandler key⟩ ∧
      s'.log = (run H cfg (initWith conns nD) ls).log ++
        [.request t p peer (conns.getD i 0) .server, .handlerStart t key] := by
  have hO := InvO_run H cfg conns nD ls
  obtain ⟨⟨i', peer, d⟩, ho, hio⟩ := origin_of_task hO ht
  simp only at hio; subst hio
  have hf := hO.fate t i _ _ ht ho
  simp only at hf
  refine ⟨peer, d, _, ho, hf.symm, (TaskStep.handle ht hfree).step, by simp [lt_of_getElem?_eq_some ht], ?_⟩
  simp only [peerOf_eq ho, connOf_run]

/-- The request handed to the handler: a `request` event carries the packet the datagram parses to
    under the peer's secret (with that secret), the datagram's source address as `RemoteAddr`, the
    conn of the Serve call that read the datagram as local address, and the server's context; and the
    handler was started for exactly this goroutine. -/
theorem request_carries (H : Hash) (cfg : Cfg) (conns : List Nat) (nD : Nat) (ls : List Label)
    (t : Nat) (p : Packet) (remote localConn : Nat) (ctx : Ctx)
    (h : Event.request t p remote localConn ctx ∈ (run H cfg (initWith conns nD) ls).log) :
    ∃ (i : Nat) (d : Bytes) (key : Key) (sec : Bytes),
      Event.recv t i remote d ∈ (run H cfg (initWith conns nD) ls).log ∧
      (run H cfg (initWith conns nD) ls).origin[t]? = some ⟨i, remote, d⟩ ∧
      classify H cfg remote d = .handle key p ∧
      cfg.secretOf remote = .secret sec ∧ parse d sec = .ok p ∧ p.secret = sec ∧
      localConn = conns.getD i 0 ∧ ctx = .server ∧
      Event.handlerStart t key ∈ (run H cfg (initWith conns nD) ls).log := by
  have hO := InvO_run H cfg conns nD ls
  obtain ⟨⟨i, peer, d⟩, key, ho, hcl, hpe, hc, hx, hhs⟩ := hO.req t p remote localConn ctx h
  simp only at hcl hc hpe
  subst hpe
  obtain ⟨sec, hs, _, _, hp, _⟩ := (classify_handle_iff' H cfg remote d key p).mp hcl
  rw [connOf_run] at hc
  exact ⟨i, d, key, sec, (recv_mem_iff hO t i remote d).mpr ho, ho, hcl, hs, hp, (parse_secret hp).1, hc, hx, hhs⟩

/-- every started handler was handed such a request -/
theorem handler_start_has_request (H : Hash) (cfg : Cfg) (conns : List Nat) (nD : Nat) (ls : List Label)
    (t : Nat) (key : Key)
    (h : Event.handlerStart t key ∈ (run H cfg (initWith conns nD) ls).log) :
    ∃ (i peer : Nat) (d : Bytes) (p : Packet),
      (run H cfg (initWith conns nD) ls).origin[t]? = some ⟨i, peer, d⟩ ∧
      Event.request t p peer (conns.getD i 0) .server ∈ (run H cfg (initWith conns nD) ls).log := by
  obtain ⟨⟨i, peer, d⟩, p, ho, _, hr⟩ := (InvO_run H cfg conns nD ls).hs t key h
  rw [connOf_run] at hr
  exact ⟨i, peer, d, p, ho, hr⟩

/-- the context of a request is the server's: once Shutdown has been requested it is cancelled -/
theorem request_ctx_cancelled_by_shutdown (H : Hash) (cfg : Cfg) (hv : cfg.variant = .fixed) (conns : List Nat)
    (nD : Nat) (ls : List Label) (t : Nat) (p : Packet) (remote localConn : Nat) (ctx : Ctx)
    (h : Event.request t p remote localConn ctx ∈ (run H cfg (initWith conns nD) ls).log)
    (hsd : (run H cfg (initWith conns nD) ls).sd = true) :
    (run H cfg (initWith conns nD) ls).ctxEnded ctx = true := by
  obtain ⟨_, _, _, _, _, _, hx, _⟩ := (InvO_run H cfg conns nD ls).req t p remote localConn ctx h
  subst hx
  exact ((InvF_run H cfg hv conns nD ls).sdc hsd).1

/-- The reply goes out on the receiving socket to the request's source address: every `reply` event
    of goroutine `t` names the conn of the Serve call that read `t`'s datagram and the address that
    datagram came from; it was written by a `taskReply t _ _` step while `t`'s handler was running.
    For what `w` is see `reply_answers_its_request`. -/
theorem reply_on_receiving_socket (H : Hash) (cfg : Cfg) (conns : List Nat) (nD : Nat) (ls : List Label)
    (t conn addr : Nat) (w : Bytes)
    (h : Event.reply t conn addr w ∈ (run H cfg (initWith conns nD) ls).log) :
    ∃ (i peer : Nat) (d : Bytes) (key : Key),
      Event.recv t i peer d ∈ (run H cfg (initWith conns nD) ls).log ∧
      (run H cfg (initWith conns nD) ls).origin[t]? = some ⟨i, peer, d⟩ ∧
      (∃ pc, (run H cfg (initWith conns nD) ls).tasks[t]? = some ⟨i, pc⟩) ∧
      conn = conns.getD i 0 ∧ addr = peer ∧
      Event.handlerStart t key ∈ (run H cfg (initWith conns nD) ls).log ∧
      ∃ ls1 ls2 code attrs, ls = ls1 ++ Label.taskReply t code attrs :: ls2 ∧
        (run H cfg (initWith conns nD) ls1).tasks[t]? = some ⟨i, .inHandler key⟩ := by
  have hO := InvO_run H cfg conns nD ls
  obtain ⟨⟨i, peer, d⟩, key, ho, ha, hc, hhs, _⟩ := hO.rep t conn addr w h
  simp only at ha hc
  rw [connOf_run] at hc
  have htl : t < (run H cfg (initWith conns nD) ls).tasks.length := by
    rw [← hO.len]; exact lt_of_getElem?_eq_some ho
  have htk := List.getElem?_eq_getElem htl
  have hserve := hO.serve t _ _ htk ho
  simp only at hserve
  obtain ⟨ls1, l, ls2, s1', hls, hst, _, hnew⟩ :=
    log_provenance H cfg _ ls (initWith conns nD) h (by simp [initWith])
  obtain ⟨code, attrs, rfl, i1, key1, ht1⟩ := newEv_reply hnew
  -- the goroutine that replied is in the handler whose start is in the log; same Serve call
  have hO1 := InvO_run H cfg conns nD ls1
  obtain ⟨o1, ho1, hio1⟩ := origin_of_task hO1 ht1
  simp only at hio1
  have hhs1 := hO1.inH t i1 key1 ht1
  have hhs1' : Event.handlerStart t key1 ∈ (run H cfg (initWith conns nD) ls).log := by
    rw [hls, run_append]
    exact run_log_mono H cfg _ _ _ hhs1
  have hk : key1 = key := hs_key_unique hO hhs1' hhs
  subst hk
  have hrecv1 : Event.recv t o1.serve o1.peer o1.dgram ∈ (run H cfg (initWith conns nD) ls).log := by
    rw [hls, run_append]
    exact run_log_mono H cfg _ _ _ ((recv_mem_iff hO1 t _ _ _).mpr ho1)
  have ho' := (recv_mem_iff hO t _ _ _).mp hrecv1
  rw [ho] at ho'
  have hi : i = o1.serve := by cases ho'; rfl
  refine ⟨i, peer, d, key1, (recv_mem_iff hO t i peer d).mpr ho, ho,
    ⟨((run H cfg (initWith conns nD) ls).tasks[t]).pc, ?_⟩, hc, ha, hhs, ls1, ls2, code, attrs, hls, ?_⟩
  · rw [htk]; congr 1
    cases hh : (run H cfg (initWith conns nD) ls).tasks[t] with
    | mk a b => rw [hh] at hserve; simp only at hserve; subst hserve; rfl
  · rw [hi, ← hio1]; exact ht1

/-- Exactly once per datagram, at trace level.  In every reachable state:
    * the goroutines are the enabled `serveRecv` steps the schedule took, one `recv` event each, in
      order, carrying what the goroutine captured;
    * for every goroutine `t` the numbers of `handlerStart t _`, `dropped t` and `handlerEnd t` events
      are: 0,0,0 before it runs; 1,0,0 while its handler runs; afterwards either the handler was
      started once and returned once, or the datagram was dropped once — never both, never twice. -/
theorem exactly_once_per_datagram (H : Hash) (cfg : Cfg) (conns : List Nat) (nD : Nat) (ls : List Label) :
    let s := run H cfg (initWith conns nD) ls
    s.tasks.length = recvSteps H cfg (initWith conns nD) ls ∧
    (s.log.filter isRecv).length = s.tasks.length ∧
    s.log.filter isRecv = s.origin.mapIdx recvOf ∧
    ∀ t, handlerStarts s t ≤ 1 ∧
      countSpec (s.tasks[t]?.map (·.pc)) (handlerStarts s t) (dropCount s t) (endCount s t) := by
  have hO := InvO_run H cfg conns nD ls
  have hC := InvC_run H cfg conns nD ls
  refine ⟨?_, ?_, hO.recvs, fun t => ⟨InvC_hsCount_le hC t, hC t⟩⟩
  · have := tasks_length_run H cfg ls (initWith conns nD)
    simpa [initWith] using this
  · rw [hO.recvs, List.length_mapIdx, hO.len]

/-- A reply written by the handler (Response of the request, any attributes, a reply code) encodes
    with a response authenticator that is valid for the request datagram under the peer's secret. -/
theorem reply_authentic (H : Hash) (hH : ∀ x, (H x).length = 16) (cfg : Cfg) (peer : Nat) (d : Bytes)
    (key : Key) (p : Packet) (code : Int) (attrs : Attrs) (w : Bytes)
    (h : classify H cfg peer d = .handle key p)
    (hc : Rfc.encClass code = .hashReqAuth)
    (he : encode H { response p code with attrs := attrs } = .ok w) :
    isAuthenticResponse H w d p.secret = true := by
  exact reply_authentic' H hH cfg peer d key p code attrs w h hc he

/-- The reply, at trace level.  Every `reply` event in the log of a reachable state — `conn.WriteTo(w, addr)`
    on socket `conn` — belongs to a goroutine `t` whose `recv` event is in the log (datagram `d` from `peer`,
    read by Serve call `i`), and
    * its destination is that datagram's source address, its socket the conn that received the datagram;
    * the handler of `t` was started, with a `request` event carrying the packet `p` that `d` parses to
      under the secret `sec` the secret source gave for `peer` (non-empty), that peer and that conn;
    * the octets `w` are the encoding of `p.Response(code)` with the handler's attributes, for some `code`
      and `attrs` (the handler's choice: label `taskReply t code attrs`);
    * so (with `reply_authentic`, i.e. C03) for every reply code `w` carries a Response Authenticator that
      is valid for the request DATAGRAM `d` under `sec`. -/
theorem reply_answers_its_request (H : Hash) (hH : ∀ x, (H x).length = 16) (cfg : Cfg) (conns : List Nat)
    (nD : Nat) (ls : List Label) (t conn addr : Nat) (w : Bytes)
    (h : Event.reply t conn addr w ∈ (run H cfg (initWith conns nD) ls).log) :
    ∃ (i peer : Nat) (d : Bytes) (key : Key) (p : Packet) (sec : Bytes) (code : Int) (attrs : Attrs),
      Event.recv t i peer d ∈ (run H cfg (initWith conns nD) ls).log ∧
      addr = peer ∧ conn = conns.getD i 0 ∧
      Event.request t p peer (conns.getD i 0) .server ∈ (run H cfg (initWith conns nD) ls).log ∧
      Event.handlerStart t key ∈ (run H cfg (initWith conns nD) ls).log ∧
      classify H cfg peer d = .handle key p ∧
      cfg.secretOf peer = .secret sec ∧ sec ≠ [] ∧ parse d sec = .ok p ∧ p.secret = sec ∧
      encode H { response p code with attrs := attrs } = .ok w ∧
      (Rfc.encClass code = .hashReqAuth → isAuthenticResponse H w d sec = true) := by
  exact reply_answers_of_InvO hH (InvO_run H cfg conns nD ls) (connOf_run H cfg conns nD ls) h

/-- Conversely, a handler that is running CAN write its reply whenever the encoder accepts it: the
    `taskReply` step is enabled and appends exactly the `reply` event with the receiving conn, the
    source address and the encoded octets. -/
theorem reply_written_if_encodable (H : Hash) (cfg : Cfg) (conns : List Nat) (nD : Nat) (ls : List Label)
    (t i : Nat) (key : Key) (code : Int) (attrs : Attrs)
    (ht : (run H cfg (initWith conns nD) ls).tasks[t]? = some ⟨i, .inHandler key⟩) :
    ∃ (peer : Nat) (d : Bytes) (p : Packet), (run H cfg (initWith conns nD) ls).origin[t]? = some ⟨i, peer, d⟩ ∧
      classify H cfg peer d = .handle key p ∧
      ∀ w, encode H { response p code with attrs := attrs } = .ok w →
        step H cfg (run H cfg (initWith conns nD) ls) (.taskReply t code attrs) =
          some { run H cfg (initWith conns nD) ls with
                 log := (run H cfg (initWith conns nD) ls).log ++ [.reply t (conns.getD i 0) peer w] } := by
  have hO := InvO_run H cfg conns nD ls
  obtain ⟨⟨i', peer, d⟩, ho, hio⟩ := origin_of_task hO ht
  simp only at hio; subst hio
  obtain ⟨p, hcl⟩ := hO.hand t i key _ ht ho
  simp only at hcl
  refine ⟨peer, d, p, ho, hcl, ?_⟩
  intro w hw
  simp only [step, ht, packetOf_of_origin ho hcl, hw, peerOf_eq ho, connOf_run]

/-- The secret source's PAIR.  `RADIUSSecret` may return a secret together with a non-nil error; the code
    tests the error first, so such a datagram is dropped like any other secret-source failure, whatever
    the secret (server-packet.go:151-155) — the model's three-valued answer loses nothing. -/
theorem secret_with_error_is_dropped (H : Hash) (cfg : Cfg) (peer : Nat) (d sec : Bytes)
    (h : cfg.secretOf peer = SecretAns.ofPair sec true) : classify H cfg peer d = .dropSecretError := by
  simp [classify, h, SecretAns.ofPair]

/-- … and without an error an empty secret is refused, any other is used. -/
theorem secret_without_error (sec : Bytes) :
    SecretAns.ofPair sec false = (if sec = [] then SecretAns.empty else SecretAns.secret sec) := by
  cases sec <;> simp [SecretAns.ofPair]

/-- Keeps serving (server clause of C02).  In every reachable state a Serve call that is in its read loop
    stays in it under EVERY step other than a failing read of its own (`serveReadErr i`,
    `serveReadFail i _`): no datagram — dropped at any stage of the pipeline, handed to a handler, or a
    duplicate —, no other Serve call, handler or Shutdown call ends it; and afterwards, unless Shutdown
    has been requested, it can take the next datagram, whatever that is (`serveRecv i peer d` is enabled:
    no conn is closed before Shutdown). -/
theorem keeps_serving (H : Hash) (cfg : Cfg) (hv : cfg.variant = .fixed) (conns : List Nat) (nD : Nat)
    (ls : List Label) (i : Nat) (l : Label) (s' : St)
    (hi : (run H cfg (initWith conns nD) ls).serves[i]? = some .running)
    (hs : step H cfg (run H cfg (initWith conns nD) ls) l = some s')
    (hl : l ≠ .serveReadErr i ∧ ∀ k, l ≠ .serveReadFail i k) :
    s'.serves[i]? = some .running ∧
    (s'.sd = false → ∀ peer d, step H cfg s' (.serveRecv i peer d) = some (spawn H cfg s' i peer d)) := by
  have hrun := step_running_stable hs hi hl
  -- no conn is closed before Shutdown
  exact ⟨hrun, fun hsd peer d =>
    (TaskStep.recv hrun ((InvF_step hv (InvF_run H cfg hv conns nD ls) hs).nsd hsd _)).step⟩

/-- … in particular after a dropped datagram: the goroutine's `taskRun` step, whatever its outcome, leaves
    every Serve call where it is and does not touch `shutdownRequested`. -/
theorem dropped_datagram_keeps_serving (H : Hash) (cfg : Cfg) (hv : cfg.variant = .fixed) (conns : List Nat) (nD : Nat)
    (ls : List Label) (i t : Nat) (s' : St)
    (hi : (run H cfg (initWith conns nD) ls).serves[i]? = some .running)
    (hsd : (run H cfg (initWith conns nD) ls).sd = false)
    (hs : step H cfg (run H cfg (initWith conns nD) ls) (.taskRun t) = some s') :
    s'.serves[i]? = some .running ∧ s'.sd = false ∧
    ∀ peer d, step H cfg s' (.serveRecv i peer d) = some (spawn H cfg s' i peer d) := by
  obtain ⟨h1, h2⟩ := keeps_serving H cfg hv conns nD ls i (.taskRun t) s' hi hs
    ⟨(by intro e; cases e), (by intro k e; cases e)⟩
  have h3 : s'.sd = false := by
    rw [(step_sd_mono hs).2 (by intro j e; cases e)]; exact hsd
  exact ⟨h1, h3, h2 h3⟩

/-- the server clause of C02 in the fine machine: a started handler belongs to a goroutine whose datagram —
    read by a `serveRead`, handed over by a later `serveSpawn`, possibly with a Shutdown in between — is
    authentic under a non-empty secret and parses to the packet handed over -/
theorem fine_handler_only_if_parsed (H : Hash) (cfg : Cfg) (conns : List Nat) (nD : Nat) (ls : List Label2)
    (t : Nat) (key : Key)
    (h : Event.handlerStart t key ∈ (run2 H cfg (initWith2 conns nD) ls).base.log) :
    ∃ (i peer : Nat) (d : Bytes) (p : Packet) (sec : Bytes),
      Event.recv t i peer d ∈ (run2 H cfg (initWith2 conns nD) ls).base.log ∧
      (run2 H cfg (initWith2 conns nD) ls).base.origin[t]? = some ⟨i, peer, d⟩ ∧
      classify H cfg peer d = .handle key p ∧
      Event.request t p peer (conns.getD i 0) .server ∈ (run2 H cfg (initWith2 conns nD) ls).base.log ∧
      cfg.secretOf peer = .secret sec ∧ sec ≠ [] ∧
      (cfg.skipVerify = true ∨ isAuthenticRequest H d sec = true) ∧
      parse d sec = .ok p ∧ key = (peer, p.id) := by
  have hO := InvO_run2 H cfg conns nD ls
  obtain ⟨⟨i, peer, d⟩, p, ho, hcl, hreq⟩ := hO.hs t key h
  simp only at hcl hreq
  rw [connOf_run2] at hreq
  obtain ⟨sec, a, b, c, e, f⟩ := (classify_handle_iff' H cfg peer d key p).mp hcl
  exact ⟨i, peer, d, p, sec, (recv_mem_iff hO t i peer d).mpr ho, ho, hcl, hreq, a, b, c, e, f⟩

/-- at most one handler per (Serve call, source, identifier), and at most one handler start and one
    goroutine per datagram, in the fine machine -/
theorem fine_exactly_once_per_datagram (H : Hash) (cfg : Cfg) (conns : List Nat) (nD : Nat) (ls : List Label2) :
    let s := (run2 H cfg (initWith2 conns nD) ls).base
    (∀ i, (s.inflight.getD i []).Nodup ∧
      ∀ key, key ∈ s.inflight.getD i [] ↔ ∃ t : Nat, s.tasks[t]? = some (⟨i, .inHandler key⟩ : Task)) ∧
    (s.log.filter isRecv).length = s.tasks.length ∧
    s.log.filter isRecv = s.origin.mapIdx recvOf ∧
    ∀ t, handlerStarts s t ≤ 1 ∧
      countSpec (s.tasks[t]?.map (·.pc)) (handlerStarts s t) (dropCount s t) (endCount s t) := by
  have hG := InvG_run2 H cfg conns nD ls
  have hO := InvO_run2 H cfg conns nD ls
  have hC := InvC_run2 H cfg conns nD ls
  refine ⟨fun i => ⟨hG.nodup i, hG.mem i⟩, ?_, hO.recvs, fun t => ⟨InvC_hsCount_le hC t, hC t⟩⟩
  rw [hO.recvs, List.length_mapIdx, hO.len]

/-- the reply at trace level, in the fine machine -/
theorem fine_reply_answers_its_request (H : Hash) (hH : ∀ x, (H x).length = 16) (cfg : Cfg) (conns : List Nat)
    (nD : Nat) (ls : List Label2) (t conn addr : Nat) (w : Bytes)
    (h : Event.reply t conn addr w ∈ (run2 H cfg (initWith2 conns nD) ls).base.log) :
    ∃ (i peer : Nat) (d : Bytes) (key : Key) (p : Packet) (sec : Bytes) (code : Int) (attrs : Attrs),
      Event.recv t i peer d ∈ (run2 H cfg (initWith2 conns nD) ls).base.log ∧
      addr = peer ∧ conn = conns.getD i 0 ∧
      Event.request t p peer (conns.getD i 0) .server ∈ (run2 H cfg (initWith2 conns nD) ls).base.log ∧
      Event.handlerStart t key ∈ (run2 H cfg (initWith2 conns nD) ls).base.log ∧
      classify H cfg peer d = .handle key p ∧
      cfg.secretOf peer = .secret sec ∧ sec ≠ [] ∧ parse d sec = .ok p ∧ p.secret = sec ∧
      encode H { response p code with attrs := attrs } = .ok w ∧
      (Rfc.encClass code = .hashReqAuth → isAuthenticResponse H w d sec = true) := by
  exact reply_answers_of_InvO hH (InvO_run2 H cfg conns nD ls) (connOf_run2 H cfg conns nD ls) h

/-- keeps serving, in the fine machine: a Serve call in its read loop stays in it under every step other
    than a failing read of its own; and before Shutdown it is never blocked: holding a datagram it can
    spawn, otherwise it can read the next one. -/
theorem fine_keeps_serving (H : Hash) (cfg : Cfg) (hv : cfg.variant = .fixed) (conns : List Nat) (nD : Nat)
    (ls : List Label2) (i : Nat) (l : Label2) (s' : St2)
    (hi : (run2 H cfg (initWith2 conns nD) ls).base.serves[i]? = some .running)
    (hs : step2 H cfg (run2 H cfg (initWith2 conns nD) ls) l = some s')
    (hl : l ≠ .base (.serveReadErr i) ∧ ∀ k, l ≠ .base (.serveReadFail i k)) :
    s'.base.serves[i]? = some .running ∧
    (s'.base.sd = false →
      (∀ x, s'.holds i = some x → (step2 H cfg s' (.serveSpawn i)).isSome = true) ∧
      (s'.holds i = none → ∀ peer d, (step2 H cfg s' (.serveRead i peer d)).isSome = true)) := by
  have hI := (InvF_run2_from H cfg hv [l] _ (Inv2_run H cfg conns nD ls) (InvF_run2 H cfg hv conns nD ls)).2
  simp only [run2, hs] at hI
  have hrun := step2_running_stable hs hi hl
  refine ⟨hrun, fun hsd => ⟨?_, ?_⟩⟩
  · intro x hx; rw [serveSpawn_enabled hx]; rfl
  · intro hn peer d
    rw [step2_serveRead_eq, if_pos ⟨hrun, hn, hI.nsd hsd _⟩]; rfl

/-! ### Non-vacuity: concrete reachable states in which the hypotheses above hold

  One Serve call on conn 3; the hash is the constant sixteen zero octets, every peer has the secret
  `[1]`; the datagram is an Access-Request with identifier 7 (see `classify_example`, `classify_example5`). -/

local notation "H0" => ((fun _ => zeros 16) : Hash)
local notation "cfg0" => (Cfg.mk Variant.fixed false (fun _ => SecretAns.secret [1]))
local notation "dg0" => (([1, 7, 0, 20] ++ zeros 16) : Bytes)
local notation "p0" => (Packet.mk 1 7 (zeros 16) [1] [])

/-- hypothesis of `handler_only_if_parsed`, `handler_start_once_and_fresh`, `handler_start_has_request` -/
example : Event.handlerStart 0 (0, 7) ∈ (run H0 cfg0 (initWith [3] 1)
    [.serveEnter 0, .serveRecv 0 0 dg0, .taskRun 0]).log := by
  simp only [run, step, spawn, classify_example]
  decide

/-- hypotheses of `handler_started_if_free` (and of `handler_iff`): spawned, classified `handle`, key free -/
example :
    let s := run H0 cfg0 (initWith [3] 1) [.serveEnter 0, .serveRecv 0 0 dg0]
    s.tasks[0]? = some ⟨0, .spawned (.handle (0, 7) p0)⟩ ∧ (0, 7) ∉ s.inflight.getD 0 [] := by
  simp only [run, step, spawn, classify_example]
  decide

/-- hypothesis of `request_carries`: the request names peer 5 and conn 3 and the server's context -/
example : Event.request 0 p0 5 3 .server ∈ (run H0 cfg0 (initWith [3] 1)
    [.serveEnter 0, .serveRecv 0 5 dg0, .taskRun 0]).log := by
  simp only [run, step, spawn, classify_example5]
  decide

/-- hypothesis of `reply_on_receiving_socket`: the handler of goroutine 0 writes twice; both replies go
    out on conn 3 to peer 5 -/
example :
    (run H0 cfg0 (initWith [3] 1)
      [.serveEnter 0, .serveRecv 0 5 dg0, .taskRun 0, .taskReply 0 2 [], .taskReply 0 2 [], .taskFinish 0]).log =
    [.recv 0 0 5 dg0, .request 0 p0 5 3 .server, .handlerStart 0 (5, 7), .reply 0 3 5 ([2, 7, 0, 20] ++ zeros 16),
     .reply 0 3 5 ([2, 7, 0, 20] ++ zeros 16), .handlerEnd 0] := by
  decide +kernel

/-- hypotheses of `request_ctx_cancelled_by_shutdown`: a request in the log and Shutdown requested -/
example :
    let s := run H0 cfg0 (initWith [3] 1) [.serveEnter 0, .serveRecv 0 5 dg0, .taskRun 0, .downEnter 0]
    Event.request 0 p0 5 3 .server ∈ s.log ∧ s.sd = true ∧ Cfg.variant cfg0 = .fixed := by
  simp only [run, step, spawn, classify_example5]
  decide

/-- `exactly_once_per_datagram` on a duplicate: the second datagram with the same (source, identifier)
    arrives while the first handler runs and is dropped; the third, after the handler returned, is served -/
example :
    let s := run H0 cfg0 (initWith [3] 1)
      [.serveEnter 0, .serveRecv 0 0 dg0, .serveRecv 0 0 dg0, .taskRun 0, .taskRun 1, .taskFinish 0,
       .serveRecv 0 0 dg0, .taskRun 2]
    (handlerStarts s 0, dropCount s 0, endCount s 0) = (1, 0, 1) ∧
    (handlerStarts s 1, dropCount s 1, endCount s 1) = (0, 1, 0) ∧
    (handlerStarts s 2, dropCount s 2, endCount s 2) = (1, 0, 0) ∧
    s.tasks.length = 3 ∧ (s.log.filter isRecv).length = 3 := by
  simp only [run, step, spawn, classify_example]
  decide

/-- hypotheses of `reply_authentic`: a hash with 16-byte output, a datagram the pipeline hands on, a
    reply code (Access-Accept) and a reply that encodes -/
example :
    (∀ x, (H0 x).length = 16) ∧ classify H0 cfg0 0 dg0 = .handle (0, 7) p0 ∧
    Rfc.encClass 2 = .hashReqAuth ∧
    encode H0 { response p0 2 with attrs := [] } = .ok ([2, 7, 0, 20] ++ zeros 16) := by
  refine ⟨by intro x; simp [zeros], classify_example, rfl, by decide⟩

/-- … and its conclusion on that instance, obtained from the theorem -/
example : isAuthenticResponse H0 ([2, 7, 0, 20] ++ zeros 16) dg0 (Packet.secret p0) = true :=
  reply_authentic H0 (by intro x; simp [zeros]) cfg0 0 dg0 (0, 7) p0 2 [] ([2, 7, 0, 20] ++ zeros 16)
    classify_example rfl (by decide)

/-- hypothesis of `reply_answers_its_request` (and of `reply_on_receiving_socket`): a `reply` event with
    its octets in the log of a reachable state; the hash has 16-octet output -/
example : Event.reply 0 3 5 ([2, 7, 0, 20] ++ zeros 16) ∈ (run H0 cfg0 (initWith [3] 1)
    [.serveEnter 0, .serveRecv 0 5 dg0, .taskRun 0, .taskReply 0 2 [], .taskFinish 0]).log ∧
    (∀ x, (H0 x).length = 16) ∧ Rfc.encClass 2 = .hashReqAuth := by
  refine ⟨by decide +kernel, by intro x; simp [zeros], rfl⟩

/-- a reply the encoder refuses (code 13 is no RADIUS code Encode knows) never reaches the conn: the
    `taskReply` step is not enabled -/
example : step H0 cfg0 (run H0 cfg0 (initWith [3] 1) [.serveEnter 0, .serveRecv 0 5 dg0, .taskRun 0])
    (.taskReply 0 13 []) = none := by
  decide +kernel

/-- hypotheses of `keeps_serving` / `dropped_datagram_keeps_serving`: a datagram from a peer the secret
    source fails for (cfg: every peer errs) is waiting to be dropped while Serve call 0 reads -/
example :
    let s := run H0 { secretOf := fun _ => .error } (initWith [3] 1) [.serveEnter 0, .serveRecv 0 5 dg0]
    s.serves[0]? = some .running ∧ s.sd = false ∧ s.tasks[0]? = some ⟨0, .spawned .dropSecretError⟩ ∧
    (step H0 { secretOf := fun _ => .error } s (.taskRun 0)).isSome = true := by
  decide +kernel

/-- hypothesis of `secret_with_error_is_dropped`: a source that returns the right secret AND an error -/
example : classify H0 { secretOf := fun _ => SecretAns.ofPair [1] true } 0 dg0 = .dropSecretError ∧
    classify H0 { secretOf := fun _ => SecretAns.ofPair [1] false } 0 dg0 = .handle (0, 7) p0 := by
  decide +kernel

/-- the fine machine: the datagram is read, THEN Shutdown runs, then the goroutine is spawned, the handler
    starts and replies — hypotheses of `fine_handler_only_if_parsed` and `fine_reply_answers_its_request`
    in a state in which the read and the spawn are separated by a Shutdown -/
example :
    (run2 H0 cfg0 (initWith2 [3] 1)
      [.base (.serveEnter 0), .serveRead 0 5 dg0, .base (.downEnter 0), .serveSpawn 0, .base (.taskRun 0),
       .base (.taskReply 0 2 [])]).base.log =
    [.listenerClosed 3, .recv 0 0 5 dg0, .request 0 p0 5 3 .server, .handlerStart 0 (5, 7),
     .reply 0 3 5 ([2, 7, 0, 20] ++ zeros 16)] := by
  decide +kernel

end RV.C06
