/-
  C20 — dictionary.Merge is a conflict-checked ordered union that never modifies its inputs.

  `merge m d1 d2 st` (RV.Model.DictMerge) is helpers.go on a vendor heap: dictionaries hold vendor
  *references*, `resolve st d` is the value a dictionary denotes.  `m = .fixed` is the repaired Merge
  (the matched vendor is copied before it is extended), `m = .current` the unrepaired one (extends
  `d1`'s vendor through the shared pointer).  `Spec.*` is the statement on dictionary values.
  `observe` (Proofs/DictMerge.lean) is what a call lets its caller see: the value of the result, or nothing.

  What the theorems quantify over.
  * Well-formed inputs: `Spec.WF` = vendor names unique and vendor numbers unique inside each
    dictionary (what the parser guarantees; the statement says "well-formed dictionaries").  It is
    needed: with two vendors of one number in `d2`, the second is folded into the first although the
    statement wants both listed; with two vendors of one number in `d1`, a vendor of `d2` that equals
    the second in name and number is refused.  The success condition needs `WF d1` only.
  * `Valid st d`: every vendor pointer is allocated (a nil `*Vendor` makes the Go code panic).
  * Sharing is allowed: `d1` and `d2` may contain the same vendor reference (Merge(d,d),
    Merge(Merge(d1,d2),d1), …).  For the repaired Merge no hypothesis about sharing is needed because
    it never writes to an existing vendor.  The unrepaired Merge does, which is the defect.
  * Attributes and values are plain values (Merge never writes through those pointers); spare slice
    capacity is not modelled (the harness observes it).
-/
import RV.Model.DictMerge
import RV.Proofs.DictMerge
namespace RV.C20
open RV.Dict RV.DictMerge

/-- Merge succeeds iff no top-level attribute of the second shares a name or number with one of the
    first, every vendor of the second matches a vendor of the first on both name and number or on
    neither, and matched vendors have no attribute name or number in common.  (Either variant; the
    first input well-formed.) -/
theorem merge_ok_iff (m : Mode) (d1 d2 : DictR) (st : Store) (hw1 : Spec.WF (resolve st d1)) :
    (∃ out, merge m d1 d2 st = .ok out) ↔ Spec.ConflictFree (resolve st d1) (resolve st d2) :=
  merge_ok_iff_conflictFree m d1 d2 st hw1

/-- The result: attributes and values are `d1 ++ d2`; the vendors are `d1`'s vendors, a matched one
    carrying `a1 ++ a2` and `v1 ++ v2` under `d1`'s entry, then the unmatched vendors of `d2` in order. -/
theorem result_union {d1 d2 r : DictR} {st st' : Store}
    (hv1 : Valid st d1) (hv2 : Valid st d2)
    (hw1 : Spec.WF (resolve st d1)) (hw2 : Spec.WF (resolve st d2))
    (h : mergeFixed d1 d2 st = .ok (r, st')) :
    (resolve st' r).attributes = (resolve st d1).attributes ++ (resolve st d2).attributes ∧
    (resolve st' r).values = (resolve st d1).values ++ (resolve st d2).values ∧
    (resolve st' r).vendors =
      (resolve st d1).vendors.map (Spec.combine (resolve st d2).vendors) ++
      (resolve st d2).vendors.filter (fun v2 => (Spec.matchOf (resolve st d1).vendors v2).isNone) := by
  obtain ⟨_, heq⟩ := spec_merge_eq (merge_fixed_result hv1 hv2 hw1 hw2 h).2.2
  rw [heq]; exact ⟨rfl, rfl, rfl⟩

/-- Success condition and result in one equation: what an observer sees of the repaired Merge is the
    specification's `merge` of the two input values. -/
theorem merge_refines_spec {d1 d2 : DictR} {st : Store}
    (hv1 : Valid st d1) (hv2 : Valid st d2)
    (hw1 : Spec.WF (resolve st d1)) (hw2 : Spec.WF (resolve st d2)) :
    observe (mergeFixed d1 d2 st) = Spec.merge (resolve st d1) (resolve st d2) :=
  merge_fixed_refines hv1 hv2 hw1 hw2

/-- The result contains every attribute, value and vendor of both inputs exactly once, a matched
    vendor's declarations combined under one entry. -/
theorem exactly_once {d1 d2 r : DictR} {st st' : Store}
    (hv1 : Valid st d1) (hv2 : Valid st d2)
    (hw1 : Spec.WF (resolve st d1)) (hw2 : Spec.WF (resolve st d2))
    (h : mergeFixed d1 d2 st = .ok (r, st')) :
    Spec.ExactlyOnce (resolve st d1) (resolve st d2) (resolve st' r) :=
  spec_exactly_once hw1 hw2 (merge_fixed_result hv1 hv2 hw1 hw2 h).2.2

/-- The specification's result satisfies the count check the oracle runs on the implementation. -/
theorem exactly_once_check_sound {d1 d2 r : Dictionary} (h1 : Spec.WF d1) (h2 : Spec.WF d2)
    (h : Spec.merge d1 d2 = some r) : Spec.exactlyOnce d1 d2 r = true :=
  exactlyOnce_of_ExactlyOnce (spec_exactly_once h1 h2 h)

/-- The result of a merge is well-formed and valid again, so merges can be chained. -/
theorem result_wellformed {d1 d2 r : DictR} {st st' : Store}
    (hv1 : Valid st d1) (hv2 : Valid st d2)
    (hw1 : Spec.WF (resolve st d1)) (hw2 : Spec.WF (resolve st d2))
    (h : mergeFixed d1 d2 st = .ok (r, st')) :
    Valid st' r ∧ Spec.WF (resolve st' r) := by
  have hr := merge_fixed_result hv1 hv2 hw1 hw2 h
  exact ⟨hr.2.1, spec_merge_wf hw1 hw2 hr.2.2⟩

/-- "Merge never modifies either input dictionary", as a statement about a variant of Merge: after a
    successful call both inputs denote what they denoted before. -/
def inputs_unchanged_full (m : Mode) : Prop :=
  ∀ (d1 d2 r : DictR) (st st' : Store),
    Valid st d1 → Valid st d2 → Spec.WF (resolve st d1) → Spec.WF (resolve st d2) →
    merge m d1 d2 st = .ok (r, st') →
    resolve st' d1 = resolve st d1 ∧ resolve st' d2 = resolve st d2

/-- The repaired Merge only allocates: every vendor that existed before the call is untouched. -/
theorem store_only_grows {d1 d2 r : DictR} {st st' : Store}
    (hv1 : Valid st d1) (hv2 : Valid st d2)
    (hw1 : Spec.WF (resolve st d1)) (hw2 : Spec.WF (resolve st d2))
    (h : mergeFixed d1 d2 st = .ok (r, st')) :
    ∀ ref, ref < st.length → deref st' ref = deref st ref := by
  obtain ⟨⟨ext, rfl⟩, _, _⟩ := merge_fixed_result hv1 hv2 hw1 hw2 h
  exact fun ref href => deref_append_left href

/-- "Merge never modifies either input dictionary" holds of the repaired Merge: the store agrees with
    the original on every reference reachable from `d1` and `d2`. -/
theorem inputs_unchanged : inputs_unchanged_full .fixed := by
  intro d1 d2 r st st' hv1 hv2 hw1 hw2 h
  obtain ⟨⟨ext, rfl⟩, _, _⟩ := merge_fixed_result hv1 hv2 hw1 hw2 h
  exact ⟨resolve_append ext hv1, resolve_append ext hv2⟩

/-- Any dictionary that was valid before the call (an earlier result, an input of another call) denotes
    the same value afterwards. -/
theorem bystanders_unchanged {d1 d2 r d : DictR} {st st' : Store}
    (hv1 : Valid st d1) (hv2 : Valid st d2)
    (hw1 : Spec.WF (resolve st d1)) (hw2 : Spec.WF (resolve st d2))
    (h : mergeFixed d1 d2 st = .ok (r, st')) (hd : Valid st d) :
    resolve st' d = resolve st d := by
  obtain ⟨⟨ext, rfl⟩, _, _⟩ := merge_fixed_result hv1 hv2 hw1 hw2 h
  exact resolve_append ext hd

/-- Inputs can be merged again: a second Merge of the same two dictionaries (in the heap the first
    one left behind) succeeds with the same result, and the first result is not disturbed. -/
theorem merge_again {d1 d2 r : DictR} {st st' : Store}
    (hv1 : Valid st d1) (hv2 : Valid st d2)
    (hw1 : Spec.WF (resolve st d1)) (hw2 : Spec.WF (resolve st d2))
    (h : mergeFixed d1 d2 st = .ok (r, st')) :
    ∃ r2 st2, mergeFixed d1 d2 st' = .ok (r2, st2) ∧
      resolve st2 r2 = resolve st' r ∧ resolve st2 r = resolve st' r := by
  obtain ⟨⟨ext, rfl⟩, hvr, hspec⟩ := merge_fixed_result hv1 hv2 hw1 hw2 h
  have hv1' := valid_append ext hv1
  have hv2' := valid_append ext hv2
  have hw1' := wf_resolve_append ext hv1 hw1
  have hw2' := wf_resolve_append ext hv2 hw2
  have href := merge_fixed_refines hv1' hv2' hw1' hw2'
  rw [resolve_append ext hv1, resolve_append ext hv2, hspec] at href
  cases h2 : merge .fixed d1 d2 (st ++ ext) with
  | error e => rw [h2] at href; cases href
  | ok out =>
    obtain ⟨r2, st2⟩ := out
    rw [h2] at href
    obtain ⟨⟨ext2, rfl⟩, _, _⟩ := merge_fixed_result hv1' hv2' hw1' hw2' h2
    exact ⟨r2, _, h2, Option.some.inj href, resolve_append ext2 hvr⟩

/-- Left folds `Merge(Merge(d0, ds₀), ds₁) …` over well-formed inputs (the list may name one input
    several times, and inputs may share vendors): the repaired Merge computes the specification's
    fold, and every input still denotes its original value in the final heap. -/
theorem fold_chain (d0 : DictR) (ds : List DictR) (st : Store)
    (h0 : Valid st d0 ∧ Spec.WF (resolve st d0))
    (hds : ∀ d ∈ ds, Valid st d ∧ Spec.WF (resolve st d)) :
    observe (mergeChain .fixed d0 ds st) = Spec.mergeChain (resolve st d0) (ds.map (resolve st)) ∧
    ∀ r st', mergeChain .fixed d0 ds st = .ok (r, st') →
      ∀ d ∈ d0 :: ds, resolve st' d = resolve st d := by
  obtain ⟨h1, h2⟩ := mergeChain_fixed_refines ds d0 st h0.1 h0.2 hds
  refine ⟨h1, ?_⟩
  intro r st' h d hd
  obtain ⟨ext, rfl⟩ := h2 r st' h
  rcases List.mem_cons.mp hd with rfl | hd
  · exact resolve_append ext h0.1
  · exact resolve_append ext (hds d hd).1

/-! ## The unrepaired Merge (`.current`): the statement's last clause is false for it.
    These are theorems about the model variant `.current`, which mirrors helpers.go without
    proposed_fixes/merge-copy-vendor.diff; they are the record of the defect. -/

/-- vendor "A" (1) declaring attribute "a" (1), and vendor "A" (1) declaring attribute "b" (2) -/
def wStore : Store :=
  [{ name := [0x41], number := 1, attributes := [{ name := [0x61], oid := [1], typ := .string }] },
   { name := [0x41], number := 1, attributes := [{ name := [0x62], oid := [2], typ := .string }] }]
def wD1 : DictR := { vendors := [0] }
def wD2 : DictR := { vendors := [1] }
/-- the heap after `mergeCurrent wD1 wD2`: vendor 0 — `wD1`'s — has absorbed `wD2`'s attribute -/
def wStore' : Store :=
  [{ name := [0x41], number := 1, attributes := [{ name := [0x61], oid := [1], typ := .string },
                                                { name := [0x62], oid := [2], typ := .string }] },
   { name := [0x41], number := 1, attributes := [{ name := [0x62], oid := [2], typ := .string }] }]

theorem witness_in_domain :
    Valid wStore wD1 ∧ Valid wStore wD2 ∧ Spec.WF (resolve wStore wD1) ∧ Spec.WF (resolve wStore wD2) ∧
    Spec.ConflictFree (resolve wStore wD1) (resolve wStore wD2) := by
  decide

theorem current_merge_witness : mergeCurrent wD1 wD2 wStore = .ok ({ vendors := [0] }, wStore') := by
  rfl

/-- Merge as it stands modifies its first input. -/
theorem inputs_unchanged_counterexample : ¬ inputs_unchanged_full .current := by
  intro h
  have hd := witness_in_domain
  have := (h wD1 wD2 _ wStore wStore' hd.1 hd.2.1 hd.2.2.1 hd.2.2.2.1 current_merge_witness).1
  revert this
  decide

/-- After the unrepaired Merge the same two inputs cannot be merged again: the second call fails with
    "duplicate vendor attribute", although the inputs as given are conflict-free. -/
theorem merge_twice_fails :
    mergeCurrent wD1 wD2 wStore = .ok ({ vendors := [0] }, wStore') ∧
    mergeCurrent wD1 wD2 wStore' = .error .dupVendorAttr :=
  ⟨rfl, rfl⟩

/-- The repaired Merge on the same witness: inputs untouched, second merge gives the same result. -/
theorem fixed_on_witness :
    ∃ r st', mergeFixed wD1 wD2 wStore = .ok (r, st') ∧
      resolve st' wD1 = resolve wStore wD1 ∧
      observe (mergeFixed wD1 wD2 st') = some (resolve st' r) := by
  refine ⟨_, _, rfl, ?_, ?_⟩ <;> decide

/-- What does hold for the unrepaired Merge: when no vendor of `d2` has a number that occurs in `d1`
    (nothing is matched), it leaves the heap alone. -/
theorem current_inputs_unchanged_partial {d1 d2 r : DictR} {st st' : Store}
    (hw2 : Spec.WF (resolve st d2))
    (hno : ∀ r2 ∈ d2.vendors, ∀ r1 ∈ d1.vendors, (deref st r1).number ≠ (deref st r2).number)
    (h : mergeCurrent d1 d2 st = .ok (r, st')) : st' = st := by
  obtain ⟨-, -, -, rfl⟩ := merge_eq_ok_iff.mp h
  rw [assemble_unmatched .current d2.vendors d1.vendors st hno ((wf_resolve st d2).mp hw2).2]

/-- When `d1` and `d2` share no vendor object (two separately parsed files, the only use the
    test suite makes of Merge) its *result* is the specification's: success condition and ordered
    union hold for the unrepaired code as well; what fails is only the treatment of the inputs. -/
theorem current_result_union {d1 d2 : DictR} {st : Store}
    (hv1 : Valid st d1) (hv2 : Valid st d2)
    (hw1 : Spec.WF (resolve st d1)) (hw2 : Spec.WF (resolve st d2))
    (hdis : ∀ x ∈ d2.vendors, x ∉ d1.vendors) :
    observe (mergeCurrent d1 d2 st) = Spec.merge (resolve st d1) (resolve st d2) :=
  observe_merge hw1 fun _ _ h => merge_current_result hv1 hv2 hw1 hw2 hdis h

/-! ## Non-vacuity: a well-formed pair with a matched vendor, an unmatched vendor on each side,
    top-level attributes and values; merged, merged again, and chained with a third dictionary. -/

def exStore : Store :=
  [{ name := [0x41], number := 1, attributes := [{ name := [0x61], oid := [1], typ := .string }],
     values := [{ attrName := [0x61], name := [0x78], number := 1 }] },
   { name := [0x42], number := 2 },
   { name := [0x43], number := 3, attributes := [{ name := [0x61], oid := [1], typ := .integer }] },
   { name := [0x41], number := 1, attributes := [{ name := [0x62], oid := [1, 1], typ := .string }],
     values := [{ attrName := [0x62], name := [0x79], number := 2 }] }]
def exD1 : DictR :=
  { attributes := [{ name := [0x74], oid := [26], typ := .vsa }], values := [{ attrName := [0x74], name := [0x75], number := 0 }],
    vendors := [0, 1] }
def exD2 : DictR :=
  { attributes := [{ name := [0x73], oid := [26, 1], typ := .octets }], vendors := [2, 3] }

example : Valid exStore exD1 ∧ Valid exStore exD2 ∧ Spec.WF (resolve exStore exD1) ∧ Spec.WF (resolve exStore exD2) := by
  decide
example : Spec.ConflictFree (resolve exStore exD1) (resolve exStore exD2) := by decide
/-- the vendors of the result: A (combined), B, then C -/
example : (observe (mergeFixed exD1 exD2 exStore)).map (fun r => r.vendors.map (fun v => (v.name, v.attributes.length, v.values.length)))
    = some [([0x41], 2, 2), ([0x42], 0, 0), ([0x43], 1, 0)] := by decide
example : (mergeFixed exD1 exD2 exStore).toOption.map (fun p => decide (resolve p.2 exD1 = resolve exStore exD1)) = some true := by
  decide
/-- a conflicting pair is refused: vendor "A" with another number -/
example : Spec.merge (resolve exStore exD1) { vendors := [{ name := [0x41], number := 7 }] } = none := by decide
/-- a chain of two merges: Merge(Merge(exD1, exD2), {vendor B alone}) -/
example : (Spec.mergeChain (resolve exStore exD1) [resolve exStore exD2, { vendors := [{ name := [0x42], number := 2 }] }]).isSome = true := by
  decide

end RV.C20
