/-
  C15 — Dictionary include walk.
  "Parsing any dictionary text over any include graph terminates and returns either a dictionary or
   an error, never panicking or recursing without bound; every $INCLUDE cycle - whether or not it
   passes through the root file - is reported as a ParseError carrying a RecursiveIncludeError,
   while acyclic graphs, including diamonds and repeated includes of one file, are not.  Every file
   opened for an include is closed, and a ParseError names the file and the 1-based line of the
   offending directive."

  The model (RV.Model.DictParser) has both include rules: `parseFileFix` (fix #10 applied: the
  names of all files being parsed are on the path; total by well-founded recursion, no fuel) and
  `parseFileCur` (the code as found: only the root's name is ever in `parsedFiles`; needs fuel).
  `cfg.includePath` selects which one `parseFile` runs (`Cfg.tree`, what the driver runs, has it set).

  HOW "EVERY CYCLE IS REPORTED" IS TO BE READ.  A parse stops at its FIRST fault, in depth-first,
  line order.  A cycle that lies behind an earlier fault (a refused line, a missing file) is never
  reached, and the report is then that earlier fault, not a RecursiveIncludeError (example
  `fsBadThenCycle` below).  What holds, and is proved in the section "Completeness", is: the outcome
  of the repaired parser is EXACTLY the first fault of the walk `Walk` (a specification that does
  not mention the parser's include closure); it is a RecursiveIncludeError iff that first fault is a
  `$INCLUDE` of a file on the current include path; a graph with a reachable cycle is never
  accepted; and on pure include graphs (nothing but `$INCLUDE`s of existing files: there is no other
  fault to meet) RecursiveIncludeError is reported iff a cycle is reachable from the root.

  FILE IDENTITY (documented assumption).  The model identifies a file with the `$INCLUDE` argument
  string: `FS.lookup name`, and the include path / `parsedFiles` holds these strings.  parser.go
  (lines 216-217) instead looks up `incFile.Name()` of the OPENED handle in `parsedFiles`, and
  `Parse` (line 47-49) seeds the set with `f.Name()` of the root.  Every theorem of this file
  therefore carries the hypothesis
      for every file the opener returns, `Name()` = the name it was requested under
  (and `ParseFile`'s root likewise).  This is true of the harness's in-memory opener.  It is NOT
  true of `FileSystemOpener`: there `Name()` is the absolute joined path, so
    * two spellings of one path that `filepath.Join` / `filepath.Abs` normalise to the same string
      (`a`, `./a`, `x/../a`) are ONE file for Go but two files for the model: Go reports a cycle
      through them, the model (on these strings) would not;
    * conversely Go's check is purely by that name: a cycle through a symbolic link or a hard link
      (two names, one inode) is not detected by Go either, and RecursiveIncludeError.Filename is
      `Name()`, not the argument.
  For such openers the theorems apply to the graph whose vertices are the `Name()` strings, provided
  the opener is a function of them; nothing is claimed about inode identity.
-/
import RV.Model.DictParser
import RV.Proofs.DictInclude
import RV.Proofs.DictWalk
import RV.Proofs.DictWalkWitness
import RV.Proofs.DictGuards
import RV.Proofs.DictIO
namespace RV.C15
open RV RV.Dict RV.DictParser

/- Defined elsewhere, because helper lemmas mention them: `OpensClosed` (every `opened n` of the log is
   followed by a `closed n`), the names `nmRoot`, `nmA`, `nmB`, `inc` and the file systems
   `fsNonRootCycle`, `fsRootCycle`, `fsDiamond` in RV.Proofs.DictInclude; `fsPureDiamond`, `fsBadThenCycle` in
   RV.Proofs.DictWalkWitness (all in namespace RV.C15); the file systems with failure flags (`fsReadFails`,
   `fsReadTruncated`, `fsReadThenUnclosed`, `fsCloseFails`, `fsCloseIgnored`, `fsSelfCycleCloseFails`,
   `fsReadFailsDeep`) in RV.Proofs.DictIO (namespace RV.DictParser). -/

/-- the measure that makes `parseFileFix` a total function: each nested `$INCLUDE` of a file that
    exists and is not on the path strictly decreases the number of files not on the path -/
theorem include_measure_decreases (fs : FS) (path : List Bytes) (name t : Bytes)
    (h : fs.lookup name = some t) (hp : ¬ name ∈ path) : unvisited fs (name :: path) < unvisited fs path :=
  unvisited_lt fs path name t h hp

/-- the repaired parser never produces the `outOfFuel` outcome: it always returns a dictionary or an error -/
theorem fixed_never_out_of_fuel (cfg : Cfg) (ign : Bool) (fs : FS) (root : Bytes) (h : cfg.includePath = true) :
    (parseFile cfg ign fs root).1 ≠ some .outOfFuel := by
  intro he
  cases hl : fs.lookup root with
  | none => rw [parseFile_none cfg ign fs root hl] at he; cases he
  | some text =>
    obtain ⟨o, st', _, heq⟩ := parseFile_eq_walk cfg ign fs root text h hl
    rw [heq] at he
    cases o with
    | none => cases he
    | some flt => exact (report_kind flt).2.2.2.2.2 (Option.some.inj he)

/-- the `$INCLUDE` closure: a file that exists and is on the path (`parsedFiles`) is reported as
    RecursiveInclude at the including file and line, and is closed -/
theorem include_on_path_reported (fs : FS) (onPath : Bytes → Bool)
    (recur : (name t : Bytes) → fs.lookup name = some t → onPath name = false → St → Result)
    (name t file : Bytes) (lineNo : Nat) (st : St) (h : fs.lookup name = some t) (hp : onPath name = true) :
    includeWith fs onPath recur name file lineNo st
      = (some (.recursive file lineNo name), (st.opened name).closed name) :=
  includeWith_onPath fs onPath recur name t file lineNo st h hp

/-- (repaired) a successful parse means that no include cycle is reachable from the root:
    every reachable cycle makes the parse fail -/
theorem ok_implies_acyclic (cfg : Cfg) (ign : Bool) (fs : FS) (root : Bytes) (h : cfg.includePath = true)
    (hok : (parseFile cfg ign fs root).1 = none) : ¬ HasCycle fs root :=
  parseFile_ok_acyclic cfg ign fs root h hok

/-- (repaired) a reported RecursiveInclude is a real cycle: the reported file `f` includes `n` at
    a `$INCLUDE` line, `n` leads back to `f`, and `f` is the root or reachable from it -/
theorem cycle_reported (cfg : Cfg) (ign : Bool) (fs : FS) (root f n : Bytes) (l : Nat) (h : cfg.includePath = true)
    (hr : (parseFile cfg ign fs root).1 = some (.recursive f l n)) :
    Includes fs f n ∧ (n = f ∨ Reaches fs n f) ∧ (f = root ∨ Reaches fs root f) :=
  parseFile_recursive_real cfg ign fs root f n l h hr

/-- (repaired) acyclic include graphs - diamonds and repeated includes of one file included - are
    never reported as recursive -/
theorem acyclic_not_reported (cfg : Cfg) (ign : Bool) (fs : FS) (root : Bytes) (h : cfg.includePath = true)
    (hac : ¬ HasCycle fs root) (f n : Bytes) (l : Nat) :
    (parseFile cfg ign fs root).1 ≠ some (.recursive f l n) :=
  parseFile_acyclic_not_recursive cfg ign fs root h hac f n l

/-- every file the opener handed out - the root and every `$INCLUDE`d file - is closed again, under
    either include rule and whatever `ParseFile` returns -/
theorem opens_closed (cfg : Cfg) (ign : Bool) (fs : FS) (root : Bytes) :
    OpensClosed (parseFile cfg ign fs root).2.log :=
  (parseFile_nested cfg ign fs root).opensClosed

/-- also for the current rule at every fuel, from any balanced starting log -/
theorem opens_closed_current (cfg : Cfg) (ign : Bool) (fs : FS) (root file text : Bytes) (fuel : Nat) :
    OpensClosed (parseFileCur cfg ign fs root fuel file text {}).2.log :=
  (parseFileCur_nested_log cfg ign fs root file text fuel).opensClosed

/-- a ParseError names a file that was parsed and a line of it, counted from 1 -/
theorem error_line_1_based (cfg : Cfg) (ign : Bool) (fs : FS) (root : Bytes) (e : Failure)
    (he : (parseFile cfg ign fs root).1 = some e) :
    match e with
    | .decl _ f l | .openErr f l _ | .recursive f l _ =>
        ∃ t, fs.lookup f = some t ∧ 1 ≤ l ∧ l ≤ (Lex.lines t).1.length
    | _ => True := by
  have : e.lineOK fs := by
    cases hl : fs.lookup root with
    | none =>
      rw [parseFile_none cfg ign fs root hl] at he
      cases he; trivial
    | some text =>
      cases h : cfg.includePath with
      | true =>
        rw [parseFile_fix_eq cfg ign fs root text h hl] at he
        exact parseFileFix_lineOK cfg ign fs _ _ _ _ _ _ hl (Prod.ext he rfl)
      | false =>
        rw [parseFile_cur_eq cfg ign fs root text h hl] at he
        exact parseFileCur_lineOK cfg ign fs _ _ _ _ _ _ _ hl (Prod.ext he rfl)
  cases e <;> first | trivial | exact this

/-- defect #10: on a cycle that does not pass through the root the current rule never stops:
    whatever the fuel, it is exhausted -/
theorem nonroot_cycle_diverges (cfg : Cfg) (ign : Bool) (fuel : Nat) :
    (parseFileCur cfg ign fsNonRootCycle nmRoot fuel nmRoot (inc nmA) {}).1 = some .outOfFuel :=
  nonroot_cycle_root cfg ign fuel {}

/-- the same at the level of `ParseFile` with the cap the harness uses -/
theorem nonroot_cycle_depth_exceeded (ign : Bool) :
    (parseFile Cfg.current ign fsNonRootCycle nmRoot).1 = some .outOfFuel := by
  rw [parseFile_cur_eq Cfg.current ign fsNonRootCycle nmRoot (inc nmA) rfl (by decide)]
  exact nonroot_cycle_root ..

/-- a cycle through the root is reported by the current rule (at `a`, line 1) -/
theorem root_cycle_reported (cfg : Cfg) (ign : Bool) (fuel : Nat) :
    (parseFileCur cfg ign fsRootCycle nmRoot (fuel + 2) nmRoot (inc nmA) {}).1 = some (.recursive nmA 1 nmRoot) := by
  rw [parseFileCur, parseBody_one_include cfg ign _ nmRoot nmA _ inc_a,
    includeWith_rec_fst fsRootCycle _ _ nmA (inc nmRoot) nmRoot 1 _ (by decide) (by decide)]
  rw [parseFileCur, parseBody_one_include cfg ign _ nmA nmRoot _ inc_root,
    includeWith_onPath fsRootCycle _ _ nmRoot (inc nmA) nmA 1 _ (by decide) (by decide)]

/-- the repaired rule reports the non-root cycle: `b` line 1 includes `a`, which is on the path -/
theorem nonroot_cycle_reported_fixed (ign : Bool) :
    (parseFile Cfg.repaired ign fsNonRootCycle nmRoot).1 = some (.recursive nmB 1 nmA) := by
  obtain ⟨st', hw⟩ := walk_nonRootCycle ign
  rw [walkFile_sound hw rfl]
  rfl

/-! ### Completeness: the outcome is the first fault of the depth-first, line-order walk

`Walk cfg ign fs path tooLong ls lineNo vb st r` (RV.Proofs.DictWalk) is a big-step SPECIFICATION of
the include walk, one rule per situation, which mentions neither `includeWith` nor `parseFileFix`;
`WalkFile cfg ign fs root r` is the walk of the root file from line 1.  `r = (none, st)`: the walk
reaches the end; `r = (some flt, st)`: `flt : Fault` is the first fault met - its include path
(innermost first, root last), its 1-based line, its kind (`scannerError`, `unclosedBlock`,
`badLine c`, `includeMissing n`, `includeOnPath n` = THE CYCLE) - and `Fault.report` is what the
parser has to return for it.  The theorems that mention the parser are for the repaired include rule
(hypothesis `cfg.includePath = true`); those about `Walk`, `Fault.report` and the graph alone have no such hypothesis. -/

/-- the walk of an existing root file always has an outcome … -/
theorem walk_has_outcome (cfg : Cfg) (ign : Bool) (fs : FS) (root text : Bytes) (hl : fs.lookup root = some text) :
    ∃ r, WalkFile cfg ign fs root r :=
  walkFile_total cfg ign fs root text hl

/-- … and only one: "the first fault" is well defined -/
theorem first_fault_unique (cfg : Cfg) (ign : Bool) (fs : FS) (root : Bytes) (r r' : Option Fault × St)
    (h : WalkFile cfg ign fs root r) (h' : WalkFile cfg ign fs root r') : r = r' := by
  obtain ⟨t, hl, hw⟩ := h
  obtain ⟨t', hl', hw'⟩ := h'
  rw [hl] at hl'; cases hl'
  exact walk_unique hw hw'

/-- COMPLETENESS (repaired): the parser returns exactly the report of the first fault of the walk
    (success if there is none), with the walk's state, the root file closed -/
theorem outcome_is_first_fault (cfg : Cfg) (ign : Bool) (fs : FS) (root text : Bytes) (h : cfg.includePath = true)
    (hl : fs.lookup root = some text) :
    ∃ o st', WalkFile cfg ign fs root (o, st') ∧
      parseFile cfg ign fs root = (o.map Fault.report, st'.closed root) :=
  parseFile_eq_walk cfg ign fs root text h hl

/-- the same, from the walk to the parser -/
theorem first_fault_is_outcome (cfg : Cfg) (ign : Bool) (fs : FS) (root : Bytes) (h : cfg.includePath = true)
    (o : Option Fault) (st' : St) (hw : WalkFile cfg ign fs root (o, st')) :
    parseFile cfg ign fs root = (o.map Fault.report, st'.closed root) :=
  walkFile_sound hw h

/-- the same as an equivalence on results -/
theorem outcome_iff_walk (cfg : Cfg) (ign : Bool) (fs : FS) (root text : Bytes) (h : cfg.includePath = true)
    (hl : fs.lookup root = some text) (res : Result) :
    parseFile cfg ign fs root = res ↔
      ∃ o st', WalkFile cfg ign fs root (o, st') ∧ res = (o.map Fault.report, st'.closed root) := by
  constructor
  · rintro rfl
    exact parseFile_eq_walk cfg ign fs root text h hl
  · rintro ⟨o, st', hw, rfl⟩
    exact walkFile_sound hw h

/-- what `Fault.report` turns into a RecursiveIncludeError: the faults `includeOnPath`, and only they -/
theorem report_recursive_iff (flt : Fault) (file n : Bytes) (l : Nat) :
    flt.report = .recursive file l n ↔ flt.kind = .includeOnPath n ∧ flt.path.headD [] = file ∧ flt.line = l :=
  flt.report_eq_recursive_iff file n l

/-- (repaired) RecursiveIncludeError `{File f, Line l, Filename n}` is reported IF AND ONLY IF the
    first fault of the walk is the directive `$INCLUDE n` at line `l` of `f`, `n` being on the
    include path at that moment -/
theorem recursive_iff_first_fault_on_path (cfg : Cfg) (ign : Bool) (fs : FS) (root f n : Bytes) (l : Nat)
    (h : cfg.includePath = true) :
    (parseFile cfg ign fs root).1 = some (.recursive f l n) ↔
      ∃ flt st', WalkFile cfg ign fs root (some flt, st') ∧ flt.kind = .includeOnPath n ∧
        flt.path.headD [] = f ∧ flt.line = l :=
  parseFile_recursive_iff cfg ign fs root f n l h

/-- (repaired) if the walk's first fault is `includeOnPath n`, the result is the
    RecursiveIncludeError for `n` at that file and line (no other class); if it is of another kind,
    the result is not a RecursiveIncludeError (whatever cycles lie further on) -/
theorem first_fault_on_path_only_recursive (cfg : Cfg) (ign : Bool) (fs : FS) (root : Bytes)
    (h : cfg.includePath = true) (flt : Fault) (st' : St) (hw : WalkFile cfg ign fs root (some flt, st')) :
    (∀ n, flt.kind = .includeOnPath n →
      (parseFile cfg ign fs root).1 = some (.recursive (flt.path.headD []) flt.line n)) ∧
    ((∀ n, flt.kind ≠ .includeOnPath n) → ∀ f l n, (parseFile cfg ign fs root).1 ≠ some (.recursive f l n)) := by
  rw [walkFile_sound hw h]
  constructor
  · intro n hk
    simp [(report_recursive_iff flt _ n _).mpr ⟨hk, rfl, rfl⟩]
  · intro hk f l n h
    simp at h
    exact hk n ((report_recursive_iff flt f n l).mp h).1

/-- (repaired) a reported RecursiveIncludeError `{File f, Line l, Filename n}` names a file on the
    include path of that moment: there is a path with head `f` and member `n`, which is a
    duplicate-free chain of include edges (`IncludeChain`: each member is `$INCLUDE`d by the next)
    ending in the root, all of whose members are files; `n` exists; and line `l`, counted from 1, of
    `f` is a directive `$INCLUDE n` -/
theorem recursive_names_file_on_path (cfg : Cfg) (ign : Bool) (fs : FS) (root f n : Bytes) (l : Nat)
    (h : cfg.includePath = true) (hr : (parseFile cfg ign fs root).1 = some (.recursive f l n)) :
    ∃ path, path.headD [] = f ∧ n ∈ path ∧
      path ≠ [] ∧ path.getLast? = some root ∧ path.Nodup ∧ IncludeChain fs path ∧
      (∀ x, x ∈ path → (fs.lookup x).isSome = true) ∧
      (fs.lookup n).isSome = true ∧
      ∃ t, fs.lookup f = some t ∧ 1 ≤ l ∧
        ∃ raw, (Lex.lines t).1[l - 1]? = some raw ∧ Lex.fields (Lex.stripComment raw) = [kwINCLUDE, n] := by
  obtain ⟨flt, st', hw, hk, rfl, rfl⟩ := (parseFile_recursive_iff cfg ign fs root f n l h).mp hr
  obtain ⟨hP, t, hlt, hm⟩ := walkFile_fault_wf hw
  rw [hk] at hm
  obtain ⟨hn, hsome, h1, raw, hget, hf⟩ := hm
  exact ⟨flt.path, rfl, hn, hP.ne, hP.last, hP.nodup, hP.chain, hP.files, hsome, t, hlt, h1, raw, hget, hf⟩

/-- (repaired) an open error at `{File f, Line l}` for the name `n`: `n` is not a file and line
    `l` of `f` is `$INCLUDE n` -/
theorem open_error_names_missing_file (cfg : Cfg) (ign : Bool) (fs : FS) (root f n : Bytes) (l : Nat)
    (h : cfg.includePath = true) (hr : (parseFile cfg ign fs root).1 = some (.openErr f l n)) :
    fs.lookup n = none ∧
      ∃ t, fs.lookup f = some t ∧ 1 ≤ l ∧
        ∃ raw, (Lex.lines t).1[l - 1]? = some raw ∧ Lex.fields (Lex.stripComment raw) = [kwINCLUDE, n] := by
  rcases opt_cases (fs.lookup root) with hl | ⟨text, hl⟩
  · rw [parseFile_none cfg ign fs root hl] at hr; simp at hr
  · obtain ⟨flt, st', hw, hrep, _⟩ := parseFile_fail_log cfg ign fs root text h hl _ hr
    obtain ⟨hP, t, hlt, hm⟩ := walkFile_fault_wf hw
    rcases flt with ⟨p, ln, k⟩
    cases k <;> simp only [Fault.report] at hrep <;> cases hrep
    obtain ⟨hnone, h1, raw, hget, hf⟩ := hm
    exact ⟨hnone, t, hlt, h1, raw, hget, hf⟩

/-- (repaired) every failure is the report of a well-formed first fault (`Fault.WellFormed`: a
    legitimate include path from the root, and a line that is what the kind of fault says) -/
theorem failure_is_wellformed_fault (cfg : Cfg) (ign : Bool) (fs : FS) (root text : Bytes)
    (h : cfg.includePath = true) (hl : fs.lookup root = some text) (e : Failure)
    (he : (parseFile cfg ign fs root).1 = some e) :
    ∃ flt st', WalkFile cfg ign fs root (some flt, st') ∧ e = flt.report ∧ flt.WellFormed fs root := by
  obtain ⟨flt, st', hw, hrep, _⟩ := parseFile_fail_log cfg ign fs root text h hl e he
  exact ⟨flt, st', hw, hrep, walkFile_fault_wf hw⟩

/-- the SPEC's fault `includeOnPath n` is a cycle of the include graph through `n` that is reachable
    from the root (about `Walk` and the graph only; the parser is not mentioned) -/
theorem fault_on_path_is_cycle (cfg : Cfg) (ign : Bool) (fs : FS) (root n : Bytes) (flt : Fault) (st' : St)
    (hw : WalkFile cfg ign fs root (some flt, st')) (hk : flt.kind = .includeOnPath n) : HasCycle fs root := by
  obtain ⟨hi, hback, hroot⟩ := Fault.onPath_cycle (walkFile_fault_wf hw) hk
  exact hasCycle_of_back_edge hi hback hroot

/-- (repaired) no false cycle on a DAG: diamonds and repeated includes are not reported
    (`acyclic_not_reported` under the name DESIGN.md uses) -/
theorem no_false_cycle_on_dag (cfg : Cfg) (ign : Bool) (fs : FS) (root : Bytes) (h : cfg.includePath = true)
    (hac : ¬ HasCycle fs root) (f n : Bytes) (l : Nat) :
    (parseFile cfg ign fs root).1 ≠ some (.recursive f l n) :=
  acyclic_not_reported cfg ign fs root h hac f n l

/-- (repaired) a graph with a reachable cycle is never accepted (contrapositive of `ok_implies_acyclic`);
    WHICH error is returned is the first fault's: see `recursive_iff_first_fault_on_path` -/
theorem cycle_never_accepted (cfg : Cfg) (ign : Bool) (fs : FS) (root : Bytes) (h : cfg.includePath = true)
    (hcyc : HasCycle fs root) : (parseFile cfg ign fs root).1 ≠ none :=
  fun hok => ok_implies_acyclic cfg ign fs root h hok hcyc

/-- (repaired, fix #11) on a pure include graph - every file scans, every line is blank/comment or a
    `$INCLUDE` of an existing file: the members with empty bodies of the family "all include graphs on
    up to 4 files" of the differential test - a RecursiveIncludeError is reported IF AND ONLY IF a cycle is reachable
    from the root -/
theorem pure_graph_recursive_iff (cfg : Cfg) (ign : Bool) (fs : FS) (root : Bytes) (h10 : cfg.includePath = true)
    (h11 : cfg.skipNoFields = true) (hp : PureIncludeFS fs) (hroot : (fs.lookup root).isSome = true) :
    (∃ f l n, (parseFile cfg ign fs root).1 = some (.recursive f l n)) ↔ HasCycle fs root :=
  RV.DictParser.pure_graph_recursive_iff cfg ign fs root h10 h11 hp hroot

/-- … and the parse succeeds if and only if there is none -/
theorem pure_graph_ok_iff (cfg : Cfg) (ign : Bool) (fs : FS) (root : Bytes) (h10 : cfg.includePath = true)
    (h11 : cfg.skipNoFields = true) (hp : PureIncludeFS fs) (hroot : (fs.lookup root).isSome = true) :
    (parseFile cfg ign fs root).1 = none ↔ ¬ HasCycle fs root :=
  pure_graph_accepted_iff cfg ign fs root h10 h11 hp hroot

/-! ### Logs over all outcomes: well nested; closed once or twice; exactly once on error paths

`Nested` (RV.Proofs.DictWalk): every successfully opened file is closed, in LIFO order, once - or
twice.  "Closed exactly once" is FALSE of parser.go for a file that is included successfully: it is
closed by the explicit `incFile.Close()` (parser.go line 233) and again by the deferred `Close()` of
line 214 (the second `Close` of an `*os.File` returns an error that the `defer` drops).  It is TRUE
on every error path and for the root file.  What is true is proved: -/

/-- both include rules, every outcome: the log is well nested -/
theorem log_well_nested (cfg : Cfg) (ign : Bool) (fs : FS) (root : Bytes) :
    Nested (parseFile cfg ign fs root).2.log :=
  parseFile_nested cfg ign fs root

/-- also for the current rule at every fuel -/
theorem log_well_nested_current (cfg : Cfg) (ign : Bool) (fs : FS) (root file text : Bytes) (fuel : Nat) :
    Nested (parseFileCur cfg ign fs root fuel file text {}).2.log :=
  parseFileCur_nested_log cfg ign fs root file text fuel

/-- the root file is opened first and closed last, once; in between the log is well nested -/
theorem log_root_bracket (cfg : Cfg) (ign : Bool) (fs : FS) (root text : Bytes) (hl : fs.lookup root = some text) :
    ∃ w, Nested w ∧ (parseFile cfg ign fs root).2.log = Event.opened root :: (w ++ [Event.closed root]) := by
  obtain ⟨w, hw, hoc⟩ := parseRoot_nested cfg ign fs root text (St.opened {} root)
  refine ⟨w, hoc, ?_⟩
  simp only [parseFile, hl, St.closed, hw]
  simp [St.opened]

/-- every name is closed at least as often as it is opened, and at most twice as often -/
theorem log_close_counts (cfg : Cfg) (ign : Bool) (fs : FS) (root n : Bytes) :
    (parseFile cfg ign fs root).2.log.count (Event.opened n) ≤ (parseFile cfg ign fs root).2.log.count (Event.closed n) ∧
    (parseFile cfg ign fs root).2.log.count (Event.closed n) ≤ 2 * (parseFile cfg ign fs root).2.log.count (Event.opened n) :=
  (parseFile_nested cfg ign fs root).count_le n

/-- well-nestedness implies `OpensClosed` -/
theorem nested_implies_opens_closed (w : List Event) (h : Nested w) : OpensClosed w :=
  h.opensClosed

/-- (repaired) a failing run: the log is `Unwound` along the include path of the first fault, root
    included - every file on that path is opened once and, after the fault, closed EXACTLY ONCE,
    innermost first; the stretches in between are well nested -/
theorem failure_log_unwound (cfg : Cfg) (ign : Bool) (fs : FS) (root text : Bytes) (h : cfg.includePath = true)
    (hl : fs.lookup root = some text) (e : Failure) (he : (parseFile cfg ign fs root).1 = some e) :
    ∃ flt st', WalkFile cfg ign fs root (some flt, st') ∧ e = flt.report ∧
      Unwound flt.path.reverse (parseFile cfg ign fs root).2.log :=
  parseFile_fail_log cfg ign fs root text h hl e he

/-- root → a → b → a: the first fault is `$INCLUDE a` at line 1 of `b`, the path being `[b, a, root]` -/
example (ign : Bool) : ∃ st', WalkFile Cfg.repaired ign fsNonRootCycle nmRoot
    (some ⟨[nmB, nmA, nmRoot], 1, .includeOnPath nmA⟩, st') := walk_nonRootCycle ign
example : (⟨[nmB, nmA, nmRoot], 1, .includeOnPath nmA⟩ : Fault).report = .recursive nmB 1 nmA := rfl
example : PureIncludeFS fsNonRootCycle := fsNonRootCycle_pure
/-- … so, by the equivalence for pure graphs alone, the cycle is reported -/
example (ign : Bool) : ∃ f l n, (parseFile Cfg.repaired ign fsNonRootCycle nmRoot).1 = some (.recursive f l n) :=
  (pure_graph_recursive_iff Cfg.repaired ign fsNonRootCycle nmRoot rfl rfl fsNonRootCycle_pure (by decide)).mpr
    fsNonRootCycle_cyclic

/-- a pure diamond with a repeated include: walked to the end; accepted; hence acyclic -/
example : PureIncludeFS fsPureDiamond := fsPureDiamond_pure
example (ign : Bool) : ∃ st', WalkFile Cfg.repaired ign fsPureDiamond nmRoot (none, st') := walk_pureDiamond ign
example (ign : Bool) : (parseFile Cfg.repaired ign fsPureDiamond nmRoot).1 = none := fsPureDiamond_ok ign
example : ¬ HasCycle fsPureDiamond nmRoot := fsPureDiamond_acyclic

/-- an earlier fault wins: the root's line 1 is refused, its line 2 is `$INCLUDE root`.  The graph
    HAS a cycle, the parse fails (`cycle_never_accepted`), but the report is the first fault - the
    refused line - and NOT a RecursiveIncludeError -/
example : HasCycle fsBadThenCycle nmRoot := fsBadThenCycle_cyclic
example (ign : Bool) : WalkFile Cfg.repaired ign fsBadThenCycle nmRoot
    (some ⟨[nmRoot], 1, .badLine .unknownLine⟩, St.opened {} nmRoot) := walk_badThenCycle ign
example (ign : Bool) : (parseFile Cfg.repaired ign fsBadThenCycle nmRoot).1 = some (.decl .unknownLine nmRoot 1) :=
  fsBadThenCycle_result ign
example (ign : Bool) (f n : Bytes) (l : Nat) :
    (parseFile Cfg.repaired ign fsBadThenCycle nmRoot).1 ≠ some (.recursive f l n) := by
  rw [fsBadThenCycle_result]; simp

/-- `Nested` discriminates: an unclosed open and crossed brackets are not well nested -/
example : ¬ Nested [Event.opened nmA] := not_nested_unclosed nmA
example : ¬ Nested [Event.opened nmA, Event.opened nmB, Event.closed nmA, Event.closed nmB] := not_nested_crossed
example : Nested [Event.opened nmRoot, Event.opened nmA, Event.closed nmA, Event.closed nmA, Event.closed nmRoot] :=
  Nested.file nmRoot false (Nested.file nmA true Nested.nil Nested.nil) Nested.nil

example : ¬ HasCycle fsDiamond nmRoot := fsDiamond_acyclic
example : (parseFile Cfg.repaired false fsDiamond nmRoot).1 = none := fsDiamond_ok
example : HasCycle fsNonRootCycle nmRoot := fsNonRootCycle_cyclic

/-! ### Never panics: every index expression is guarded

  The model has no panic outcome: its list accesses are total (`fields.getD i []`, `f.getD 7 0`,
  `t.take 7`, ...).  That this loses nothing is argued in RV.Proofs.DictGuards, in two steps.
  (1) Field counts: a branch of the `switch` of `parse` (parser.go 76-255) is entered only with the
  field count that its code - `parseAttribute` / `parseValue` / `parseVendor` included - indexes;
  a keyword line with any other count is UnknownLineError.  (2) `Guarded`: a copy of the per-line
  code in which every Go index expression `x[i]`, slice expression `x[a:b]` and indexed assignment
  is PARTIAL (`none` = run-time panic: `Guarded.at?`, `Guarded.slice`, `Guarded.setAt?`, with Go `int`
  indices) and `&&` / `||` short-circuit left to right.  The copy never yields `none`, and equals the
  model's function, for ALL inputs.
  Scope: index, slice and indexed-assignment expressions of parser.go 64-481.  Library calls
  (`strings.*`, `strconv.*`, `append`, map operations, `bufio`) are taken as non-panicking; the
  pointers the Go code dereferences (`attr`, `vendor`, `existing`, `vendorBlock`) are nil-checked
  there; a nil `p.Opener` is the caller's responsibility.  Unbounded recursion is excluded by
  `fixed_never_out_of_fuel` above (the repaired walk is a total function). -/

/-- the `switch` of one line (parser.go 76-255, with `parseAttribute`, `parseOID`, `parseValue`,
    `parseVendor`), every `fields[i]`, `f[3][j]`, `f[3][a:b]`, `s[i+1]`, `o[len(o)-1]` partial:
    no panic on any field list, and the result is the model's `dispatch` -/
theorem line_switch_never_panics (cfg : Cfg) (ign : Bool) (inc : IncludeHandler) (file : Bytes) (lineNo : Nat)
    (vb : Option Bytes) (st : St) (fields : List Bytes) :
    Guarded.dispatchG cfg ign inc file lineNo vb st fields = some (dispatch cfg ign inc file lineNo vb st fields) :=
  Guarded.dispatchG_eq cfg ign inc file lineNo vb st fields

/-- one iteration of the scan loop (parser.go 64-255; `line[:idx]` partial as well) -/
theorem scan_step_never_panics (cfg : Cfg) (ign : Bool) (inc : IncludeHandler) (file : Bytes) (lineNo : Nat)
    (vb : Option Bytes) (st : St) (raw : Bytes) :
    Guarded.stepLineG cfg ign inc file lineNo vb st raw = some (stepLine cfg ign inc file lineNo vb st raw) :=
  Guarded.stepLineG_eq cfg ign inc file lineNo vb st raw

theorem scan_step_is_some (cfg : Cfg) (ign : Bool) (inc : IncludeHandler) (file : Bytes) (lineNo : Nat)
    (vb : Option Bytes) (st : St) (raw : Bytes) :
    (Guarded.stepLineG cfg ign inc file lineNo vb st raw).isSome = true := by
  rw [Guarded.stepLineG_eq]; rfl

/-- `parseOID` (parser.go 282-306): `s[i+1]` and `o[len(o)-1]` are in range for every byte string;
    the result is the model's OID, `nil` (`[]`) where the model has `none` -/
theorem parseOID_never_panics (cfg : Cfg) (s : Bytes) :
    Guarded.parseOIDG cfg s = some ((parseOID cfg s).getD []) :=
  Guarded.parseOIDG_eq cfg s

/-- `parseAttribute` is only called with 4 or 5 fields (`f[1]`, `f[2]`, `f[3]`; `f[4]` under `len(f) >= 5`) -/
theorem parseAttribute_never_panics (cfg : Cfg) (f : List Bytes) (h : f.length = 4 ∨ f.length = 5) :
    Guarded.parseAttributeG cfg f = some (parseAttribute cfg (f.getD 1 []) (f.getD 2 []) (f.getD 3 [])
      (if f.length == 5 then some (f.getD 4 []) else none)) :=
  Guarded.parseAttributeG_eq cfg f h

/-- the type switch: `f[3][:7]`, `f[3][len(f[3])-1]`, `f[3][7:len(f[3])-1]` sit behind `len(f[3]) > 8` -/
theorem parseType_never_panics (t : Bytes) : Guarded.parseTypeG t = some (parseType t) :=
  Guarded.parseTypeG_eq t

/-- `parseValue` is only called with 4 fields; `f[3][2:]` sits behind `HasPrefix(f[3], "0x")` -/
theorem parseValue_never_panics (f : List Bytes) (h : f.length = 4) :
    Guarded.parseValueG f = some (parseValue (f.getD 1 []) (f.getD 2 []) (f.getD 3 [])) :=
  Guarded.parseValueG_eq f h

/-- `parseVendor` is only called with 3 or 4 fields (`f[3]` under `len(f) == 4`) -/
theorem parseVendor_never_panics (cfg : Cfg) (f : List Bytes) (h : f.length = 3 ∨ f.length = 4) :
    Guarded.parseVendorG cfg f = some (parseVendor cfg (f.getD 1 []) (f.getD 2 [])
      (if f.length == 4 then some (f.getD 3 []) else none)) :=
  Guarded.parseVendorG_eq cfg f h

/-- the `format=t,l` test (parser.go 469): `f[3][8]`, `f[3][7]`, `f[3][9]` are evaluated only after
    `len(f[3]) != 10` was found false; a field of any other length is refused without them -/
theorem vendor_format_never_panics (cfg : Cfg) (s : Bytes) : Guarded.formatOKG cfg s = some (formatOK cfg s) :=
  Guarded.formatOKG_eq cfg s

theorem vendor_format_wrong_length (cfg : Cfg) (s : Bytes) (h : s.length ≠ 10) :
    Guarded.formatOKG cfg s = some false ∧ formatOK cfg s = false :=
  ⟨Guarded.formatOKG_short cfg s h, Guarded.formatOK_of_length_ne cfg s h⟩

/-- a branch of the `switch` is entered only with the field count its code indexes:
    `maxIndex` = the largest `i` with `fields[i]` evaluated unconditionally in the branch -/
theorem branch_index_in_range (fields : List Bytes) (b : Branch) (h : branchOf fields = b) :
    ∀ i, maxIndex b = some i → i < fields.length := by
  have ha := (branchOf_spec fields).1
  rw [h] at ha
  intro i hi
  cases b <;> simp [maxIndex] at hi <;> subst hi <;> simp [arityOK] at ha <;> omega

/-- ... and `f[4]` (ATTRIBUTE, under `len(f) >= 5`), `f[3]` (VENDOR, under `len(f) == 4`) under their condition -/
theorem branch_cond_index_in_range (fields : List Bytes) (b : Branch) (h : branchOf fields = b) :
    ∀ i c, condIndex b = some (i, c) → c fields.length = true → i < fields.length := by
  intro i c hi hc
  cases b <;> simp [condIndex] at hi <;> obtain ⟨rfl, rfl⟩ := hi <;> simp at hc <;> omega

/-- the field counts of the branches: ATTRIBUTE 4|5, VALUE 4, VENDOR 3|4, BEGIN-VENDOR / END-VENDOR / $INCLUDE 2 -/
theorem branch_field_count (fields : List Bytes) : arityOK (branchOf fields) fields.length = true :=
  (branchOf_spec fields).1

/-- a keyword with any other field count is UnknownLineError, as is any other first field and a line without fields -/
theorem wrong_field_count_unknown_line (cfg : Cfg) (ign : Bool) (inc : IncludeHandler) (file : Bytes) (lineNo : Nat)
    (vb : Option Bytes) (st : St) (fields : List Bytes) (h : branchOf fields = .unknown) :
    dispatch cfg ign inc file lineNo vb st fields = .fail (.decl .unknownLine file lineNo) st :=
  dispatch_unknown_branch cfg ign inc file lineNo vb st fields h

theorem attribute_field_count (cfg : Cfg) (ign : Bool) (inc : IncludeHandler) (file : Bytes) (lineNo : Nat)
    (vb : Option Bytes) (st : St) (fields : List Bytes)
    (hk : fields.headD [] = kwATTRIBUTE) (h4 : fields.length ≠ 4) (h5 : fields.length ≠ 5) :
    dispatch cfg ign inc file lineNo vb st fields = .fail (.decl .unknownLine file lineNo) st :=
  dispatch_unknown_branch cfg ign inc file lineNo vb st fields (branchOf_wrong_count fields .attribute hk (by simp [arityOK, h4, h5]))

theorem value_field_count (cfg : Cfg) (ign : Bool) (inc : IncludeHandler) (file : Bytes) (lineNo : Nat)
    (vb : Option Bytes) (st : St) (fields : List Bytes) (hk : fields.headD [] = kwVALUE) (h4 : fields.length ≠ 4) :
    dispatch cfg ign inc file lineNo vb st fields = .fail (.decl .unknownLine file lineNo) st :=
  dispatch_unknown_branch cfg ign inc file lineNo vb st fields (branchOf_wrong_count fields .value hk (by simp [arityOK, h4]))

theorem vendor_field_count (cfg : Cfg) (ign : Bool) (inc : IncludeHandler) (file : Bytes) (lineNo : Nat)
    (vb : Option Bytes) (st : St) (fields : List Bytes)
    (hk : fields.headD [] = kwVENDOR) (h3 : fields.length ≠ 3) (h4 : fields.length ≠ 4) :
    dispatch cfg ign inc file lineNo vb st fields = .fail (.decl .unknownLine file lineNo) st :=
  dispatch_unknown_branch cfg ign inc file lineNo vb st fields (branchOf_wrong_count fields .vendor hk (by simp [arityOK, h3, h4]))

theorem begin_vendor_field_count (cfg : Cfg) (ign : Bool) (inc : IncludeHandler) (file : Bytes) (lineNo : Nat)
    (vb : Option Bytes) (st : St) (fields : List Bytes) (hk : fields.headD [] = kwBEGIN) (h2 : fields.length ≠ 2) :
    dispatch cfg ign inc file lineNo vb st fields = .fail (.decl .unknownLine file lineNo) st :=
  dispatch_unknown_branch cfg ign inc file lineNo vb st fields (branchOf_wrong_count fields .beginVendor hk (by simp [arityOK, h2]))

theorem end_vendor_field_count (cfg : Cfg) (ign : Bool) (inc : IncludeHandler) (file : Bytes) (lineNo : Nat)
    (vb : Option Bytes) (st : St) (fields : List Bytes) (hk : fields.headD [] = kwEND) (h2 : fields.length ≠ 2) :
    dispatch cfg ign inc file lineNo vb st fields = .fail (.decl .unknownLine file lineNo) st :=
  dispatch_unknown_branch cfg ign inc file lineNo vb st fields (branchOf_wrong_count fields .endVendor hk (by simp [arityOK, h2]))

theorem include_field_count (cfg : Cfg) (ign : Bool) (inc : IncludeHandler) (file : Bytes) (lineNo : Nat)
    (vb : Option Bytes) (st : St) (fields : List Bytes) (hk : fields.headD [] = kwINCLUDE) (h2 : fields.length ≠ 2) :
    dispatch cfg ign inc file lineNo vb st fields = .fail (.decl .unknownLine file lineNo) st :=
  dispatch_unknown_branch cfg ign inc file lineNo vb st fields (branchOf_wrong_count fields .include hk (by simp [arityOK, h2]))

theorem other_keyword_unknown_line (cfg : Cfg) (ign : Bool) (inc : IncludeHandler) (file : Bytes) (lineNo : Nat)
    (vb : Option Bytes) (st : St) (fields : List Bytes)
    (h1 : fields.headD [] ≠ kwATTRIBUTE) (h2 : fields.headD [] ≠ kwVALUE) (h3 : fields.headD [] ≠ kwVENDOR)
    (h4 : fields.headD [] ≠ kwBEGIN) (h5 : fields.headD [] ≠ kwEND) (h6 : fields.headD [] ≠ kwINCLUDE) :
    dispatch cfg ign inc file lineNo vb st fields = .fail (.decl .unknownLine file lineNo) st :=
  dispatch_unknown_branch cfg ign inc file lineNo vb st fields (branchOf_other_keyword fields h1 h2 h3 h4 h5 h6)

/-- (without fix #11) a line of white space only reaches the `switch` with no field: no `fields[0]`, UnknownLineError -/
theorem no_fields_unknown_line (cfg : Cfg) (ign : Bool) (inc : IncludeHandler) (file : Bytes) (lineNo : Nat)
    (vb : Option Bytes) (st : St) :
    dispatch cfg ign inc file lineNo vb st [] = .fail (.decl .unknownLine file lineNo) st :=
  dispatch_unknown_branch cfg ign inc file lineNo vb st [] rfl

/-- non-vacuity: the panic-aware primitives do panic where Go would -/
example : Guarded.idx [[1], [2], [3]] 3 = none ∧ Guarded.byteAt [1, 2, 3] 9 = none ∧ Guarded.slice [1, 2, 3] 2 1 = none ∧
    Guarded.byteAt [] (Guarded.len ([] : Bytes) - 1) = none := by decide
/-- `VENDOR x 1 f`: a fourth field shorter than 10 bytes is refused without touching `f[3][7..9]` -/
example : Guarded.formatOKG Cfg.tree [102] = some false := Guarded.formatOKG_short _ _ (by decide)

/-! ### I/O failures: a reader that fails, a `Close` that fails (RV.Model.DictParserIO)

  In the model above a file is `(name, text)` and neither reading nor closing it can fail; parser.go
  has an exit for each (`s.Err()` at line 258, `incFile.Close()` at line 233).  The layer
  RV.Model.DictParserIO gives every file two flags - `(name, text, readFails, closeFails)`, see the
  head of that file for what exactly the reader and `Close` do - and two further outcomes:
  `readErr` (the bare error of the reader) and `closeErr file line name` (a ParseError at the
  `$INCLUDE` line of the including file).  It mirrors the repaired include rule only.  Nothing
  above is changed by it: `io_refines` says that without flags it is the function all theorems above
  are about. -/

/-- without failure flags `parseFileIO` is `parseFile` (repaired rule) on the same files -/
theorem io_refines (cfg : Cfg) (ign : Bool) (fs : FSIO) (root : Bytes) (h : cfg.includePath = true)
    (hnf : fs.NoFlags) : parseFileIO cfg ign fs root = (parseFile cfg ign fs.erase root).lift :=
  parseFileIO_refines cfg ign fs root h hnf

/-- … in particular on every file system of the model above, read as one whose files never fail -/
theorem io_refines_embedded (cfg : Cfg) (ign : Bool) (fs : FS) (root : Bytes) (h : cfg.includePath = true) :
    parseFileIO cfg ign (FSIO.ofFS fs) root = (parseFile cfg ign fs root).lift := by
  rw [parseFileIO_refines cfg ign _ root h (FSIO.noFlags_ofFS fs), FSIO.erase_ofFS]

/-- the per-line code is the one of the model above: with one of its handlers, a step of the layer
    is its step -/
theorem io_line_step_faithful (cfg : Cfg) (ign : Bool) (h : IncludeHandler) (file : Bytes) (lineNo : Nat)
    (vb : Option Bytes) (st : St) (raw : Bytes) :
    stepLineIO cfg ign h.lift file lineNo vb st raw = (stepLine cfg ign h file lineNo vb st raw).lift :=
  stepLineIO_lift cfg ign h file lineNo vb st raw

/-- EVERY FILE OPENED IS CLOSED - on every file system, whichever readers and `Close` calls fail,
    whatever the outcome -/
theorem io_opens_closed (cfg : Cfg) (ign : Bool) (fs : FSIO) (root : Bytes) :
    OpensClosed (parseFileIO cfg ign fs root).2.log :=
  (parseFileIO_nested cfg ign fs root).opensClosed

/-- every failure is explained (`FailureIO.Explained`, RV.Proofs.DictIO): the clauses below, in one -/
theorem io_failure_explained (cfg : Cfg) (ign : Bool) (fs : FSIO) (root : Bytes) (e : FailureIO)
    (he : (parseFileIO cfg ign fs root).1 = some e) : e.Explained cfg ign fs root := by
  rcases opt_cases (fs.lookup root) with hl | ⟨en, hl⟩
  · rw [parseFileIO_none cfg ign fs root hl] at he
    simp at he; subst he; exact hl
  · rw [parseFileIO_some cfg ign fs root en hl] at he
    rcases hres : parseFileFixIO cfg ign fs [root] root en.1 en.2.1 (St.opened {} root) with ⟨e', st'⟩
    rw [hres] at he; simp at he; subst he
    exact parseFileFixIO_explained cfg ign fs root [root] root en.1 en.2.1 _ e st' ⟨_, hl⟩
      (fun p hp => Or.inl (by simpa using hp)) (Or.inl rfl) hres

/-- the bare read error is returned only if some file `g` on the walk has a failing reader, the
    scanner was content with what it delivered (no line of 64 KiB), and all lines of `g` went
    through: with a reader that does not fail, the parse of `g` from the same state and include path
    ends in success, or in nothing but `UnclosedVendorBlock` (which `s.Err()` precedes) -/
theorem io_read_failure_reported (cfg : Cfg) (ign : Bool) (fs : FSIO) (root : Bytes)
    (he : (parseFileIO cfg ign fs root).1 = some .readErr) :
    ∃ g e path st0 st1, (g = root ∨ Reaches fs.erase root g) ∧ fs.lookup g = some e ∧ e.2.1 = true ∧
      (Lex.lines e.1).2 = false ∧
      (parseFileFixIO cfg ign fs path g e.1 false st0 = (none, st1) ∨
       ∃ l, parseFileFixIO cfg ign fs path g e.1 false st0
         = (some (.base (.decl .unclosedVendorBlock g l)), st1)) :=
  io_failure_explained cfg ign fs root _ he

/-- a `Close` error is a ParseError `{File f, Line l}`: `f` is a file on the walk, line `l` of it,
    counted from 1, is the directive `$INCLUDE n`, `n` is a file whose `Close` fails, and the parse
    of `n` (its reader included) went through without failure -/
theorem io_close_failure_reported (cfg : Cfg) (ign : Bool) (fs : FSIO) (root f n : Bytes) (l : Nat)
    (he : (parseFileIO cfg ign fs root).1 = some (.closeErr f l n)) :
    ∃ e en path st0 st1, (f = root ∨ Reaches fs.erase root f) ∧ fs.lookup f = some e ∧
      (1 ≤ l ∧ ∃ raw, (Lex.lines e.1).1[l - 1]? = some raw ∧
        Lex.fields (Lex.stripComment raw) = [kwINCLUDE, n]) ∧
      fs.lookup n = some en ∧ en.2.2 = true ∧
      parseFileFixIO cfg ign fs path n en.1 en.2.1 st0 = (none, st1) :=
  io_failure_explained cfg ign fs root _ he

/-- every ParseError-class failure, the `Close` error included, names a file of the file system
    and a line of it, counted from 1 -/
theorem io_error_line (cfg : Cfg) (ign : Bool) (fs : FSIO) (root : Bytes) (e : FailureIO)
    (he : (parseFileIO cfg ign fs root).1 = some e) :
    match e with
    | .base (.decl _ f l) | .base (.openErr f l _) | .base (.recursive f l _) | .closeErr f l _ =>
        ∃ en, fs.lookup f = some en ∧ 1 ≤ l ∧ l ≤ (Lex.lines en.1).1.length
    | _ => True := by
  have hx := io_failure_explained cfg ign fs root e he
  match e, hx with
  | .base (.decl _ f l), ⟨en, _, hl, h1, h2⟩ => exact ⟨en, hl, h1, h2⟩
  | .base (.openErr f l n), ⟨en, _, hl, hline, _⟩ => exact ⟨en, hl, hline.1, hline.le⟩
  | .base (.recursive f l n), ⟨en, _, hl, hline, _⟩ => exact ⟨en, hl, hline.1, hline.le⟩
  | .closeErr f l n, ⟨en, _, _, _, _, _, hl, hline, _⟩ => exact ⟨en, hl, hline.1, hline.le⟩
  | .base .scanner, _ => trivial
  | .base .rootOpen, _ => trivial
  | .base .outOfFuel, _ => trivial
  | .readErr, _ => trivial

/-- the layer has no fuel and never runs out of it -/
theorem io_never_out_of_fuel (cfg : Cfg) (ign : Bool) (fs : FSIO) (root : Bytes) :
    (parseFileIO cfg ign fs root).1 ≠ some (.base .outOfFuel) :=
  fun he => io_failure_explained cfg ign fs root _ he

/-- a reported RecursiveInclude is a real cycle of the include graph, whatever the flags -/
theorem io_cycle_reported (cfg : Cfg) (ign : Bool) (fs : FSIO) (root f n : Bytes) (l : Nat)
    (hr : (parseFileIO cfg ign fs root).1 = some (.base (.recursive f l n))) :
    Includes fs.erase f n ∧ (n = f ∨ Reaches fs.erase n f) ∧ (f = root ∨ Reaches fs.erase root f) := by
  obtain ⟨e, hw, hl, hline, _, hback⟩ := io_failure_explained cfg ign fs root _ hr
  exact ⟨hline.includes hl, hback, hw⟩

/-- acyclic graphs are never reported as recursive, whatever the flags -/
theorem io_no_false_cycle (cfg : Cfg) (ign : Bool) (fs : FSIO) (root : Bytes)
    (hac : ¬ HasCycle fs.erase root) (f n : Bytes) (l : Nat) :
    (parseFileIO cfg ign fs root).1 ≠ some (.base (.recursive f l n)) := by
  intro hr
  obtain ⟨hi, hback, hroot⟩ := io_cycle_reported cfg ign fs root f n l hr
  exact hac (hasCycle_of_back_edge hi hback hroot)

/-- a run that succeeds is - dictionary and log - the run of the model above on the same files … -/
theorem io_ok_is_plain_run (cfg : Cfg) (ign : Bool) (fs : FSIO) (root : Bytes) (h : cfg.includePath = true)
    (st : St) (hr : parseFileIO cfg ign fs root = (none, st)) : parseFile cfg ign fs.erase root = (none, st) :=
  (parseFileIO_ok cfg ign fs root st hr).1 h

/-- … so a graph with a reachable cycle is never accepted -/
theorem io_ok_implies_acyclic (cfg : Cfg) (ign : Bool) (fs : FSIO) (root : Bytes) (h : cfg.includePath = true)
    (hok : (parseFileIO cfg ign fs root).1 = none) : ¬ HasCycle fs.erase root := by
  apply parseFile_ok_acyclic cfg ign fs.erase root h
  rw [(parseFileIO_ok cfg ign fs root (parseFileIO cfg ign fs root).2 (Prod.ext hok rfl)).1 h]

/-- NO FAILURE IS SWALLOWED: if `ParseFile` succeeds, the root's reader did not fail, and every file
    that was opened for an `$INCLUDE` has a reader that does not fail and a `Close` that does not
    fail (`LogClean`); the log is the root's bracket around those opens and closes -/
theorem io_failures_not_swallowed (cfg : Cfg) (ign : Bool) (fs : FSIO) (root : Bytes) (st : St)
    (hr : parseFileIO cfg ign fs root = (none, st)) :
    (∃ en, fs.lookup root = some en ∧ en.2.1 = false) ∧
    ∃ w, st.log = Event.opened root :: (w ++ [Event.closed root]) ∧
      ∀ n, Event.opened n ∈ w → ∃ en, fs.lookup n = some en ∧ en.2.1 = false ∧ en.2.2 = false :=
  (parseFileIO_ok cfg ign fs root st hr).2

/-- for evaluation: `parseFileIO` is its twin with `fs.length + 1` levels of fuel -/
theorem io_eval (cfg : Cfg) (ign : Bool) (fs : FSIO) (root : Bytes) :
    parseFileIO cfg ign fs root = parseFileFuelIO cfg ign fs root := by
  rcases opt_cases (fs.lookup root) with hl | ⟨e, hl⟩
  · simp [parseFileIO, parseFileFuelIO, hl]
  · have : unvisited fs.erase [root] < fs.length + 1 := by
      have := unvisited_le_length fs.erase [root]
      have hlen : fs.erase.length = fs.length := by simp [FSIO.erase]
      omega
    simp only [parseFileIO, parseFileFuelIO, hl]
    rw [parseFuelIO_eq cfg ign fs _ _ _ _ _ _ this]

/-- the reader of the included file `a` fails after its last line: bare read error; `a` was closed
    (once: only the deferred `Close` runs), the root was closed; the VALUE of `a` had been read,
    the root's second line was not -/
example : parseFileIO Cfg.tree false fsReadFails nmRoot =
    (some .readErr,
     { dict := { values := [{ attrName := [65], name := [118], number := 1 }] },
       log := [.opened nmRoot, .opened nmA, .closed nmA, .closed nmRoot] }) := by
  rw [io_eval]; decide +kernel

/-- the same reader failing in the middle of a line: the scanner delivers the fragment `VAL`, and
    its refusal (line 2 of `a`) is reported, not the read error -/
example : (parseFileIO Cfg.tree false fsReadTruncated nmRoot).1 = some (.base (.decl .unknownLine nmA 2)) := by
  rw [io_eval]; decide +kernel

/-- a failing reader and an unclosed vendor block: the read error comes first -/
example : (parseFileIO Cfg.tree false fsReadThenUnclosed nmRoot).1 = some .readErr := by
  rw [io_eval]; decide +kernel
example : (parseFileIO Cfg.tree false [(nmRoot, textOpenBlock, false, false)] nmRoot).1
    = some (.base (.decl .unclosedVendorBlock nmRoot 2)) := by
  rw [io_eval]; decide +kernel

/-- the first `Close` of the included file fails: ParseError at line 1 of the ROOT naming `a`; `Close`
    of `a` was called twice (explicit + deferred), the root was closed -/
example : parseFileIO Cfg.tree false fsCloseFails nmRoot =
    (some (.closeErr nmRoot 1 nmA),
     { dict := { values := [{ attrName := [65], name := [118], number := 1 }] },
       log := [.opened nmRoot, .opened nmA, .closed nmA, .closed nmA, .closed nmRoot] }) := by
  rw [io_eval]; decide +kernel

/-- `Close` failures that do not show: the root's, and that of a file whose parse failed -/
example : parseFileIO Cfg.tree false fsCloseIgnored nmRoot =
    (some (.base (.recursive nmA 1 nmRoot)),
     { log := [.opened nmRoot, .opened nmA, .opened nmRoot, .closed nmRoot, .closed nmA, .closed nmRoot] }) := by
  rw [io_eval]; decide +kernel

/-- the flags are seen: the same files without them parse -/
example : (parseFileIO Cfg.tree false (FSIO.ofFS fsReadFails.erase) nmRoot).1 = none := by
  rw [io_eval]; decide +kernel
example : ¬ fsReadFails.NoFlags := fun h => by have := (h _ (List.mem_cons_of_mem _ List.mem_cons_self)).1; cases this

/-! #### Logs per HANDLE

  `io_opens_closed` matches opens and closes BY NAME.  Where one name is open twice - every
  RecursiveInclude opens a file that is already open on the include path - the later close of the
  outer handle also counts for the re-opened one: a log in which the re-opened handle is never closed
  satisfies `OpensClosed` (`io_opens_closed_is_by_name`).  The theorems below are about handles:
  `Nested` is the language of well-bracketed logs - every `opened n` is matched by its OWN
  `closed n`, once, or twice directly after one another; `ClosedTwice` / `UnwoundIO`
  (RV.Proofs.DictIO) say which handle gets which. -/

/-- every file system, any flags, every outcome: the log is well nested, handle by handle -/
theorem io_log_nested (cfg : Cfg) (ign : Bool) (fs : FSIO) (root : Bytes) :
    Nested (parseFileIO cfg ign fs root).2.log :=
  parseFileIO_nested cfg ign fs root

/-- … hence (the form of `log_close_counts`) every name is closed at least as often as it is opened,
    and at most twice as often -/
theorem io_close_counts (cfg : Cfg) (ign : Bool) (fs : FSIO) (root n : Bytes) :
    (parseFileIO cfg ign fs root).2.log.count (Event.opened n) ≤ (parseFileIO cfg ign fs root).2.log.count (Event.closed n) ∧
    (parseFileIO cfg ign fs root).2.log.count (Event.closed n) ≤ 2 * (parseFileIO cfg ign fs root).2.log.count (Event.opened n) :=
  (parseFileIO_nested cfg ign fs root).count_le n

/-- the root's handle (`ParseFile`'s `defer f.Close()`) is opened first and closed last, exactly ONCE,
    whatever the outcome; in between the log is well nested -/
theorem io_log_root_bracket (cfg : Cfg) (ign : Bool) (fs : FSIO) (root : Bytes) (en : Bytes × Bool × Bool)
    (hl : fs.lookup root = some en) :
    ∃ w, Nested w ∧ (parseFileIO cfg ign fs root).2.log = Event.opened root :: (w ++ [Event.closed root]) := by
  obtain ⟨w, hw, hsh⟩ := parseFileIO_log_shape cfg ign fs root en hl
  exact ⟨w, nested_of_shape hsh, hw⟩

/-- SUCCESS: every handle opened for an `$INCLUDE` is closed exactly TWICE (the explicit
    `incFile.Close()` and the deferred one, directly after one another: `ClosedTwice`), the root's
    exactly once; in numbers, between the root's open and close every name has twice as many closes
    as opens -/
theorem io_ok_closed_twice (cfg : Cfg) (ign : Bool) (fs : FSIO) (root : Bytes) (st : St)
    (hr : parseFileIO cfg ign fs root = (none, st)) :
    ∃ w, st.log = Event.opened root :: (w ++ [Event.closed root]) ∧ ClosedTwice w ∧
      ∀ n, w.count (Event.closed n) = 2 * w.count (Event.opened n) := by
  rcases opt_cases (fs.lookup root) with hl | ⟨en, hl⟩
  · rw [parseFileIO_none cfg ign fs root hl] at hr; simp at hr
  · obtain ⟨w, hw, hsh⟩ := parseFileIO_log_shape cfg ign fs root en hl
    rw [hr] at hw hsh
    exact ⟨w, hw, hsh, hsh.count_eq⟩

/-- FAILURE: every handle that was opened is closed before the error reaches the caller.  The log
    is unwound (`UnwoundIO`) along the handles `root :: ns` that are open when the failure arises:
    what completed before is `ClosedTwice`; the failure arises in the innermost of them, which is the
    file the error names; and after the events `t` of the failing line itself (`FaultTail`: for a
    RecursiveInclude the re-opened handle and its one close, for a failing `Close` the handle closed
    twice, else nothing) the log holds exactly ONE close per open handle, innermost first, the
    root's last -/
theorem io_failure_log_unwound (cfg : Cfg) (ign : Bool) (fs : FSIO) (root : Bytes) (en : Bytes × Bool × Bool)
    (hl : fs.lookup root = some en) (e : FailureIO) (he : (parseFileIO cfg ign fs root).1 = some e) :
    ∃ ns w, (parseFileIO cfg ign fs root).2.log = Event.opened root :: (w ++ [Event.closed root]) ∧
      UnwoundIO e root ns w ∧
      (∀ g, e.file? = some g → (root :: ns).getLast? = some g) ∧
      ∃ pre t, FaultTail e t ∧ w = pre ++ t ++ ns.reverse.map Event.closed := by
  obtain ⟨w, hw, hsh⟩ := parseFileIO_log_shape cfg ign fs root en hl
  rw [he] at hsh
  obtain ⟨ns, hu⟩ := hsh
  exact ⟨ns, w, hw, hu, hu.names_innermost, hu.suffix⟩

/-- RecursiveInclude `{File f, Line l, Filename n}`: the handle that was opened
    on `n` - a second handle on a file of the include path - is closed, once, at once; then the
    handles of the include path are closed, once each, innermost (`f`) first, the root's last -/
theorem io_recursive_reopened_handle_closed (cfg : Cfg) (ign : Bool) (fs : FSIO) (root f n : Bytes) (l : Nat)
    (he : (parseFileIO cfg ign fs root).1 = some (.base (.recursive f l n))) :
    ∃ ns pre, (root :: ns).getLast? = some f ∧
      (parseFileIO cfg ign fs root).2.log
        = Event.opened root :: (pre ++ [Event.opened n, Event.closed n] ++ ns.reverse.map Event.closed
            ++ [Event.closed root]) := by
  rcases opt_cases (fs.lookup root) with hl | ⟨en, hl⟩
  · rw [parseFileIO_none cfg ign fs root hl] at he; simp at he
  · obtain ⟨ns, w, hw, _, hlast, pre, t, ht, hwt⟩ := io_failure_log_unwound cfg ign fs root en hl _ he
    refine ⟨ns, pre, hlast f rfl, ?_⟩
    rw [hw, hwt, ht.recursive_inv]

/-- `OpensClosed` alone would not do: root → a → a with the re-opened handle of `a` never closed
    has a close of that NAME after every open, and is not well nested -/
theorem io_opens_closed_is_by_name :
    OpensClosed [Event.opened nmRoot, Event.opened nmA, Event.opened nmA, Event.closed nmA, Event.closed nmRoot] ∧
    ¬ Nested [Event.opened nmRoot, Event.opened nmA, Event.opened nmA, Event.closed nmA, Event.closed nmRoot] := by
  constructor
  · intro pre n post h
    match pre, h with
    | [], h => simp at h; obtain ⟨rfl, rfl⟩ := h; simp
    | [_], h => simp at h; obtain ⟨_, rfl, rfl⟩ := h; simp
    | [_, _], h => simp at h; obtain ⟨_, _, rfl, rfl⟩ := h; simp
    | [_, _, _], h => simp at h
    | [_, _, _, _], h => simp at h
    | _ :: _ :: _ :: _ :: _ :: rest, h => cases rest <;> simp at h
  · intro h
    exact absurd (h.count_le nmA).1 (by decide)

/-- root → a → a, the `Close` of `a` fails: RecursiveInclude at line 1 of `a`.  `a` is open TWICE
    when the cycle is found; the re-opened handle is closed (once), then the first handle of `a`
    (once: its `Close` error cannot show), then the root -/
example : parseFileIO Cfg.tree false fsSelfCycleCloseFails nmRoot =
    (some (.base (.recursive nmA 1 nmA)),
     { log := [.opened nmRoot, .opened nmA, .opened nmA, .closed nmA, .closed nmA, .closed nmRoot] }) := by
  rw [io_eval]; decide +kernel
/-- … and this log is unwound along `[root, a]` with the tail `[opened a, closed a]` -/
example : UnwoundIO (.base (.recursive nmA 1 nmA)) nmRoot [nmA]
    ([] ++ Event.opened nmA :: (([] ++ [Event.opened nmA, Event.closed nmA]) ++ [Event.closed nmA])) :=
  .into nmA .nil (.here .nil (.reopened nmA 1 nmA) (by intro g hg; simp [FailureIO.file?] at hg; exact hg.symm))

/-- root → a → b, the reader of `b` fails: bare read error; `b`, `a`, the root are closed in that
    order, once each; the VALUE of `b` had been read, the lines after the includes were not -/
example : parseFileIO Cfg.tree false fsReadFailsDeep nmRoot =
    (some .readErr,
     { dict := { values := [{ attrName := [65], name := [118], number := 1 }] },
       log := [.opened nmRoot, .opened nmA, .opened nmB, .closed nmB, .closed nmA, .closed nmRoot] }) := by
  rw [io_eval]; decide +kernel
example : UnwoundIO .readErr nmRoot [nmA, nmB]
    ([] ++ Event.opened nmA :: (([] ++ Event.opened nmB :: (([] ++ []) ++ [Event.closed nmB])) ++ [Event.closed nmA])) :=
  .into nmA .nil (.into nmB .nil (.here .nil (.plain (by intros; simp) (by intros; simp))
    (by intro g hg; simp [FailureIO.file?] at hg)))

/-- a successful include is `ClosedTwice` -/
example : ClosedTwice [Event.opened nmA, Event.closed nmA, Event.closed nmA] := .file nmA .nil .nil

end RV.C15
