/-
  C16 — Dictionary language.
  "The parser accepts exactly the FreeRADIUS dictionary language it supports - ATTRIBUTE (name,
   dotted number, type incl. octets[n], flags has_tag / encrypt=n / concat), VALUE (decimal or
   0x-hex), VENDOR (optional format=t,l with t in {1,2,4} and l in {0,1,2}), BEGIN-VENDOR/END-VENDOR
   blocks, $INCLUDE, '#' comments and blank or whitespace-only lines - and the returned Dictionary
   lists precisely the declared attributes, values and vendors in declaration order with the
   declared names, numbers, types and flags, declarations inside a vendor block attached to that
   vendor. Layout (spacing, comments, blank lines, letter case of type names) never changes the
   result, and duplicate attribute names in a scope, duplicate vendor names or numbers, unknown
   vendors, nested/mismatched/unclosed vendor blocks, unknown types or flags, repeated flags and
   non-numeric numbers are rejected."

  Model: RV.Model.DictParser (mirror of dictionary/parser.go, with the repairs #11 #12 #13 as switches
  of `Cfg`).  Specification: RV.Model.DictSpec (abstract dictionaries `AD`, `toDictionary`,
  `Layout`, `render`, `WF`).  `parseText cfg ign text` = `Parser{IgnoreIdenticalAttributes: ign}.Parse`
  on a single text; its value is `(none, ⟨dictionary, _⟩)` or `(some failure, _)`.

  EXACTNESS: RV.Model.DictGrammar is a grammar of the language that
  does not call the parser; `accepts_exactly` : `parseText Cfg.repaired ign text = (none, ⟨d, []⟩) ↔
  Accepts ign text d`, built from the token-level (L1) and line-level (L2) equivalences.
  `parse_render` is the direction "every rendering of a well-formed abstract dictionary is accepted";
  `render_accepted` ties the two specifications together.

  Hypotheses that delimit the theorems (the code's behaviour outside is modelled and compared with
  the Go code by the correspondence run, see DESIGN §5 C16): names are non-empty strings of bytes
  that are neither white space nor `#` (`tokenOK`); OID components < 2⁶³, sizes / encrypt values /
  vendor numbers in the signed 32-bit range, VALUE numbers < 2³²; physical lines shorter than
  bufio's 64 KiB token limit.
-/
import RV.Model.DictSpec
import RV.Model.DictGrammar
import RV.Proofs.DictParser
import RV.Proofs.DictLines
import RV.Proofs.DictReject
namespace RV.C16
open RV RV.Dict RV.DictParser RV.DictParser.Lex RV.DictParser.Spec RV.DictParser.Grammar

/-- `strings.Fields` of `lead f₁ sep₁ f₂ … fₙ trail` (white space = non-empty runs of blanks and tabs
    between fields, possibly empty runs around) is exactly `[f₁, …, fₙ]` -/
theorem fields_join (lead trail : Bytes) (seps : Nat → Bytes) (toks : List Bytes)
    (hl : blanks lead = true) (ht : blanks trail = true)
    (hs : ∀ j, j < toks.length → blanks (seps j) = true ∧ seps j ≠ [])
    (htok : ∀ t ∈ toks, tokenOK t = true) :
    fields (lead ++ joinFields seps 0 toks ++ trail) = toks :=
  DictParser.fields_join lead trail seps toks hl ht hs htok

/-- a whitespace-only string has no fields -/
theorem fields_whitespace_only (w : Bytes) (hw : blanks w = true) : fields w = [] :=
  DictParser.fields_blanks w hw

/-- everything from the first `#` on is dropped -/
theorem comment_stripped (l : Bytes) (c : Option Bytes) (h : l.all (· != 35) = true) :
    stripComment (l ++ commentPart c) = l :=
  DictParser.stripComment_commentPart l c h

/-- … as a specification: the result is the longest prefix without `#` -/
theorem comment_rule (l p : Bytes) :
    stripComment l = p ↔ (∀ b ∈ p, b ≠ 35) ∧ (l = p ∨ ∃ c, l = p ++ 35 :: c) :=
  stripComment_iff l p

/-- bufio.ScanLines delivers exactly the physical lines of a text, for LF and CRLF terminators and
    with or without a terminator on the last line -/
theorem lines_of_text (ps : List (Bytes × Bool)) (final : Bool)
    (hclean : ∀ p ∈ ps, clean p.1 = true) (hshort : ∀ p ∈ ps, p.1.length + 1 < maxTokenSize)
    (hlast : final = false → ∀ p, ps.getLast? = some p → p.1 ≠ []) :
    Lex.lines (joinPhys ps final) = (ps.map (·.1), false) :=
  lines_joinPhys ps final hclean hshort hlast

/-- ATTRIBUTE: name, dotted number, type in any letter case incl. `octets[n]`, flags in any order -/
theorem parseLine_attribute (cfg : Cfg) (ign : Bool) (inc : IncludeHandler) (file : Bytes) (lineNo : Nat)
    (vb : Option Bytes) (st : St) (ll : LineLayout) (a : AAttr) (hll : ll.ok = true) (ha : a.ok = true)
    (hnew : attributeByName (scopeAttrs st.dict vb) a.name = none) :
    stepLine cfg ign inc file lineNo vb st (ll.content (attrTokens ll.caseMask a))
      = .next vb { st with dict := addAttr st.dict a.toAttribute vb } := by
  have := stepLine_aline cfg ign inc file lineNo vb st ll (.attr a) hll (by simp [stepOK, ha, hnew])
  simpa [ALine.tokens, applyLine] using this

/-- VALUE: decimal or `0x` hexadecimal -/
theorem parseLine_value (cfg : Cfg) (ign : Bool) (inc : IncludeHandler) (file : Bytes) (lineNo : Nat)
    (vb : Option Bytes) (st : St) (ll : LineLayout) (v : AValue) (hll : ll.ok = true) (hv : v.ok = true) :
    stepLine cfg ign inc file lineNo vb st (ll.content (valueTokens v))
      = .next vb { st with dict := addValue st.dict v.toValue vb } := by
  have := stepLine_aline cfg ign inc file lineNo vb st ll (.value v) hll (by simp [stepOK, hv])
  simpa [ALine.tokens, applyLine] using this

/-- VENDOR: with or without `format=t,l` -/
theorem parseLine_vendor (cfg : Cfg) (ign : Bool) (inc : IncludeHandler) (file : Bytes) (lineNo : Nat)
    (vb : Option Bytes) (st : St) (ll : LineLayout) (v : AVendor) (hll : ll.ok = true) (hv : v.ok = true)
    (hnew : vendorByNameOrNumber st.dict.vendors v.name v.number = none) :
    stepLine cfg ign inc file lineNo vb st (ll.content (vendorTokens v))
      = .next vb { st with dict := { st.dict with vendors := st.dict.vendors ++ [v.toVendor] } } := by
  have := stepLine_aline cfg ign inc file lineNo vb st ll (.vendor v) hll (by simp [stepOK, hv, hnew])
  simpa [ALine.tokens, applyLine] using this

/-- lines that declare nothing (blank, whitespace-only, comment with or without indentation) are skipped -/
theorem parseLine_filler (cfg : Cfg) (hfix : cfg.skipNoFields = true) (ign : Bool) (inc : IncludeHandler) (file : Bytes)
    (lineNo : Nat) (vb : Option Bytes) (st : St) (f : Filler) (hf : f.ok = true) :
    stepLine cfg ign inc file lineNo vb st f.content = .next vb st :=
  stepLine_filler cfg ign inc file lineNo vb st f hf (Or.inl hfix)

/-- the statement: every well-formed abstract dictionary, in every layout, parses to the dictionary it denotes -/
def parse_render_full (cfg : Cfg) : Prop :=
  ∀ (ign : Bool) (ℓ : Layout) (ad : AD), WF ad → LayoutOK ℓ ad →
    parseText cfg ign (render ℓ ad) = (none, { dict := toDictionary ad, log := [] })

/-- holds for the repaired parser (only fix #11 matters here) -/
theorem parse_render : parse_render_full Cfg.repaired :=
  fun ign ℓ ad hwf hlay => parseText_render Cfg.repaired ign ℓ ad hwf hlay (Or.inl rfl)

/-- … and for every variant of the code that has fix #11, whatever the other switches -/
theorem parse_render_any (cfg : Cfg) (h11 : cfg.skipNoFields = true) : parse_render_full cfg :=
  fun ign ℓ ad hwf hlay => parseText_render cfg ign ℓ ad hwf hlay (Or.inl h11)

/-- layout never changes the result -/
theorem layout_independent (ign : Bool) (ℓ₁ ℓ₂ : Layout) (ad : AD) (hwf : WF ad) (h₁ : LayoutOK ℓ₁ ad) (h₂ : LayoutOK ℓ₂ ad) :
    parseText Cfg.repaired ign (render ℓ₁ ad) = parseText Cfg.repaired ign (render ℓ₂ ad) := by
  rw [parse_render ign ℓ₁ ad hwf h₁, parse_render ign ℓ₂ ad hwf h₂]

/-- declaration order: the top-level attributes of the result are the top-level ATTRIBUTE declarations, in order -/
theorem toDictionary_attributes (ad : AD) :
    (toDictionary ad).attributes = ad.filterMap fun
      | .item (.attr a) => some a.toAttribute
      | _ => none :=
  ((foldl_addDecl_lists ad {}).1).trans (List.nil_append _)

/-- … the top-level values likewise -/
theorem toDictionary_values (ad : AD) :
    (toDictionary ad).values = ad.filterMap fun
      | .item (.value v) => some v.toValue
      | _ => none :=
  ((foldl_addDecl_lists ad {}).2.1).trans (List.nil_append _)

/-- … and the vendors are the VENDOR declarations in order (names and numbers; their attribute and
    value lists are filled by the blocks) -/
theorem toDictionary_vendors (ad : AD) :
    (toDictionary ad).vendors.map (fun v => (v.name, v.number)) = ad.filterMap fun
      | .vendor v => some (v.name, v.number)
      | _ => none :=
  ((foldl_addDecl_lists ad {}).2.2).trans (List.nil_append _)

/-! ### EXACTLY the language.
    RV.Model.DictGrammar writes the language down as a grammar that does not call the parser:
    token predicates (`Decimal`, `Int32Lit`, `ValueNumber`, `DottedNumber`, `FoldsTo`, `TypeTok`,
    `FlagItem`, `FlagField`, `FormatTok`), line rules with their context conditions (`LineDecl`: name new
    in the scope unless IgnoreIdenticalAttributes and identical; vendor name and number new; BEGIN-VENDOR
    of a declared vendor with no block open; END-VENDOR of the open block), texts (`LinesDecl`,
    `Accepts`: every line blank or a valid declaration, no line over the scanner limit, no block open at
    the end).  Three layers, all proved as equivalences:
      L1  each token parser accepts exactly its token language and returns the value the grammar assigns;
      L2  the directive switch lets a line pass exactly when `LineDecl` holds, with that state change;
      L3  `Parse` succeeds on a text exactly when `Accepts` holds, with that dictionary.
    The lexer (`Lex.lines`, `Lex.stripComment`, `Lex.fields`) is shared by both sides in L3; it has its
    own theorems above (`fields_join`, `comment_stripped`, `lines_of_text`). `$INCLUDE` is outside
    `Accepts` (C15): on a single text the opener knows no file, so such a line is refused. -/

/-- `strconv.ParseUint(s, 10, 32)`: non-empty digit strings below 2³², positional value -/
theorem token_decimal (s : Bytes) (n : Nat) : parseUint32Dec s = some n ↔ Decimal s ∧ decValue s = n ∧ n < 2 ^ 32 :=
  parseUint32Dec_iff s n

/-- `strconv.ParseUint(s, 16, 32)`: non-empty strings of `0-9a-fA-F` below 2³² -/
theorem token_hexadecimal (s : Bytes) (n : Nat) : parseUint32Hex s = some n ↔ Hexadecimal s ∧ hexValue s = n ∧ n < 2 ^ 32 :=
  parseUint32Hex_iff s n

/-- `strconv.ParseInt(s, 10, 32)` (vendor numbers, `encrypt=`, `octets[n]`): optional sign, digits, 32-bit range -/
theorem token_int32 (s : Bytes) (n : Int) : parseInt32 s = some n ↔ Int32Lit s n :=
  parseInt32_iff s n

/-- dotted numbers (fix #13: every component fits Go's int) -/
theorem token_oid (cfg : Cfg) (h13 : cfg.oidOverflowRejected = true) (s : Bytes) (o : List Int) :
    parseOID cfg s = some o ↔ ∃ comps, DottedNumber s comps ∧ (∀ c ∈ comps, decValue c < 2 ^ 63) ∧ o = oidOf comps :=
  parseOID_iff cfg h13 s o

/-- … in every configuration the syntax accepted is that of a dotted number -/
theorem token_oid_syntax (cfg : Cfg) (s : Bytes) (o : List Int) (h : parseOID cfg s = some o) : ∃ comps, DottedNumber s comps :=
  parseOID_dotted cfg s o h

/-- `strings.EqualFold` against the parser's lower-case constants -/
theorem token_fold (s t : Bytes) : foldEq s t = true ↔ FoldsTo s t := foldEq_iff s t

/-- type names in any letter case, and `octets[n]` -/
theorem token_type (t : Bytes) (ty : AttrType) (size : Option Int) : parseType t = .ok (ty, size) ↔ TypeTok t ty size :=
  parseType_iff t ty size

/-- the flag field: items separated by commas … -/
theorem token_flag_field (s : Bytes) (items : List Bytes) : splitComma s = items ↔ FlagField s items := splitComma_iff s items

/-- … each `has_tag`, `concat` or `encrypt=`+literal, no kind twice -/
theorem token_flags (items : List Bytes) (a a' : Attribute) :
    parseFlags items a = .ok a' ↔ ∃ fl, FlagItems items fl ∧ FlagsOnce a fl ∧ a' = fl.foldl applyFlag a :=
  parseFlags_iff items a a'

/-- (fix #12) `format=t,l` -/
theorem token_format (cfg : Cfg) (h12 : cfg.formatLenChecked = true) (f : Bytes) : formatOK cfg f = true ↔ ∃ t l, FormatTok f t l :=
  formatOK_iff cfg h12 f

/-- the arguments of ATTRIBUTE, VALUE, VENDOR.  `parseAttribute`: its errors are InvalidOIDError,
    UnknownAttributeTypeError, DuplicateAttributeFlagError, UnknownAttributeFlagError, InvalidAttributeEncryptTypeError -/
theorem attribute_args (cfg : Cfg) (h13 : cfg.oidOverflowRejected = true) (name oid typ : Bytes) (flags : Option Bytes) (a : Attribute) :
    parseAttribute cfg name oid typ flags = .ok a ↔ AttrArgs name oid typ flags a :=
  parseAttribute_iff cfg h13 name oid typ flags a

/-- `parseValue`: its only error is the bare `*strconv.NumError` of the number -/
theorem value_args (attr name num : Bytes) (v : Value) : parseValue attr name num = .ok v ↔ ValueArgs attr name num v :=
  parseValue_iff attr name num v

/-- `parseVendor`: its errors are the bare `*strconv.NumError` of the number and InvalidVendorFormatError -/
theorem vendor_args (cfg : Cfg) (h12 : cfg.formatLenChecked = true) (name num : Bytes) (fmt : Option Bytes) (v : Vendor) :
    parseVendor cfg name num fmt = .ok v ↔ VendorArgs name num fmt v :=
  parseVendor_iff cfg h12 name num fmt v

/-- the directive switch lets the fields of a line pass, with this change of (vendor block, dictionary),
    iff the line is a declaration of the grammar valid where it stands — or a `$INCLUDE` outside a
    vendor block that the include handler ran successfully (C15) -/
theorem line_accepted_iff (cfg : Cfg) (h12 : cfg.formatLenChecked = true) (h13 : cfg.oidOverflowRejected = true)
    (ign : Bool) (inc : IncludeHandler) (file : Bytes) (lineNo : Nat) (vb : Option Bytes) (st : St)
    (fields : List Bytes) (vb' : Option Bytes) (st' : St) :
    dispatch cfg ign inc file lineNo vb st fields = .next vb' st' ↔
      (LineDecl ign (vb, st.dict) fields (vb', st'.dict) ∧ st'.log = st.log) ∨
      (∃ n, fields = [kwINCLUDE, n] ∧ vb = none ∧ vb' = none ∧ inc n file lineNo st = (none, st')) :=
  dispatch_next_iff cfg h12 h13 ign inc file lineNo vb st fields vb' st'

/-- every other line is refused with a ParseError at this line -/
theorem line_refused (cfg : Cfg) (h12 : cfg.formatLenChecked = true) (h13 : cfg.oidOverflowRejected = true)
    (ign : Bool) (inc : IncludeHandler) (file : Bytes) (lineNo : Nat) (vb : Option Bytes) (st : St) (fields : List Bytes)
    (hno : ∀ s', ¬ LineDecl ign (vb, st.dict) fields s') (hinc : ∀ n, fields = [kwINCLUDE, n] → vb ≠ none) :
    ∃ c, dispatch cfg ign inc file lineNo vb st fields = .fail (.decl c file lineNo) st :=
  dispatch_fail_of_not_decl cfg h12 h13 ign inc file lineNo vb st fields hno hinc

/-- the field counts the switch lets through; everything else is UnknownLineError -/
theorem line_shape (cfg : Cfg) (ign : Bool) (inc : IncludeHandler) (file : Bytes) (lineNo : Nat) (vb : Option Bytes) (st : St)
    (fields : List Bytes) (h : shapeOK fields = false) :
    dispatch cfg ign inc file lineNo vb st fields = .fail (.decl .unknownLine file lineNo) st :=
  dispatch_unknown cfg ign inc file lineNo vb st fields h

/-- EXACTNESS: the repaired parser succeeds on a text, returning `d`, iff the text is a text of the
    language that declares `d` -/
theorem accepts_exactly (ign : Bool) (text : Bytes) (d : Dictionary) :
    parseText Cfg.repaired ign text = (none, { dict := d, log := [] }) ↔ Accepts ign text d := by
  rw [parseText_ok_iff Cfg.repaired rfl rfl rfl ign text]
  simp

/-- … for every variant of the code that has the fixes #11 #12 #13, and any final state -/
theorem accepts_exactly_any (cfg : Cfg) (h11 : cfg.skipNoFields = true) (h12 : cfg.formatLenChecked = true)
    (h13 : cfg.oidOverflowRejected = true) (ign : Bool) (text : Bytes) (st : St) :
    parseText cfg ign text = (none, st) ↔ Accepts ign text st.dict ∧ st.log = [] :=
  parseText_ok_iff cfg h11 h12 h13 ign text st

/-- … in terms of the value `Parse` returns -/
theorem outcome_ok_iff (ign : Bool) (text : Bytes) (d : Dictionary) :
    outcome (parseText Cfg.repaired ign text) = .ok d ↔ Accepts ign text d := by
  rcases hr : parseText Cfg.repaired ign text with ⟨_ | e, st⟩
  · have := (parseText_ok_iff Cfg.repaired rfl rfl rfl ign text st).mp hr
    simp only [outcome, Except.ok.injEq]
    constructor
    · rintro rfl; exact this.1
    · intro h
      have h2 := (accepts_exactly ign text d).mpr h
      rw [hr] at h2
      injection h2 with _ h3
      rw [h3]
  · simp only [outcome, reduceCtorEq, false_iff]
    intro h
    have h2 := (accepts_exactly ign text d).mpr h
    rw [hr] at h2
    cases h2

/-- the language assigns one dictionary to a text -/
theorem accepted_dictionary_unique (ign : Bool) (text : Bytes) (d₁ d₂ : Dictionary)
    (h₁ : Accepts ign text d₁) (h₂ : Accepts ign text d₂) : d₁ = d₂ := by
  have e₁ := (accepts_exactly ign text d₁).mpr h₁
  have e₂ := (accepts_exactly ign text d₂).mpr h₂
  rw [e₁] at e₂
  injection e₂ with _ h
  injection h

/-- a text on which the scanner stops with an error (`(Lex.lines text).2`: in the model, a segment of 65536
    bytes or more, bufio.ErrTooLong) is not in the language -/
theorem long_line_not_accepted (ign : Bool) (text : Bytes) (d : Dictionary) (h : (Lex.lines text).2 = true) :
    ¬ Accepts ign text d := by
  rintro ⟨h1, _⟩; rw [h] at h1; cases h1

/-- the two specifications agree: every rendering of a well-formed abstract dictionary is a text of
    the language, declaring the dictionary the abstract dictionary denotes -/
theorem render_accepted (ign : Bool) (ℓ : Layout) (ad : AD) (hwf : WF ad) (hlay : LayoutOK ℓ ad) :
    Accepts ign (render ℓ ad) (toDictionary ad) :=
  (accepts_exactly ign _ _).mp (parse_render ign ℓ ad hwf hlay)

/-- declarations are only ever appended: along an accepted text the top-level attribute and value
    lists and the vendor list (names, numbers) only grow at the end, in line order -/
theorem declarations_append_only (ign : Bool) (s s' : LState) (lines : List (List Bytes)) (h : LinesDecl ign s lines s') :
    Extends s.2 s'.2 :=
  linesDecl_extends h

/-! ### Rejections: one theorem per fault class, with the error class and the 1-based line.
    Shape: `ls` are the well-formed declaration lines before the fault (`GoodPrefix`), laid out by `ℓ`;
    the faulty line is laid out by `ll`; `R` is whatever follows.  The reported line is the number of
    physical lines of the prefix plus one. -/

def faultLine (ℓ : Layout) (ls : List ALine) : Nat := (physFrom ℓ 0 ls).length + 1

/-- DuplicateAttributeError (parser.go 87-104) -/
theorem dup_attr_in_scope (cfg : Cfg) (ign : Bool) (ℓ : Layout) (ls : List ALine) (ll : LineLayout) (a : AAttr) (R : Bytes)
    (e : Attribute) (hp : GoodPrefix cfg ℓ ls) (hll : ll.ok = true) (ha : a.ok = true)
    (hshort : (ll.content (attrTokens ll.caseMask a)).length + 1 < maxTokenSize)
    (hdup : attributeByName (scopeAttrs (stateAfter ls).2 (stateAfter ls).1) a.name = some e)
    (hne : ¬ (ign = true ∧ a.toAttribute = e)) :
    (parseText cfg ign (textOfLines ℓ ls ++ ll.content (attrTokens ll.caseMask a) ++ 10 :: R)).1
      = some (.decl .duplicateAttribute [] (faultLine ℓ ls)) :=
  reject_line cfg ign ℓ ls ll _ R _ hp hll (by simp [attrTokens]) (attrTokens_ok _ a ha) hshort
    (fun inc file lineNo st hst => by
      rw [dispatch_attrTokens cfg ign inc file lineNo _ st _ a ha]
      simp [attrStep, toAttribute_name, hst, hdup, hne])

/-- with IgnoreIdenticalAttributes an identical repetition is skipped silently instead -/
theorem identical_attr_ignored (cfg : Cfg) (inc : IncludeHandler) (file : Bytes) (lineNo : Nat) (vb : Option Bytes) (st : St)
    (ll : LineLayout) (a : AAttr) (hll : ll.ok = true) (ha : a.ok = true)
    (hdup : attributeByName (scopeAttrs st.dict vb) a.name = some a.toAttribute) :
    stepLine cfg true inc file lineNo vb st (ll.content (attrTokens ll.caseMask a)) = .next vb st :=
  by
  rw [stepLine_tokens cfg true inc file lineNo vb st ll _ hll (by simp [attrTokens]) (attrTokens_ok _ a ha),
    dispatch_attrTokens cfg true inc file lineNo vb st _ a ha]
  simp [attrStep, toAttribute_name, hdup]

/-- DuplicateVendorError -/
theorem dup_vendor_name_or_number (cfg : Cfg) (ign : Bool) (ℓ : Layout) (ls : List ALine) (ll : LineLayout) (v : AVendor)
    (R : Bytes) (hp : GoodPrefix cfg ℓ ls) (hll : ll.ok = true) (hv : v.ok = true)
    (hshort : (ll.content (vendorTokens v)).length + 1 < maxTokenSize)
    (hdup : ∃ w ∈ (stateAfter ls).2.vendors, w.name = v.name ∨ w.number = v.number) :
    (parseText cfg ign (textOfLines ℓ ls ++ ll.content (vendorTokens v) ++ 10 :: R)).1
      = some (.decl .duplicateVendor [] (faultLine ℓ ls)) := by
  obtain ⟨w, hw⟩ := vendorByNameOrNumber_some _ _ _ hdup
  exact reject_line cfg ign ℓ ls ll _ R _ hp hll (by simp [vendorTokens]) (vendorTokens_ok v hv) hshort
    (fun inc file lineNo st hst => by
      rw [dispatch_vendorTokens cfg ign inc file lineNo _ st v hv]
      simp only [vendorStep, AVendor.toVendor, hst, hw])

/-- UnknownVendorError -/
theorem unknown_vendor (cfg : Cfg) (ign : Bool) (ℓ : Layout) (ls : List ALine) (ll : LineLayout) (n R : Bytes)
    (hp : GoodPrefix cfg ℓ ls) (hll : ll.ok = true) (hn : tokenOK n = true)
    (hshort : (ll.content [kwBEGIN, n]).length + 1 < maxTokenSize)
    (htop : (stateAfter ls).1 = none) (hunk : vendorByName (stateAfter ls).2.vendors n = none) :
    (parseText cfg ign (textOfLines ℓ ls ++ ll.content [kwBEGIN, n] ++ 10 :: R)).1
      = some (.decl .unknownVendor [] (faultLine ℓ ls)) :=
  reject_line cfg ign ℓ ls ll _ R _ hp hll (by simp) (tokens_ok [] (.beginV n) hn) hshort
    (fun inc file lineNo st hst => by simp [htop, dispatch_begin_eq, beginStep, hst, hunk])

/-- NestedVendorBlockError -/
theorem nested_begin (cfg : Cfg) (ign : Bool) (ℓ : Layout) (ls : List ALine) (ll : LineLayout) (n v R : Bytes)
    (hp : GoodPrefix cfg ℓ ls) (hll : ll.ok = true) (hn : tokenOK n = true)
    (hshort : (ll.content [kwBEGIN, n]).length + 1 < maxTokenSize) (hin : (stateAfter ls).1 = some v) :
    (parseText cfg ign (textOfLines ℓ ls ++ ll.content [kwBEGIN, n] ++ 10 :: R)).1
      = some (.decl .nestedVendorBlock [] (faultLine ℓ ls)) :=
  reject_line cfg ign ℓ ls ll _ R _ hp hll (by simp) (tokens_ok [] (.beginV n) hn) hshort
    (fun inc file lineNo st _ => by simp [hin, dispatch_begin_eq, beginStep])

/-- InvalidEndVendorError -/
theorem mismatched_end (cfg : Cfg) (ign : Bool) (ℓ : Layout) (ls : List ALine) (ll : LineLayout) (n v R : Bytes)
    (hp : GoodPrefix cfg ℓ ls) (hll : ll.ok = true) (hn : tokenOK n = true)
    (hshort : (ll.content [kwEND, n]).length + 1 < maxTokenSize) (hin : (stateAfter ls).1 = some v) (hne : v ≠ n) :
    (parseText cfg ign (textOfLines ℓ ls ++ ll.content [kwEND, n] ++ 10 :: R)).1
      = some (.decl .invalidEndVendor [] (faultLine ℓ ls)) :=
  reject_line cfg ign ℓ ls ll _ R _ hp hll (by simp) (tokens_ok [] (.endV n) hn) hshort
    (fun inc file lineNo st _ => by simp [hin, dispatch_end_eq, endStep, hne])

/-- UnmatchedEndVendorError -/
theorem unmatched_end (cfg : Cfg) (ign : Bool) (ℓ : Layout) (ls : List ALine) (ll : LineLayout) (n R : Bytes)
    (hp : GoodPrefix cfg ℓ ls) (hll : ll.ok = true) (hn : tokenOK n = true)
    (hshort : (ll.content [kwEND, n]).length + 1 < maxTokenSize) (htop : (stateAfter ls).1 = none) :
    (parseText cfg ign (textOfLines ℓ ls ++ ll.content [kwEND, n] ++ 10 :: R)).1
      = some (.decl .unmatchedEndVendor [] (faultLine ℓ ls)) :=
  reject_line cfg ign ℓ ls ll _ R _ hp hll (by simp) (tokens_ok [] (.endV n) hn) hshort
    (fun inc file lineNo st _ => by simp [htop, dispatch_end_eq, endStep])

/-- a block still open at the end of the text is reported at the last line of the text -/
theorem unclosed_block (cfg : Cfg) (ign : Bool) (ℓ : Layout) (ls : List ALine) (n : Bytes)
    (hp : GoodPrefix cfg ℓ ls) (hopen : (stateAfter ls).1 = some n) :
    (parseText cfg ign (textOfLines ℓ ls)).1 = some (.decl .unclosedVendorBlock [] (physFrom ℓ 0 ls).length) :=
  unclosed_after_lines cfg ign ℓ ls n hp hopen

/-- a type token that `strings.EqualFold` equates with none of the 17 names and that does not end in `]` -/
theorem unknown_type (cfg : Cfg) (ign : Bool) (ℓ : Layout) (ls : List ALine) (ll : LineLayout) (name ty R : Bytes)
    (oid : List Nat) (fl : Option Bytes) (hp : GoodPrefix cfg ℓ ls) (hll : ll.ok = true)
    (hname : tokenOK name = true) (hty : tokenOK ty = true) (hfl : ∀ x ∈ fl.toList, tokenOK x = true)
    (hoid : oid ≠ [] ∧ ∀ c ∈ oid, c < 2 ^ 63)
    (hshort : (ll.content ([kwATTRIBUTE, name, showOID oid, ty] ++ fl.toList)).length + 1 < maxTokenSize)
    (hunk : ∀ t, foldEq ty (typeName t) = false) (hbr : ty.getLast? ≠ some 93) :
    (parseText cfg ign (textOfLines ℓ ls ++ ll.content ([kwATTRIBUTE, name, showOID oid, ty] ++ fl.toList) ++ 10 :: R)).1
      = some (.decl .unknownAttributeType [] (faultLine ℓ ls)) :=
  reject_type cfg ign ℓ ls ll name ty R oid fl _ hp hll hname hty hfl hoid hshort (parseType_unknown ty hunk hbr)

/-- a flag that is none of `has_tag`, `concat`, `encrypt=…`, after the well-formed flags of `a` -/
theorem unknown_flag (cfg : Cfg) (ign : Bool) (ℓ : Layout) (ls : List ALine) (ll : LineLayout) (a : AAttr) (bad R : Bytes)
    (more : List Bytes) (hp : GoodPrefix cfg ℓ ls) (hll : ll.ok = true) (ha : a.ok = true)
    (hfield : tokenOK (Spec.intercalate 44 (a.flags.map flagToken ++ bad :: more)) = true)
    (hcomma : ∀ t ∈ bad :: more, t.all (· != 44) = true)
    (hshort : (ll.content [kwATTRIBUTE, a.name, showOID a.oid, typeToken ll.caseMask a,
        Spec.intercalate 44 (a.flags.map flagToken ++ bad :: more)]).length + 1 < maxTokenSize)
    (h1 : (bad.take 8 == kwEncrypt) = false) (h2 : bad ≠ kwHasTag) (h3 : bad ≠ kwConcat) :
    (parseText cfg ign (textOfLines ℓ ls ++ ll.content [kwATTRIBUTE, a.name, showOID a.oid, typeToken ll.caseMask a,
        Spec.intercalate 44 (a.flags.map flagToken ++ bad :: more)] ++ 10 :: R)).1
      = some (.decl .unknownAttributeFlag [] (faultLine ℓ ls)) :=
  reject_flags cfg ign ℓ ls ll a (bad :: more) R _ hp hll ha (by simp) hfield hcomma hshort (parseFlags_unknown bad more _ h1 h2 h3)

/-- a flag of a kind that the preceding (well-formed) flags of `a` already contain -/
theorem repeated_flag (cfg : Cfg) (ign : Bool) (ℓ : Layout) (ls : List ALine) (ll : LineLayout) (a : AAttr) (f : Flag) (R : Bytes)
    (more : List Bytes) (hp : GoodPrefix cfg ℓ ls) (hll : ll.ok = true) (ha : a.ok = true)
    (hfield : tokenOK (Spec.intercalate 44 (a.flags.map flagToken ++ flagToken f :: more)) = true)
    (hcomma : ∀ t ∈ more, t.all (· != 44) = true)
    (hshort : (ll.content [kwATTRIBUTE, a.name, showOID a.oid, typeToken ll.caseMask a,
        Spec.intercalate 44 (a.flags.map flagToken ++ flagToken f :: more)]).length + 1 < maxTokenSize)
    (hrep : kindSet a.toAttribute f = true) :
    (parseText cfg ign (textOfLines ℓ ls ++ ll.content [kwATTRIBUTE, a.name, showOID a.oid, typeToken ll.caseMask a,
        Spec.intercalate 44 (a.flags.map flagToken ++ flagToken f :: more)] ++ 10 :: R)).1
      = some (.decl .duplicateAttributeFlag [] (faultLine ℓ ls)) :=
  reject_flags cfg ign ℓ ls ll a (flagToken f :: more) R _ hp hll ha (by simp) hfield
    (List.forall_mem_cons.2 ⟨flagToken_noComma f, hcomma⟩) hshort (parseFlags_repeated f more _ hrep)

/-- a "dotted number" containing a byte that is neither digit nor dot -/
theorem non_numeric_oid (cfg : Cfg) (ign : Bool) (ℓ : Layout) (ls : List ALine) (ll : LineLayout) (name oid ty R : Bytes)
    (fl : Option Bytes) (hp : GoodPrefix cfg ℓ ls) (hll : ll.ok = true)
    (htok : ∀ t ∈ [name, oid, ty] ++ fl.toList, tokenOK t = true)
    (hshort : (ll.content ([kwATTRIBUTE, name, oid, ty] ++ fl.toList)).length + 1 < maxTokenSize)
    (hbad : ∃ b ∈ oid, oidBad b = true) :
    (parseText cfg ign (textOfLines ℓ ls ++ ll.content ([kwATTRIBUTE, name, oid, ty] ++ fl.toList) ++ 10 :: R)).1
      = some (.decl .invalidOID [] (faultLine ℓ ls)) :=
  reject_line cfg ign ℓ ls ll _ R _ hp hll (by simp)
    (List.forall_mem_cons.2 ⟨by decide, htok⟩)
    hshort
    (fun inc file lineNo st _ => dispatch_attr_err cfg ign inc file lineNo _ st name oid ty fl _
      (by simp [parseAttribute, parseOID_bad cfg oid hbad]))

/-- (fix #13) an OID of one component that does not fit Go's int: InvalidOIDError -/
theorem oid_overflow_rejected (cfg : Cfg) (h13 : cfg.oidOverflowRejected = true) (ign : Bool) (ℓ : Layout) (ls : List ALine)
    (ll : LineLayout) (name ty R : Bytes) (n : Nat) (hp : GoodPrefix cfg ℓ ls) (hll : ll.ok = true)
    (hname : tokenOK name = true) (hty : tokenOK ty = true)
    (hshort : (ll.content [kwATTRIBUTE, name, showDec n, ty]).length + 1 < maxTokenSize) (hbig : 2 ^ 63 ≤ n) :
    (parseText cfg ign (textOfLines ℓ ls ++ ll.content [kwATTRIBUTE, name, showDec n, ty] ++ 10 :: R)).1
      = some (.decl .invalidOID [] (faultLine ℓ ls)) :=
  reject_line cfg ign ℓ ls ll _ R _ hp hll (by simp)
    (List.forall_mem_cons.2 ⟨by decide, List.forall_mem_cons.2 ⟨hname, List.forall_mem_cons.2 ⟨tokenOK_showDec n,
      List.forall_mem_singleton.2 hty⟩⟩⟩)
    hshort
    (fun inc file lineNo st _ => dispatch_attr_err cfg ign inc file lineNo _ st name _ ty none _
      (by
        have := parseOID_overflow_first cfg h13 n [] hbig
        simp only [List.append_nil] at this
        simp [parseAttribute, this]))

/-- a VALUE number (not `0x…`) containing a non-digit -/
theorem non_numeric_value (cfg : Cfg) (ign : Bool) (ℓ : Layout) (ls : List ALine) (ll : LineLayout) (a n num R : Bytes)
    (hp : GoodPrefix cfg ℓ ls) (hll : ll.ok = true) (htok : ∀ t ∈ [a, n, num], tokenOK t = true)
    (hshort : (ll.content [kwVALUE, a, n, num]).length + 1 < maxTokenSize)
    (h0x : (num.take 2 == kw0x) = false) (hbad : ∃ b ∈ num, isDigit b = false) :
    (parseText cfg ign (textOfLines ℓ ls ++ ll.content [kwVALUE, a, n, num] ++ 10 :: R)).1
      = some (.decl .strconv [] (faultLine ℓ ls)) :=
  reject_line cfg ign ℓ ls ll _ R _ hp hll (by simp)
    (List.forall_mem_cons.2 ⟨by decide, htok⟩)
    hshort
    (fun inc file lineNo st _ => by rw [dispatch_value_eq, parseValue_bad a n num h0x hbad]; rfl)

/-- a VENDOR number containing a byte that is neither digit nor sign -/
theorem non_numeric_vendor_number (cfg : Cfg) (ign : Bool) (ℓ : Layout) (ls : List ALine) (ll : LineLayout) (n num R : Bytes)
    (fmt : Option Bytes) (hp : GoodPrefix cfg ℓ ls) (hll : ll.ok = true)
    (htok : ∀ t ∈ [n, num] ++ fmt.toList, tokenOK t = true)
    (hshort : (ll.content ([kwVENDOR, n, num] ++ fmt.toList)).length + 1 < maxTokenSize)
    (hbad : ∃ b ∈ num, isDigit b = false ∧ b ≠ 43 ∧ b ≠ 45) :
    (parseText cfg ign (textOfLines ℓ ls ++ ll.content ([kwVENDOR, n, num] ++ fmt.toList) ++ 10 :: R)).1
      = some (.decl .strconv [] (faultLine ℓ ls)) :=
  reject_line cfg ign ℓ ls ll _ R _ hp hll (by simp)
    (List.forall_mem_cons.2 ⟨by decide, htok⟩)
    hshort
    (fun inc file lineNo st _ => by rw [dispatch_vendor_eq, parseVendor_bad_number cfg n num fmt hbad]; rfl)

/-- (fix #12) a fourth VENDOR field that is not `format=t,l` with t ∈ {1,2,4}, l ∈ {0,1,2} -/
theorem bad_vendor_format (cfg : Cfg) (h12 : cfg.formatLenChecked = true) (ign : Bool) (ℓ : Layout) (ls : List ALine)
    (ll : LineLayout) (n f R : Bytes) (num : Int) (hp : GoodPrefix cfg ℓ ls) (hll : ll.ok = true)
    (hn : tokenOK n = true) (hf : tokenOK f = true) (hnum : int32OK num = true)
    (hshort : (ll.content [kwVENDOR, n, showInt num, f]).length + 1 < maxTokenSize) (hbad : ¬ isFormatToken f) :
    (parseText cfg ign (textOfLines ℓ ls ++ ll.content [kwVENDOR, n, showInt num, f] ++ 10 :: R)).1
      = some (.decl .invalidVendorFormat [] (faultLine ℓ ls)) :=
  reject_line cfg ign ℓ ls ll _ R _ hp hll (by simp)
    (List.forall_mem_cons.2 ⟨by decide, List.forall_mem_cons.2 ⟨hn, List.forall_mem_cons.2 ⟨tokenOK_showInt num,
      List.forall_mem_singleton.2 hf⟩⟩⟩)
    hshort
    (fun inc file lineNo st _ => by
      rw [show [kwVENDOR, n, showInt num, f] = [kwVENDOR, n, showInt num] ++ (some f).toList from rfl, dispatch_vendor_eq,
        parseVendor_bad_format cfg h12 n num f hnum hbad]
      rfl)

/-- `encrypt=` followed by something that is no signed 32-bit decimal literal (non-numeric, empty,
    out of range), after the well-formed flags of `a`, none of which is an `encrypt=` -/
theorem bad_encrypt_value (cfg : Cfg) (ign : Bool) (ℓ : Layout) (ls : List ALine) (ll : LineLayout) (a : AAttr) (bad R : Bytes)
    (more : List Bytes) (hp : GoodPrefix cfg ℓ ls) (hll : ll.ok = true) (ha : a.ok = true)
    (hfield : tokenOK (Spec.intercalate 44 (a.flags.map flagToken ++ (kwEncrypt ++ bad) :: more)) = true)
    (hcomma : ∀ t ∈ (kwEncrypt ++ bad) :: more, t.all (· != 44) = true)
    (hshort : (ll.content [kwATTRIBUTE, a.name, showOID a.oid, typeToken ll.caseMask a,
        Spec.intercalate 44 (a.flags.map flagToken ++ (kwEncrypt ++ bad) :: more)]).length + 1 < maxTokenSize)
    (hfirst : a.toAttribute.encrypt = none) (hbad : ∀ n, ¬ Int32Lit bad n) :
    (parseText cfg ign (textOfLines ℓ ls ++ ll.content [kwATTRIBUTE, a.name, showOID a.oid, typeToken ll.caseMask a,
        Spec.intercalate 44 (a.flags.map flagToken ++ (kwEncrypt ++ bad) :: more)] ++ 10 :: R)).1
      = some (.decl .invalidAttributeEncryptType [] (faultLine ℓ ls)) :=
  reject_flags cfg ign ℓ ls ll a ((kwEncrypt ++ bad) :: more) R _ hp hll ha (by simp) hfield hcomma hshort
    (parseFlags_bad_encrypt bad more _ hfirst hbad)

/-- a string with a byte that is neither digit nor sign is no signed 32-bit literal … -/
theorem non_numeric_is_no_int32 (s : Bytes) (h : ∃ b ∈ s, isDigit b = false ∧ b ≠ 43 ∧ b ≠ 45) : ∀ n, ¬ Int32Lit s n :=
  not_int32Lit_of_nondigit s h

/-- … nor is a number outside −2³¹ … 2³¹−1 -/
theorem out_of_range_is_no_int32 (v : Nat) :
    (2 ^ 31 ≤ v → ∀ n, ¬ Int32Lit (showDec v) n) ∧ (2 ^ 31 < v → ∀ n, ¬ Int32Lit (45 :: showDec v) n) :=
  ⟨not_int32Lit_of_big v, not_int32Lit_of_small v⟩

/-- a type token that begins with `octets[` (any letter case) but is not `octets[` + signed 32-bit
    literal + `]`: the closing bracket is missing, or the size is empty, non-numeric or out of range -/
theorem malformed_octets_size (cfg : Cfg) (ign : Bool) (ℓ : Layout) (ls : List ALine) (ll : LineLayout) (name r R : Bytes)
    (oid : List Nat) (fl : Option Bytes) (hp : GoodPrefix cfg ℓ ls) (hll : ll.ok = true)
    (hname : tokenOK name = true) (hty : tokenOK (applyCase ll.caseMask kwOctetsBr ++ r) = true)
    (hfl : ∀ x ∈ fl.toList, tokenOK x = true) (hoid : oid ≠ [] ∧ ∀ c ∈ oid, c < 2 ^ 63)
    (hshort : (ll.content ([kwATTRIBUTE, name, showOID oid, applyCase ll.caseMask kwOctetsBr ++ r] ++ fl.toList)).length + 1
        < maxTokenSize)
    (hbad : ∀ lit n, r = lit ++ [93] → ¬ Int32Lit lit n) :
    (parseText cfg ign (textOfLines ℓ ls ++
        ll.content ([kwATTRIBUTE, name, showOID oid, applyCase ll.caseMask kwOctetsBr ++ r] ++ fl.toList) ++ 10 :: R)).1
      = some (.decl .unknownAttributeType [] (faultLine ℓ ls)) :=
  reject_type cfg ign ℓ ls ll name _ R oid fl _ hp hll hname hty hfl hoid hshort (parseType_octetsBr_error ll.caseMask r hbad)

/-- the missing bracket: what follows `octets[` does not end in `]` -/
theorem missing_bracket_is_malformed (r : Bytes) (h : r.getLast? ≠ some 93) : ∀ lit n, r = lit ++ [93] → ¬ Int32Lit lit n := by
  intro lit n hr
  rw [hr] at h
  simp at h

/-- the non-numeric (or empty, or out-of-range) size -/
theorem bad_size_is_malformed (lit : Bytes) (h : ∀ n, ¬ Int32Lit lit n) : ∀ lit' n, lit ++ [93] = lit' ++ [93] → ¬ Int32Lit lit' n := by
  intro lit' n hr
  have : lit = lit' := List.append_cancel_right hr
  rw [← this]; exact h n

/-- WRONG FIELD COUNTS: a line whose first field is a keyword but whose number of fields is not one the
    directive takes is an UnknownLineError (the `default:` of the switch). -/
theorem wrong_field_count (cfg : Cfg) (ign : Bool) (ℓ : Layout) (ls : List ALine) (ll : LineLayout) (kw : Bytes)
    (args : List Bytes) (R : Bytes) (hp : GoodPrefix cfg ℓ ls) (hll : ll.ok = true) (hkw : tokenOK kw = true)
    (hargs : ∀ t ∈ args, tokenOK t = true) (hshort : (ll.content (kw :: args)).length + 1 < maxTokenSize)
    (hshape : shapeOK (kw :: args) = false) :
    (parseText cfg ign (textOfLines ℓ ls ++ ll.content (kw :: args) ++ 10 :: R)).1
      = some (.decl .unknownLine [] (faultLine ℓ ls)) :=
  reject_line cfg ign ℓ ls ll _ R _ hp hll (by simp)
    (List.forall_mem_cons.2 ⟨hkw, hargs⟩)
    hshort
    (fun inc file lineNo st _ => dispatch_unknown cfg ign inc file lineNo _ st _ hshape)

/-- ATTRIBUTE takes 3 or 4 arguments -/
theorem attribute_wrong_field_count (cfg : Cfg) (ign : Bool) (ℓ : Layout) (ls : List ALine) (ll : LineLayout) (args : List Bytes)
    (R : Bytes) (hp : GoodPrefix cfg ℓ ls) (hll : ll.ok = true) (hargs : ∀ t ∈ args, tokenOK t = true)
    (hshort : (ll.content (kwATTRIBUTE :: args)).length + 1 < maxTokenSize) (hcount : args.length ≠ 3 ∧ args.length ≠ 4) :
    (parseText cfg ign (textOfLines ℓ ls ++ ll.content (kwATTRIBUTE :: args) ++ 10 :: R)).1
      = some (.decl .unknownLine [] (faultLine ℓ ls)) :=
  wrong_field_count cfg ign ℓ ls ll _ args R hp hll (by decide) hargs hshort (by rw [shapeOK_attribute]; simp [hcount.1, hcount.2])

/-- VALUE takes 3 arguments -/
theorem value_wrong_field_count (cfg : Cfg) (ign : Bool) (ℓ : Layout) (ls : List ALine) (ll : LineLayout) (args : List Bytes)
    (R : Bytes) (hp : GoodPrefix cfg ℓ ls) (hll : ll.ok = true) (hargs : ∀ t ∈ args, tokenOK t = true)
    (hshort : (ll.content (kwVALUE :: args)).length + 1 < maxTokenSize) (hcount : args.length ≠ 3) :
    (parseText cfg ign (textOfLines ℓ ls ++ ll.content (kwVALUE :: args) ++ 10 :: R)).1
      = some (.decl .unknownLine [] (faultLine ℓ ls)) :=
  wrong_field_count cfg ign ℓ ls ll _ args R hp hll (by decide) hargs hshort (by rw [shapeOK_value]; simp [hcount])

/-- VENDOR takes 2 or 3 arguments -/
theorem vendor_wrong_field_count (cfg : Cfg) (ign : Bool) (ℓ : Layout) (ls : List ALine) (ll : LineLayout) (args : List Bytes)
    (R : Bytes) (hp : GoodPrefix cfg ℓ ls) (hll : ll.ok = true) (hargs : ∀ t ∈ args, tokenOK t = true)
    (hshort : (ll.content (kwVENDOR :: args)).length + 1 < maxTokenSize) (hcount : args.length ≠ 2 ∧ args.length ≠ 3) :
    (parseText cfg ign (textOfLines ℓ ls ++ ll.content (kwVENDOR :: args) ++ 10 :: R)).1
      = some (.decl .unknownLine [] (faultLine ℓ ls)) :=
  wrong_field_count cfg ign ℓ ls ll _ args R hp hll (by decide) hargs hshort (by rw [shapeOK_vendor]; simp [hcount.1, hcount.2])

/-- BEGIN-VENDOR takes 1 argument -/
theorem begin_vendor_wrong_field_count (cfg : Cfg) (ign : Bool) (ℓ : Layout) (ls : List ALine) (ll : LineLayout) (args : List Bytes)
    (R : Bytes) (hp : GoodPrefix cfg ℓ ls) (hll : ll.ok = true) (hargs : ∀ t ∈ args, tokenOK t = true)
    (hshort : (ll.content (kwBEGIN :: args)).length + 1 < maxTokenSize) (hcount : args.length ≠ 1) :
    (parseText cfg ign (textOfLines ℓ ls ++ ll.content (kwBEGIN :: args) ++ 10 :: R)).1
      = some (.decl .unknownLine [] (faultLine ℓ ls)) :=
  wrong_field_count cfg ign ℓ ls ll _ args R hp hll (by decide) hargs hshort (by rw [shapeOK_begin]; simp [hcount])

/-- END-VENDOR takes 1 argument -/
theorem end_vendor_wrong_field_count (cfg : Cfg) (ign : Bool) (ℓ : Layout) (ls : List ALine) (ll : LineLayout) (args : List Bytes)
    (R : Bytes) (hp : GoodPrefix cfg ℓ ls) (hll : ll.ok = true) (hargs : ∀ t ∈ args, tokenOK t = true)
    (hshort : (ll.content (kwEND :: args)).length + 1 < maxTokenSize) (hcount : args.length ≠ 1) :
    (parseText cfg ign (textOfLines ℓ ls ++ ll.content (kwEND :: args) ++ 10 :: R)).1
      = some (.decl .unknownLine [] (faultLine ℓ ls)) :=
  wrong_field_count cfg ign ℓ ls ll _ args R hp hll (by decide) hargs hshort (by rw [shapeOK_end]; simp [hcount])

/-- $INCLUDE takes 1 argument -/
theorem include_wrong_field_count (cfg : Cfg) (ign : Bool) (ℓ : Layout) (ls : List ALine) (ll : LineLayout) (args : List Bytes)
    (R : Bytes) (hp : GoodPrefix cfg ℓ ls) (hll : ll.ok = true) (hargs : ∀ t ∈ args, tokenOK t = true)
    (hshort : (ll.content (kwINCLUDE :: args)).length + 1 < maxTokenSize) (hcount : args.length ≠ 1) :
    (parseText cfg ign (textOfLines ℓ ls ++ ll.content (kwINCLUDE :: args) ++ 10 :: R)).1
      = some (.decl .unknownLine [] (faultLine ℓ ls)) :=
  wrong_field_count cfg ign ℓ ls ll _ args R hp hll (by decide) hargs hshort (by rw [shapeOK_include']; simp [hcount])

/-- a first field that is none of the six keywords (keywords are case-sensitive: `attribute` is none) -/
theorem unknown_keyword (cfg : Cfg) (ign : Bool) (ℓ : Layout) (ls : List ALine) (ll : LineLayout) (kw : Bytes) (args : List Bytes)
    (R : Bytes) (hp : GoodPrefix cfg ℓ ls) (hll : ll.ok = true) (hkw : tokenOK kw = true) (hargs : ∀ t ∈ args, tokenOK t = true)
    (hshort : (ll.content (kw :: args)).length + 1 < maxTokenSize)
    (hno : kw ≠ kwATTRIBUTE ∧ kw ≠ kwVALUE ∧ kw ≠ kwVENDOR ∧ kw ≠ kwBEGIN ∧ kw ≠ kwEND ∧ kw ≠ kwINCLUDE) :
    (parseText cfg ign (textOfLines ℓ ls ++ ll.content (kw :: args) ++ 10 :: R)).1
      = some (.decl .unknownLine [] (faultLine ℓ ls)) :=
  wrong_field_count cfg ign ℓ ls ll kw args R hp hll hkw hargs hshort
    (shapeOK_unknown_keyword kw args hno.1 hno.2.1 hno.2.2.1 hno.2.2.2.1 hno.2.2.2.2.1 hno.2.2.2.2.2)

/-! ### History: the code as found (`Cfg.current`), before the fixes #11 #12 #13 -/

/-- defect #11: with the code as found the full statement is false … -/
theorem parse_render_current_counterexample : ¬ parse_render_full Cfg.current := by
  intro h
  have := h false { after := [{ ws := [32] }] } [] (by decide) ⟨by decide, by decide, by decide⟩
  revert this
  decide

/-- … the witness is a line holding one blank: UnknownLineError at line 1 -/
theorem whitespace_only_line_current : (parseText Cfg.current false [32, 10]).1 = some (.decl .unknownLine [] 1) := by
  decide

/-- … it holds for layouts without whitespace-only lines and indented comment lines -/
theorem parse_render_current_partial (ign : Bool) (ℓ : Layout) (ad : AD) (hwf : WF ad) (hlay : LayoutOK ℓ ad)
    (hno : NoIndentedFillers ℓ ad) :
    parseText Cfg.current ign (render ℓ ad) = (none, { dict := toDictionary ad, log := [] }) :=
  parseText_render Cfg.current ign ℓ ad hwf hlay (Or.inr hno)

/-- defect #12: `VENDOR x 1 format=1,9` was accepted with LengthOctets = 9 (`&&` for `||`) -/
theorem vendor_format_current_accepts :
    parseText Cfg.current false (kwVENDOR ++ [32, 120, 32, 49, 32] ++ kwFormat ++ [49, 44, 57, 10])
      = (none, { dict := { vendors := [{ name := [120], number := 1, typeOctets := some 1, lengthOctets := some 9 }] }, log := [] }) := by
  decide

set_option maxRecDepth 8000 in
/-- defect #13: the OID 99999999999999999999 was accepted as 7766279631452241919 (int wrap-around) -/
theorem oid_overflow_current_wraps :
    parseOID Cfg.current [57,57,57,57,57,57,57,57,57,57,57,57,57,57,57,57,57,57,57,57] = some [7766279631452241919]
    ∧ parseOID Cfg.repaired [57,57,57,57,57,57,57,57,57,57,57,57,57,57,57,57,57,57,57,57] = none := by
  constructor <;> decide

/-- `ATTRIBUTE User-Password 2 octets[16] encrypt=1,has_tag` ; `VENDOR Acme 99 format=2,1` ;
    a block of Acme with an attribute and a hex VALUE -/
def sampleAD : AD :=
  [ .item (.attr { name := [85,115,101,114,45,80,97,115,115,119,111,114,100], oid := [2], typ := .octets, size := some 16,
                   flags := [.encrypt 1, .hasTag] }),
    .vendor { name := [65,99,109,101], number := 99, format := some (2, 1) },
    .block [65,99,109,101]
      [ .attr { name := [88], oid := [1, 2], typ := .integer },
        .value { attr := [88], name := [121], number := 31, hex := true } ] ]

/-- tabs, CRLF, comments, whitespace-only and indented comment lines, mixed-case type names, no final newline -/
def sampleLayout : Layout :=
  { line := fun k => { before := if k == 1 then [{ ws := [32, 9] }, { ws := [32], comment := some [99] }] else [],
                       lead := [9], seps := [[32, 32], [9]], trail := [32], comment := if k == 0 then some [33] else none,
                       crlf := k % 2 == 0, caseMask := [true, false, true] },
    after := [{ comment := some [] }], finalNewline := false }

example : WF sampleAD := by decide
example : toDictionary sampleAD =
    { attributes := [{ name := [85,115,101,114,45,80,97,115,115,119,111,114,100], oid := [2], typ := .octets, size := some 16,
                       encrypt := some 1, hasTag := some true }],
      vendors := [{ name := [65,99,109,101], number := 99, typeOctets := some 2, lengthOctets := some 1,
                    attributes := [{ name := [88], oid := [1, 2], typ := .integer }],
                    values := [{ attrName := [88], name := [121], number := 31 }] }] } := by decide
example : layoutOKFrom sampleLayout 0 (flatten sampleAD) = true := by decide
example : ¬ NoIndentedFillers sampleLayout sampleAD := by
  show ¬ (noIndentFrom sampleLayout 0 (flatten sampleAD) = true)
  decide
/-- a prefix that stops inside a vendor block (for the block rejection theorems) -/
example : (stateAfter [.vendor { name := [65], number := 1 }, .beginV [65]]).1 = some [65] := by decide
example : isFormatToken (kwFormat ++ [52, 44, 48]) := ⟨4, 0, by simp, by simp, by decide⟩
example : ¬ isFormatToken (kwFormat ++ [49, 44, 57]) := by
  rintro ⟨t, l, ht, hl, h⟩
  rcases ht with rfl | rfl | rfl <;> rcases hl with rfl | rfl | rfl <;> revert h <;> decide


/-- `VENDOR Acme 99 format=2,1` / blank / `BEGIN-VENDOR Acme` / `ATTRIBUTE X 1.2 OcTeTs[+16] encrypt=-1,has_tag`
    / `VALUE X y 0x1F # c` / `END-VENDOR Acme`, CRLF on one line, no final newline -/
def sampleText : Bytes :=
  bs "VENDOR Acme 99 format=2,1\n \t\nBEGIN-VENDOR Acme\r\nATTRIBUTE X 1.2 OcTeTs[+16] encrypt=-1,has_tag\nVALUE X y 0x1F # c\nEND-VENDOR Acme"

def sampleDict : Dictionary :=
  { vendors := [{ name := bs "Acme", number := 99, typeOctets := some 2, lengthOctets := some 1,
                  attributes := [{ name := [88], oid := [1, 2], typ := .octets, size := some 16, encrypt := some (-1),
                                   hasTag := some true }],
                  values := [{ attrName := [88], name := [121], number := 31 }] }] }

/-- the code with the fixes #11 #12 #13 but the include rule as found: its `parseText` is defined by
    structural recursion (fuel), so the kernel can evaluate it; `Accepts` does not depend on the
    configuration -/
def cfgEval : Cfg := ⟨true, true, true, false⟩

set_option maxRecDepth 20000 in
/-- a text of the language (membership obtained through the exactness theorem, the parse by evaluation) -/
example : Accepts false sampleText sampleDict :=
  ((accepts_exactly_any cfgEval rfl rfl rfl false sampleText { dict := sampleDict, log := [] }).mp sampleText_parses).1

set_option maxRecDepth 20000 in
/-- … hence the repaired parser returns exactly that dictionary on it -/
example : parseText Cfg.repaired false sampleText = (none, { dict := sampleDict, log := [] }) :=
  (accepts_exactly false sampleText sampleDict).mpr
    ((accepts_exactly_any cfgEval rfl rfl rfl false sampleText { dict := sampleDict, log := [] }).mp sampleText_parses).1

set_option maxRecDepth 20000 in
/-- a text that is not in the language (`encrypt=` without a number), for every dictionary -/
example (d : Dictionary) : ¬ Accepts false (bs "ATTRIBUTE x 1 string encrypt=\n") d := by
  intro h
  have h1 := (accepts_exactly_any cfgEval rfl rfl rfl false _ { dict := d, log := [] }).mpr ⟨h, rfl⟩
  have h2 : (parseText cfgEval false (bs "ATTRIBUTE x 1 string encrypt=\n")).1
      = some (.decl .invalidAttributeEncryptType [] 1) := by decide +kernel
  rw [h1] at h2
  cases h2

set_option maxRecDepth 20000 in
/-- what the language does NOT forbid (parser.go checks attribute NAMES only, lines 87-104): two
    attributes of one scope with the same OID are both declared -/
example : Accepts false (bs "ATTRIBUTE a 1 string\nATTRIBUTE b 1 string\n")
    { attributes := [{ name := [97], oid := [1], typ := .string }, { name := [98], oid := [1], typ := .string }] } :=
  ((accepts_exactly_any cfgEval rfl rfl rfl false _ { dict := _, log := [] }).mp (by decide +kernel)).1

/-- the grammar itself, without the parser: `ATTRIBUTE x 1.02 StRiNg has_tag` at top level -/
example : LineDecl false (none, {}) [kwATTRIBUTE, [120], [49, 46, 48, 50], [83, 116, 82, 105, 78, 103], kwHasTag]
    (none, { attributes := [{ name := [120], oid := [1, 2], typ := .string, hasTag := some true }] }) :=
  LineDecl.attr [120] [49, 46, 48, 50] [83, 116, 82, 105, 78, 103] (some kwHasTag) _
    ⟨[[49], [48, 50]], .string, none, [.hasTag], ⟨by decide, by decide, rfl⟩, by decide,
      Or.inl ⟨rfl, .upper 83 (by decide) (by decide) (.same 116 (.upper 82 (by decide) (by decide) (.same 105
        (.upper 78 (by decide) (by decide) (.same 103 .nil)))))⟩,
      ⟨[kwHasTag], ⟨by decide, by decide, rfl⟩, .cons .hasTag .nil⟩, (by unfold FlagsOnce; decide), rfl⟩
    rfl

theorem goodPrefix_nil (cfg : Cfg) : GoodPrefix cfg {} [] :=
  ⟨by decide, by decide, by decide, Or.inr (by decide)⟩

theorem showOID_one : showOID [1] = [49] := by
  simp [showOID, Spec.intercalate, showDec]

/-- `ATTRIBUTE x 1 string encrypt=a` -/
example : (parseText Cfg.repaired false (textOfLines {} [] ++ ({} : LineLayout).content [kwATTRIBUTE, [120], showOID [1],
      typeToken [] { name := [120], oid := [1], typ := .string }, Spec.intercalate 44 ([] ++ (kwEncrypt ++ [97]) :: [])] ++ 10 :: [])).1
    = some (.decl .invalidAttributeEncryptType [] 1) :=
  bad_encrypt_value Cfg.repaired false {} [] {} { name := [120], oid := [1], typ := .string } [97] [] []
    (goodPrefix_nil _) (by decide) (by decide) (by decide) (by decide) (by rw [showOID_one]; decide) (by decide)
    (non_numeric_is_no_int32 _ (by decide))

/-- `encrypt=2147483648` is out of range, `encrypt=-2147483648` is not -/
example : (∀ n, ¬ Int32Lit (showDec 2147483648) n) ∧ Int32Lit (45 :: showDec 2147483648) (-2147483648) :=
  ⟨(out_of_range_is_no_int32 _).1 (by decide), by
    have := int32Lit_showInt (-2147483648) (by decide)
    simpa [showInt] using this⟩

/-- `ATTRIBUTE x 1 octets[16` (no bracket) and `ATTRIBUTE x 1 OCTETS[1x]` (non-numeric size) -/
example : (parseText Cfg.repaired false (textOfLines {} [] ++ ({} : LineLayout).content ([kwATTRIBUTE, [120], showOID [1],
      applyCase [] kwOctetsBr ++ [49, 54]] ++ (none : Option Bytes).toList) ++ 10 :: [])).1
    = some (.decl .unknownAttributeType [] 1) :=
  malformed_octets_size Cfg.repaired false {} [] {} [120] [49, 54] [] [1] none (goodPrefix_nil _) (by decide) (by decide)
    (by decide) (by simp) ⟨by decide, by decide⟩ (by rw [showOID_one]; decide) (missing_bracket_is_malformed _ (by decide))

example : (parseText Cfg.repaired false (textOfLines {} [] ++ ({ caseMask := [true, true, true, true, true, true] } : LineLayout).content
      ([kwATTRIBUTE, [120], showOID [1], applyCase [true, true, true, true, true, true] kwOctetsBr ++ ([49, 120] ++ [93])]
        ++ (none : Option Bytes).toList) ++ 10 :: [])).1
    = some (.decl .unknownAttributeType [] 1) :=
  malformed_octets_size Cfg.repaired false {} [] { caseMask := [true, true, true, true, true, true] } [120] ([49, 120] ++ [93]) [] [1]
    none (goodPrefix_nil _) (by decide) (by decide) (by decide) (by simp) ⟨by decide, by decide⟩ (by rw [showOID_one]; decide)
    (bad_size_is_malformed [49, 120] (non_numeric_is_no_int32 _ (by decide)))

/-- `VALUE a b` (two arguments), `BEGIN-VENDOR` (none), `attribute x 1 string` (keywords are case-sensitive) -/
example : (parseText Cfg.repaired false (textOfLines {} [] ++ ({} : LineLayout).content (kwVALUE :: [[97], [98]]) ++ 10 :: [])).1
    = some (.decl .unknownLine [] 1) :=
  value_wrong_field_count Cfg.repaired false {} [] {} [[97], [98]] [] (goodPrefix_nil _) (by decide) (by decide) (by decide) (by decide)
example : (parseText Cfg.repaired false (textOfLines {} [] ++ ({} : LineLayout).content (kwBEGIN :: []) ++ 10 :: [])).1
    = some (.decl .unknownLine [] 1) :=
  begin_vendor_wrong_field_count Cfg.repaired false {} [] {} [] [] (goodPrefix_nil _) (by decide) (by decide) (by decide) (by decide)
example : (parseText Cfg.repaired false (textOfLines {} [] ++ ({} : LineLayout).content (bs "attribute" :: [[120], [49], nmString]) ++ 10 :: [])).1
    = some (.decl .unknownLine [] 1) :=
  unknown_keyword Cfg.repaired false {} [] {} (bs "attribute") [[120], [49], nmString] [] (goodPrefix_nil _) (by decide) (by decide)
    (by decide) (by decide) (by decide)

end RV.C16
