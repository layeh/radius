/-
  C12 — laws of the generated attribute helpers (X_Add / X_Set / X_Del / X_Get / X_Lookup / X_Gets
  emitted by dictionarygen/attributes.go), for every descriptor the generator accepts, and more (`Desc.wf`),
  top-level and vendor attributes alike, and for an arbitrary hash `H` with 16-byte output.

  Vocabulary (RV/Proofs/Helper.lean):
    `Desc.wf d`            the flag combinations the generator emits code for (a superset of them)
    `valueOK d tag v`      = `valueTyped` (Go parameter type / width; tag 0 when the helper has no
                             tag parameter) ∧ three exclusions that correspond to known findings:
                             `tagInRange` (tag ≤ 0x1F), `tagIntFits` (tagged integer < 2^24),
                             `nulFree` (no NUL octet in an encrypt=1 text value)
    `canon d v`            the value a getter returns (addresses in 4- or 16-byte form, prefix with its
                             host bits cleared)
    `Desc.indep d d'`      the two descriptors address different storage
    `isWrite H d as as'`   as' is the result of a successful Set or Add of d on as, or of Del
    `encodeRefused …`      explicit refusal predicate of the encoding half of a setter
  The full-strength versions without each exclusion are stated as `…_full` and refuted.

  Further vocabulary:
    `Imp.hSetImp` / `Imp.hAddImp` / `Imp.hDelImp`   state-passing mirrors of the setters in the Go statement
                             order (RV/Model/HelperImp.lean): result AND attribute list afterwards,
                             also on error — section 6 below "refusal leaves the packet unchanged", section 11 negative control
    `AcceptsAs` / `Refuses`  outcome of Set and Add for an address value — section 6 address-family table, section 12
    `hGet`, `hGetString`, `hLookupString`, `hGetStrings`, `lookupResults`   X_Get & the string flavours — sections 2b, 14
    `Gen.valueConsts`, `Gen.stringsMap`, `Gen.valueString`, `Gen.lastWins`  value constants / `String()` — section 13
-/
import RV.Model.Helper
import RV.Proofs.Helper
import RV.Proofs.HelperImp
import RV.Proofs.HelperGet
import RV.Proofs.ValueConsts
import RV.Props.C01
import RV.Props.C10
namespace RV.C12
open RV

section
variable (H : Hash)

/-! ### 1. values survive encode → decode -/

/-- reading back what a setter stored gives the tag and the (canonical) value -/
theorem decode_encode (hH : ∀ x, (H x).length = 16) (d : Desc) (hwf : d.wf) (tag : UInt8) (v : GVal)
    (secret auth salt a : Bytes) (hv : valueOK d tag v)
    (he : encodeValue H d tag v secret auth salt = .ok a) :
    decodeValue H d a secret auth = .ok (tag, canon d v) :=
  decode_encode_all H hH hwf v a hv he

/-- `canon` uses the same host-bit clearing as C10's prefix round trip -/
theorem canon_prefix_is_C10 (ip : Bytes) (n : Nat) : maskIP' ip n = C10.maskIP ip n := rfl

/-! ### 2. Set then Get / Lookup / Gets -/

/-- after a successful X_Set(p, v), X_Lookup returns v with its tag — whatever the packet held -/
theorem set_lookup (hH : ∀ x, (H x).length = 16) (d : Desc) (hwf : d.wf) (hk : d.kind ≠ .concat)
    (as as' : Attrs) (tag : UInt8) (v : GVal) (secret auth salt : Bytes) (hv : valueOK d tag v)
    (h : hSet H d as tag v secret auth salt = .ok as') :
    hLookup H d as' secret auth = .val tag (canon d v) := by
  obtain ⟨a, he, hr⟩ := rawValues_hSet H hwf hk as as' v h
  exact hLookup_of_raw_single H hk as' a [] _ hr
    (decode_encode_all H hH hwf v a hv he)

/-- … and X_Gets returns exactly [v] -/
theorem set_gets_single (hH : ∀ x, (H x).length = 16) (d : Desc) (hwf : d.wf) (hk : d.kind ≠ .concat)
    (as as' : Attrs) (tag : UInt8) (v : GVal) (secret auth salt : Bytes) (hv : valueOK d tag v)
    (h : hSet H d as tag v secret auth salt = .ok as') :
    hGets H d as' secret auth = ([(tag, canon d v)], true) := by
  obtain ⟨a, he, hr⟩ := rawValues_hSet H hwf hk as as' v h
  rw [hGets_eq, hr, hGets_go_cons_ok H d secret auth a [] _
    (decode_encode_all H hH hwf v a hv he)]
  rfl

/-- exactly one stored occurrence is left -/
theorem set_stores_one (d : Desc) (hwf : d.wf) (hk : d.kind ≠ .concat)
    (as as' : Attrs) (tag : UInt8) (v : GVal) (secret auth salt : Bytes)
    (h : hSet H d as tag v secret auth salt = .ok as') :
    ∃ a, encodeValue H d tag v secret auth salt = .ok a ∧ rawValues d as' = [a] :=
  rawValues_hSet H hwf hk as as' v h

/-! ### 2b. X_Get, X_GetString(s), X_LookupString

    The templates emit `X_Get` as `tag, value, _ = X_Lookup(p)`: `hGet` is the pair of named results
    of `X_Lookup` at its `return` (`lookupResults`), the error dropped. -/

/-- X_Get against X_Lookup, in each of the three outcomes of X_Lookup: the reported value; the zero
    value (and tag 0) when the attribute is absent; and on a decoding error the results the failing
    decode left — the zero value for every kind but string / octets (there: the decrypted value of
    the wrong fixed size, or nil after a failed decryption; the stripped tag in either case) -/
theorem get_eq_lookup (d : Desc) (as : Attrs) (secret auth : Bytes) :
    match hLookup H d as secret auth with
    | .val t v => hGet H d as secret auth = (t, v)
    | .noAttr => hGet H d as secret auth = (0, GVal.zero d.kind)
    | .err => ∃ a, (rawValues d as).head? = some a ∧
        hGet H d as secret auth = lookupResults H d a secret auth ∧
        (d.kind ≠ .string ∧ d.kind ≠ .octets → (hGet H d as secret auth).2 = GVal.zero d.kind) :=
  hGet_spec H d as secret auth

/-- after a successful X_Set(p, v), X_Get returns v with its tag — whatever the packet held -/
theorem set_get (hH : ∀ x, (H x).length = 16) (d : Desc) (hwf : d.wf) (hk : d.kind ≠ .concat)
    (as as' : Attrs) (tag : UInt8) (v : GVal) (secret auth salt : Bytes) (hv : valueOK d tag v)
    (h : hSet H d as tag v secret auth salt = .ok as') :
    hGet H d as' secret auth = (tag, canon d v) :=
  hGet_of_lookup_val H as' _ _ (set_lookup H hH d hwf hk as as' tag v secret auth salt hv h)

/-- … and X_GetString (text attributes) returns it as a string -/
theorem set_getString (hH : ∀ x, (H x).length = 16) (d : Desc) (hwf : d.wf)
    (hk : d.kind = .string ∨ d.kind = .octets)
    (as as' : Attrs) (tag : UInt8) (v : GVal) (secret auth salt : Bytes) (hv : valueOK d tag v)
    (h : hSet H d as tag v secret auth salt = .ok as') :
    hGetString H d as' secret auth = (tag, canon d v) ∧
    hLookupString H d as' secret auth = .val tag (canon d v) ∧
    hGetStrings H d as' secret auth = ([(tag, canon d v)], true) := by
  have hc : d.kind ≠ .concat := by rcases hk with h | h <;> simp [h]
  have hk3 : d.kind = .string ∨ d.kind = .octets ∨ d.kind = .concat := hk.imp_right Or.inl
  rw [hGetString_eq H hk3, hLookupString_eq H hk3, hGetStrings_eq]
  exact ⟨set_get H hH d hwf hc as as' tag v secret auth salt hv h,
    set_lookup H hH d hwf hc as as' tag v secret auth salt hv h,
    set_gets_single H hH d hwf hc as as' tag v secret auth salt hv h⟩

/-- the string flavours are the byte flavours (Go's `string(b)` / `[]byte(s)` keep the bytes):
    X_LookupString = X_Lookup, X_GetString = X_Get, X_GetStrings = X_Gets, X_SetString = X_Set,
    X_AddString = X_Add -/
theorem string_variants_agree (d : Desc) (hk : d.kind = .string ∨ d.kind = .octets ∨ d.kind = .concat)
    (as : Attrs) (tag : UInt8) (s secret auth salt : Bytes) :
    hLookupString H d as secret auth = hLookup H d as secret auth ∧
    hGetString H d as secret auth = hGet H d as secret auth ∧
    hGetStrings H d as secret auth = hGets H d as secret auth ∧
    hSetString H d as tag s secret auth salt = hSet H d as tag (.bytes s) secret auth salt ∧
    hAddString H d as tag s secret auth salt = hAdd H d as tag (.bytes s) secret auth salt :=
  ⟨hLookupString_eq H hk as, hGetString_eq H hk as,
   hGetStrings_eq H d as secret auth, rfl, rfl⟩

/-- after X_Del, X_Get returns the zero value -/
theorem del_get (d : Desc) (as : Attrs) (secret auth : Bytes) :
    hGet H d (hDel d as) secret auth = (0, GVal.zero d.kind) :=
  hGet_of_lookup_noAttr H _
    (hLookup_of_raw_nil H _ (rawValues_hDel d as))

/-! ### 3. Add appends -/

/-- X_Add appends one stored value after the existing ones -/
theorem add_appends (d : Desc) (hwf : d.wf) (as as' : Attrs) (tag : UInt8) (v : GVal)
    (secret auth salt : Bytes) (h : hAdd H d as tag v secret auth salt = .ok as') :
    ∃ a, encodeValue H d tag v secret auth salt = .ok a ∧ rawValues d as' = rawValues d as ++ [a] :=
  rawValues_hAdd H hwf as as' v h

/-- X_Gets after X_Add = X_Gets before, followed by the added value (when the earlier values decode) -/
theorem add_gets_append (hH : ∀ x, (H x).length = 16) (d : Desc) (hwf : d.wf)
    (as as' : Attrs) (tag : UInt8) (v : GVal) (secret auth salt : Bytes) (hv : valueOK d tag v)
    (vs : List (UInt8 × GVal)) (hg : hGets H d as secret auth = (vs, true))
    (h : hAdd H d as tag v secret auth salt = .ok as') :
    hGets H d as' secret auth = (vs ++ [(tag, canon d v)], true) := by
  obtain ⟨a, he, hr⟩ := rawValues_hAdd H hwf as as' v h
  rw [hGets_eq] at hg ⊢
  rw [hr, hGets_go_append, hg,
    hGets_go_cons_ok H d secret auth a [] _ (decode_encode_all H hH hwf v a hv he)]
  rfl

/-- when an earlier stored value does not decode, X_Gets keeps reporting that error -/
theorem add_gets_earlier_error (d : Desc) (hwf : d.wf)
    (as as' : Attrs) (tag : UInt8) (v : GVal) (secret auth salt : Bytes)
    (vs : List (UInt8 × GVal)) (hg : hGets H d as secret auth = (vs, false))
    (h : hAdd H d as tag v secret auth salt = .ok as') :
    hGets H d as' secret auth = (vs, false) := by
  obtain ⟨a, _, hr⟩ := rawValues_hAdd H hwf as as' v h
  rw [hGets_eq] at hg ⊢
  rw [hr, hGets_go_append, hg]
  rfl

/-- a sequence of X_Add calls (tag, value, salt drawn for that call) -/
def addAll (d : Desc) (secret auth : Bytes) : Attrs → List (UInt8 × GVal × Bytes) → Res Attrs
  | as, [] => .ok as
  | as, (tag, v, salt) :: rest =>
    match hAdd H d as tag v secret auth salt with
    | .ok as' => addAll d secret auth as' rest
    | .err => .err
    | .fault => .fault

/-- X_Gets returns all added values, in the order they were added -/
theorem adds_gets_all (hH : ∀ x, (H x).length = 16) (d : Desc) (hwf : d.wf) (secret auth : Bytes)
    (ops : List (UInt8 × GVal × Bytes)) (hops : ∀ o ∈ ops, valueOK d o.1 o.2.1)
    (as as' : Attrs) (vs : List (UInt8 × GVal)) (hg : hGets H d as secret auth = (vs, true))
    (h : addAll H d secret auth as ops = .ok as') :
    hGets H d as' secret auth = (vs ++ ops.map (fun o => (o.1, canon d o.2.1)), true) := by
  induction ops generalizing as vs with
  | nil => simp only [addAll, Res.ok.injEq] at h; subst h; simpa using hg
  | cons o ops ih =>
    obtain ⟨tag, v, salt⟩ := o
    simp only [addAll] at h
    cases h1 : hAdd H d as tag v secret auth salt with
    | err => simp [h1] at h
    | fault => simp [h1] at h
    | ok as1 =>
      simp only [h1] at h
      have hv : valueOK d tag v := hops (tag, v, salt) (List.mem_cons_self)
      have := add_gets_append H hH d hwf as as1 tag v secret auth salt hv vs hg h1
      rw [ih (fun o ho => hops o (List.mem_cons_of_mem _ ho)) as1 _ this h]
      simp

/-! ### 4. Del removes every occurrence -/

/-- after `X_Del` no stored value is left, `X_Lookup` reports `ErrNoAttribute`, `X_Gets` returns none -/
theorem del_lookup_none (d : Desc) (as : Attrs) (secret auth : Bytes) :
    rawValues d (hDel d as) = [] ∧
    hLookup H d (hDel d as) secret auth = .noAttr ∧
    hGets H d (hDel d as) secret auth = ([], true) := by
  have hr := rawValues_hDel d as
  refine ⟨hr, hLookup_of_raw_nil H _ hr, ?_⟩
  rw [hGets_eq, hr]; rfl

/-! ### 5. an operation on one attribute never alters another -/

/-- every write of `d` (successful Set or Add — with whatever tag, value, secret, authenticator and
    salt: `isWrite` quantifies over them — or Del) leaves every read of an independent `d'`
    unchanged: stored values, Lookup, Gets -/
theorem noninterference (d d' : Desc) (hwf : d.wf) (hi : d.indep d') (as as' : Attrs)
    (hw : isWrite H d as as') (secret auth : Bytes) :
    rawValues d' as' = rawValues d' as ∧
    hLookup H d' as' secret auth = hLookup H d' as secret auth ∧
    hGets H d' as' secret auth = hGets H d' as secret auth := by
  have hr := rawValues_indep H d' hwf hi as as' hw
  exact ⟨hr, hLookup_congr H as as' hr, hGets_congr H as as' hr⟩

/-- a top-level write keeps every attribute of another type verbatim and in order -/
theorem top_write_keeps_others (d : Desc) (h0 : d.vendorID = 0) (as as' : Attrs)
    (hw : isWrite H d as as') :
    as'.filter (fun a => a.typ ≠ d.typ) = as.filter (fun a => a.typ ≠ d.typ) :=
  write_top_filter H h0 as as' hw

/-- a vendor write keeps the C14 view (foreign attributes verbatim, the vendor's other
    sub-attributes and residues byte for byte, all in order) -/
theorem vendor_write_keeps_view (d : Desc) (hwf : d.wf) (h0 : d.vendorID ≠ 0) (as as' : Attrs)
    (hw : isWrite H d as as') :
    othersView d.vendorID d.vendorType as' = othersView d.vendorID d.vendorType as :=
  (write_vendor H hwf h0 as as' hw).1

/-! ### 6. refusals -/

/-- setters return an error or a new packet, never panic.  (The pure `.err` carries no packet; what
    the packet holds after a refusal is stated about the imperative mirror in
    `refusal_leaves_unchanged` / `setImp_refusal_unchanged` below.) -/
theorem never_faults (d : Desc) (as : Attrs) (tag : UInt8) (v : GVal) (secret auth salt : Bytes) :
    hSet H d as tag v secret auth salt ≠ .fault ∧ hAdd H d as tag v secret auth salt ≠ .fault :=
  ⟨hSet_ne_fault H as v, hAdd_ne_fault H as v⟩

/-! #### the packet after a refusal — imperative mirror (RV/Model/HelperImp.lean)

    The pure `hSet` / `hAdd` return `.err` without a packet, so about them "unchanged on failure"
    says nothing.  `Imp.hSetImp` / `Imp.hAddImp` / `Imp.hDelImp` are state-passing mirrors of the same
    templates in the Go statement order: they return the result AND the attribute list the packet
    holds afterwards, also on error, and a mutation executed before a failing statement stays
    visible (see `old_vendor_set_order_changes_packet_on_refusal`). -/

/-- refinement: a successful imperative Set ends in exactly the list the pure model returns -/
theorem setImp_ok_iff (d : Desc) (as as' : Attrs) (tag : UInt8) (v : GVal) (secret auth salt : Bytes) :
    Imp.hSetImp H d tag v secret auth salt as = (.ok (), as') ↔ hSet H d as tag v secret auth salt = .ok as' := by
  rw [Imp.hSetImp_eq]; exact Imp.outcome_ok_iff _ _ _

theorem addImp_ok_iff (d : Desc) (as as' : Attrs) (tag : UInt8) (v : GVal) (secret auth salt : Bytes) :
    Imp.hAddImp H d tag v secret auth salt as = (.ok (), as') ↔ hAdd H d as tag v secret auth salt = .ok as' := by
  rw [Imp.hAddImp_eq]; exact Imp.outcome_ok_iff _ _ _

/-- Del never fails and ends in the pure model's list -/
theorem delImp_eq (d : Desc) (as : Attrs) : Imp.hDelImp d as = (.ok (), hDel d as) := Imp.hDelImp_eq d as

/-- refinement, outcome classes: the imperative mirror reports an error (a panic) exactly when the
    pure model does -/
theorem setImp_err_iff (d : Desc) (as : Attrs) (tag : UInt8) (v : GVal) (secret auth salt : Bytes) :
    ((Imp.hSetImp H d tag v secret auth salt as).1 = .err ↔ hSet H d as tag v secret auth salt = .err) ∧
    ((Imp.hSetImp H d tag v secret auth salt as).1 = .fault ↔ hSet H d as tag v secret auth salt = .fault) := by
  rw [Imp.hSetImp_eq]; exact ⟨Imp.outcome_err_iff _ _, Imp.outcome_fault_iff _ _⟩

theorem addImp_err_iff (d : Desc) (as : Attrs) (tag : UInt8) (v : GVal) (secret auth salt : Bytes) :
    ((Imp.hAddImp H d tag v secret auth salt as).1 = .err ↔ hAdd H d as tag v secret auth salt = .err) ∧
    ((Imp.hAddImp H d tag v secret auth salt as).1 = .fault ↔ hAdd H d as tag v secret auth salt = .fault) := by
  rw [Imp.hAddImp_eq]; exact ⟨Imp.outcome_err_iff _ _, Imp.outcome_fault_iff _ _⟩

/-- whenever the imperative Set / Add does not succeed, the attribute list it leaves behind is the one
    it found — for every descriptor (well-formed or not), tag, value, secret, authenticator, salt and
    prior packet.  The content is `Imp.hSetImp_eq`: in the template's statement order every mutation
    comes after the last statement that can fail (it fails for the earlier order, section 11) -/
theorem setImp_refusal_unchanged (d : Desc) (as : Attrs) (tag : UInt8) (v : GVal) (secret auth salt : Bytes)
    (h : (Imp.hSetImp H d tag v secret auth salt as).1 ≠ .ok ()) :
    (Imp.hSetImp H d tag v secret auth salt as).2 = as := by
  rw [Imp.hSetImp_eq] at h ⊢; exact Imp.outcome_unchanged _ _ h

theorem addImp_refusal_unchanged (d : Desc) (as : Attrs) (tag : UInt8) (v : GVal) (secret auth salt : Bytes)
    (h : (Imp.hAddImp H d tag v secret auth salt as).1 ≠ .ok ()) :
    (Imp.hAddImp H d tag v secret auth salt as).2 = as := by
  rw [Imp.hAddImp_eq] at h ⊢; exact Imp.outcome_unchanged _ _ h

/-- "Setters refuse … with an error and leave the packet unchanged": Set and Add end in an error or
    in success, never in a panic (first two conjuncts, about the pure model); the
    imperative mirrors reach the same verdict; and when that verdict is an error, the packet's
    attribute list after the call equals the list before the call -/
theorem refusal_leaves_unchanged (d : Desc) (as : Attrs) (tag : UInt8) (v : GVal) (secret auth salt : Bytes) :
    (hSet H d as tag v secret auth salt = .err ∨ ∃ as', hSet H d as tag v secret auth salt = .ok as') ∧
    (hAdd H d as tag v secret auth salt = .err ∨ ∃ as', hAdd H d as tag v secret auth salt = .ok as') ∧
    ((Imp.hSetImp H d tag v secret auth salt as = (.err, as) ∧ hSet H d as tag v secret auth salt = .err) ∨
      ∃ as', Imp.hSetImp H d tag v secret auth salt as = (.ok (), as') ∧ hSet H d as tag v secret auth salt = .ok as') ∧
    ((Imp.hAddImp H d tag v secret auth salt as = (.err, as) ∧ hAdd H d as tag v secret auth salt = .err) ∨
      ∃ as', Imp.hAddImp H d tag v secret auth salt as = (.ok (), as') ∧ hAdd H d as tag v secret auth salt = .ok as') ∧
    ((Imp.hSetImp H d tag v secret auth salt as).1 = .err → (Imp.hSetImp H d tag v secret auth salt as).2 = as) ∧
    ((Imp.hAddImp H d tag v secret auth salt as).1 = .err → (Imp.hAddImp H d tag v secret auth salt as).2 = as) := by
  have h := never_faults H d as tag v secret auth salt
  refine ⟨Res.err_or_ok h.1, Res.err_or_ok h.2, ?_, ?_, ?_, ?_⟩
  · rw [Imp.hSetImp_eq]; exact Imp.outcome_cases h.1 as
  · rw [Imp.hAddImp_eq]; exact Imp.outcome_cases h.2 as
  · intro he; exact setImp_refusal_unchanged H d as tag v secret auth salt (by rw [he]; exact fun h => nomatch h)
  · intro he; exact addImp_refusal_unchanged H d as tag v secret auth salt (by rw [he]; exact fun h => nomatch h)

/-- the encoding half of a setter errs exactly on the explicit refusal predicate -/
theorem encode_refused_iff (hH : ∀ x, (H x).length = 16) (d : Desc) (hwf : d.wf) (tag : UInt8)
    (v : GVal) (secret auth salt : Bytes) :
    encodeValue H d tag v secret auth salt = .err ↔ encodeRefused d tag v secret auth salt :=
  encodeValue_err_iff H hH hwf v

/-- X_Set is refused exactly when the value cannot be encoded or (vendor attribute) its encoding is
    empty or longer than 247 bytes; the condition does not mention the packet -/
theorem set_refused_iff (hH : ∀ x, (H x).length = 16) (d : Desc) (hwf : d.wf) (as : Attrs) (tag : UInt8)
    (v : GVal) (secret auth salt : Bytes) :
    hSet H d as tag v secret auth salt = .err ↔
      if d.kind = .concat then (∀ b, v ≠ .bytes b)
      else encodeRefused d tag v secret auth salt ∨
        (d.vendorID ≠ 0 ∧ ∃ a, encodeValue H d tag v secret auth salt = .ok a ∧
          (a.length = 0 ∨ 247 < a.length)) :=
  hSet_err_iff H hH hwf as v

theorem add_refused_iff (hH : ∀ x, (H x).length = 16) (d : Desc) (hwf : d.wf) (as : Attrs) (tag : UInt8)
    (v : GVal) (secret auth salt : Bytes) :
    hAdd H d as tag v secret auth salt = .err ↔
      d.kind = .concat ∨ encodeRefused d tag v secret auth salt ∨
        (d.vendorID ≠ 0 ∧ ∃ a, encodeValue H d tag v secret auth salt = .ok a ∧
          (a.length = 0 ∨ 247 < a.length)) :=
  hAdd_err_iff H hH hwf as v

/-- instances of the refusal predicate named in the property -/
theorem refuses_wrong_fixed_size (hH : ∀ x, (H x).length = 16) (d : Desc) (hwf : d.wf)
    (hk : d.kind = .string ∨ d.kind = .octets) (n : Nat) (hs : d.size = some n) (b : Bytes)
    (hb : b.length ≠ n) (as : Attrs) (tag : UInt8) (secret auth salt : Bytes) :
    hSet H d as tag (.bytes b) secret auth salt = .err ∧ hAdd H d as tag (.bytes b) secret auth salt = .err := by
  refine refused H hH hwf (by rcases hk with h | h <;> simp [h]) as _ ?_
  rcases hk with h | h <;> simp only [encodeRefused.eq_def, h] <;> left <;> simp [hs] <;> omega

/-- `X_Set` of an address attribute refuses a `net.IP` that `To4()` resp. `To16()` maps to nil -/
theorem refuses_wrong_address_family (hH : ∀ x, (H x).length = 16) (d : Desc) (hwf : d.wf)
    (ip : Bytes) (hk : (d.kind = .ipaddr ∧ to4 ip = none) ∨ (d.kind = .ipv6addr ∧ to16 ip = none))
    (as : Attrs) (tag : UInt8) (secret auth salt : Bytes) :
    hSet H d as tag (.bytes ip) secret auth salt = .err := by
  refine (refused H hH hwf (by rcases hk with ⟨h, _⟩ | ⟨h, _⟩ <;> simp [h]) as _ ?_).1
  rcases hk with ⟨h, h4⟩ | ⟨h, h4⟩ <;> simp only [encodeRefused.eq_def, h] <;> exact Or.inl h4

/-! #### address families: every combination of value shape × attribute kind

    `net.IP` is a byte slice of length 4 (IPv4) or 16 (IPv6, or IPv4 in its v4-mapped form
    `::ffff:a.b.c.d` — which is what `net.ParseIP("a.b.c.d")` and `net.IPv4(a,b,c,d)` return).
    `radius.NewIPAddr` uses `To4()`, `radius.NewIPv6Addr` uses `To16()`; both CONVERT between the two
    representations of an IPv4 address instead of refusing.  The model (`to4` / `to16` of
    RV/Model/Codec.lean) mirrors that.  Table, proved below for X_Set and X_Add, top-level and vendor
    attributes (`encrypt` absent, so that no key material is needed for an acceptance):

      value handed to the setter         | ipaddr attribute           | ipv6addr attribute
      -----------------------------------+----------------------------+---------------------------------
      4 octets                           | ACCEPT, stored as given    | ACCEPT (!), stored ::ffff:a.b.c.d
      16 octets, v4-mapped               | ACCEPT, stored last 4      | ACCEPT (!), stored as given
      16 octets, not v4-mapped           | refuse                     | ACCEPT, stored as given
      any other length (nil included)    | refuse                     | refuse

    (!) = an IPv4 address is accepted by an IPv6 attribute although the property text says setters
    refuse the "wrong address family"; see `ipv6_setter_accepts_ipv4_as_mapped`,
    `ipv6_setter_accepts_v4mapped` and `wrong_family_accepted_witness`. -/

/-- the 16-octet value is the v4-mapped form of an IPv4 address -/
def isV4Mapped (ip : Bytes) : Prop := ip.length = 16 ∧ ip.take 12 = v4InV6Prefix

instance (ip : Bytes) : Decidable (isV4Mapped ip) := by unfold isV4Mapped; infer_instance

/-- the encoding half for the two address kinds, any `encrypt` -/
theorem encode_ipaddr (d : Desc) (hk : d.kind = .ipaddr) (tag : UInt8) (ip secret auth salt : Bytes) :
    encodeValue H d tag (.bytes ip) secret auth salt =
      match to4 ip with
      | some b => obfuscate H d b secret auth salt
      | none => .err :=
  encodeValue_addr H (Or.inl ⟨hk, rfl, rfl⟩) ip

theorem encode_ipv6addr (d : Desc) (hk : d.kind = .ipv6addr) (tag : UInt8) (ip secret auth salt : Bytes) :
    encodeValue H d tag (.bytes ip) secret auth salt =
      match to16 ip with
      | some b => obfuscate H d b secret auth salt
      | none => .err :=
  encodeValue_addr H (Or.inr ⟨hk, rfl, rfl⟩) ip

/-- once the encoding half yields `a` (1..247 octets), Set stores exactly `a` and Add appends it -/
theorem set_add_of_encode (d : Desc) (hwf : d.wf) (hk : d.kind ≠ .concat) (tag : UInt8) (v : GVal)
    (secret auth salt a : Bytes) (he : encodeValue H d tag v secret auth salt = .ok a)
    (hl : 1 ≤ a.length ∧ a.length ≤ 247) (as : Attrs) :
    (∃ as', hSet H d as tag v secret auth salt = .ok as' ∧ rawValues d as' = [a]) ∧
    (∃ as', hAdd H d as tag v secret auth salt = .ok as' ∧ rawValues d as' = rawValues d as ++ [a]) :=
  hSet_hAdd_of_encode H hwf hk v a he hl as

/-- what "accepted, stored as `b`" means: Set succeeds and leaves exactly the stored value `b`,
    Add succeeds and appends `b`, and Lookup after the Set returns `b` -/
def AcceptsAs (d : Desc) (as : Attrs) (tag : UInt8) (ip secret auth salt b : Bytes) : Prop :=
  (∃ as', hSet H d as tag (.bytes ip) secret auth salt = .ok as' ∧ rawValues d as' = [b] ∧
    hLookup H d as' secret auth = .val 0 (.bytes b)) ∧
  (∃ as', hAdd H d as tag (.bytes ip) secret auth salt = .ok as' ∧ rawValues d as' = rawValues d as ++ [b])

/-- what "refused" means: Set and Add return an error, and (imperative mirror) the packet's
    attribute list is unchanged -/
def Refuses (d : Desc) (as : Attrs) (tag : UInt8) (ip secret auth salt : Bytes) : Prop :=
  hSet H d as tag (.bytes ip) secret auth salt = .err ∧ hAdd H d as tag (.bytes ip) secret auth salt = .err ∧
  Imp.hSetImp H d tag (.bytes ip) secret auth salt as = (.err, as) ∧
  Imp.hAddImp H d tag (.bytes ip) secret auth salt as = (.err, as)

/-- an address the encoding half rejects is refused by `X_Set` and `X_Add`, the packet untouched -/
theorem refuses_of_encode_err (d : Desc) (hk : d.kind ≠ .concat) (as : Attrs) (tag : UInt8)
    (ip secret auth salt : Bytes) (he : encodeValue H d tag (.bytes ip) secret auth salt = .err) :
    Refuses H d as tag ip secret auth salt := by
  have h1 : hSet H d as tag (.bytes ip) secret auth salt = .err := by rw [hSet_eq H hk, he]; rfl
  have h2 : hAdd H d as tag (.bytes ip) secret auth salt = .err := by rw [hAdd_eq H hk, he]; rfl
  exact ⟨h1, h2, by rw [Imp.hSetImp_eq, h1]; rfl, by rw [Imp.hAddImp_eq, h2]; rfl⟩

theorem obfuscate_enc0 (d : Desc) (he : d.encrypt = 0) (a secret auth salt : Bytes) :
    obfuscate H d a secret auth salt = .ok a := by
  unfold obfuscate; rw [he]; rfl

/-- an unencrypted address attribute accepts what `To4()` (below: `To16()`) accepts, stored as converted -/
theorem acceptsAs_ipaddr (d : Desc) (hwf : d.wf) (hk : d.kind = .ipaddr) (he : d.encrypt = 0)
    (as : Attrs) (tag : UInt8) (ip secret auth salt b : Bytes) (h4 : to4 ip = some b) (hb : b.length = 4) :
    AcceptsAs H d as tag ip secret auth salt b :=
  accepts_addr H hwf (Or.inl ⟨hk, rfl, rfl⟩) he as ip b h4

theorem acceptsAs_ipv6addr (d : Desc) (hwf : d.wf) (hk : d.kind = .ipv6addr) (he : d.encrypt = 0)
    (as : Attrs) (tag : UInt8) (ip secret auth salt b : Bytes) (h16 : to16 ip = some b) (hb : b.length = 16) :
    AcceptsAs H d as tag ip secret auth salt b :=
  accepts_addr H hwf (Or.inr ⟨hk, rfl, rfl⟩) he as ip b h16

/-- 4 octets → accepted, stored as given -/
theorem ipv4_setter_accepts_4 (d : Desc) (hwf : d.wf) (hk : d.kind = .ipaddr) (he : d.encrypt = 0)
    (as : Attrs) (tag : UInt8) (ip secret auth salt : Bytes) (hl : ip.length = 4) :
    AcceptsAs H d as tag ip secret auth salt ip :=
  acceptsAs_ipaddr H d hwf hk he as tag ip secret auth salt ip (by unfold to4; rw [if_pos hl]) hl

/-- 16 octets in v4-mapped form → ACCEPTED, stored as its last 4 octets (this is how Go programs
    normally hold an IPv4 address, so the acceptance is the useful behaviour) -/
theorem ipv4_setter_accepts_v4mapped_as_4 (d : Desc) (hwf : d.wf) (hk : d.kind = .ipaddr) (he : d.encrypt = 0)
    (as : Attrs) (tag : UInt8) (ip secret auth salt : Bytes) (hm : isV4Mapped ip) :
    AcceptsAs H d as tag ip secret auth salt (ip.drop 12) :=
  acceptsAs_ipaddr H d hwf hk he as tag ip secret auth salt (ip.drop 12)
    (by unfold to4; rw [if_neg (by have := hm.1; omega), if_pos (show ip.length = 16 ∧ ip.take 12 = v4InV6Prefix from hm)]) (by have := hm.1; simp; omega)

/-- 16 octets, not v4-mapped (a genuine IPv6 address) → refused, whatever `encrypt` is -/
theorem ipv4_setter_refuses_ipv6 (d : Desc) (hk : d.kind = .ipaddr)
    (as : Attrs) (tag : UInt8) (ip secret auth salt : Bytes) (hl : ip.length = 16) (hm : ¬ isV4Mapped ip) :
    Refuses H d as tag ip secret auth salt := by
  refine refuses_of_encode_err H d (by simp [hk]) as tag ip secret auth salt ?_
  rw [encode_ipaddr H d hk]
  have : to4 ip = none := by
    unfold to4; rw [if_neg (by omega), if_neg (show ¬ (ip.length = 16 ∧ ip.take 12 = v4InV6Prefix) from hm)]
  rw [this]

/-- any other length (`nil` included) → refused -/
theorem ipv4_setter_refuses_other_length (d : Desc) (hk : d.kind = .ipaddr)
    (as : Attrs) (tag : UInt8) (ip secret auth salt : Bytes) (h4 : ip.length ≠ 4) (h16 : ip.length ≠ 16) :
    Refuses H d as tag ip secret auth salt := by
  refine refuses_of_encode_err H d (by simp [hk]) as tag ip secret auth salt ?_
  rw [encode_ipaddr H d hk]
  have : to4 ip = none := by
    unfold to4; rw [if_neg h4, if_neg (fun h => h16 h.1)]
  rw [this]

/-- summary for an unencrypted IPv4 attribute: refused exactly when the value is neither 4 octets
    nor a v4-mapped 16 octets -/
theorem ipv4_setter_refuses_iff (d : Desc) (hwf : d.wf) (hk : d.kind = .ipaddr) (he : d.encrypt = 0)
    (as : Attrs) (tag : UInt8) (ip secret auth salt : Bytes) :
    hSet H d as tag (.bytes ip) secret auth salt = .err ↔ ¬ (ip.length = 4 ∨ isV4Mapped ip) := by
  constructor
  · intro herr hor
    rcases hor with h | h
    · obtain ⟨⟨as', hs, _⟩, _⟩ := ipv4_setter_accepts_4 H d hwf hk he as tag ip secret auth salt h
      rw [hs] at herr; cases herr
    · obtain ⟨⟨as', hs, _⟩, _⟩ := ipv4_setter_accepts_v4mapped_as_4 H d hwf hk he as tag ip secret auth salt h
      rw [hs] at herr; cases herr
  · intro hn
    by_cases h16 : ip.length = 16
    · exact (ipv4_setter_refuses_ipv6 H d hk as tag ip secret auth salt h16 (fun h => hn (Or.inr h))).1
    · exact (ipv4_setter_refuses_other_length H d hk as tag ip secret auth salt (fun h => hn (Or.inl h)) h16).1

/-- 4 octets (an IPv4 address) → ACCEPTED by the IPv6 attribute, stored as the 16-octet v4-mapped
    address `::ffff:a.b.c.d`; Lookup returns those 16 octets.  The property text says setters refuse
    the wrong address family; the code (`a.To16()` in `radius.NewIPv6Addr`) does not. -/
theorem ipv6_setter_accepts_ipv4_as_mapped (d : Desc) (hwf : d.wf) (hk : d.kind = .ipv6addr) (he : d.encrypt = 0)
    (as : Attrs) (tag : UInt8) (ip secret auth salt : Bytes) (hl : ip.length = 4) :
    AcceptsAs H d as tag ip secret auth salt (v4InV6Prefix ++ ip) :=
  acceptsAs_ipv6addr H d hwf hk he as tag ip secret auth salt _ (by unfold to16; rw [if_pos hl])
    (by simp [v4InV6Prefix, hl])

/-- 16 octets → accepted, stored as given — v4-mapped or not -/
theorem ipv6_setter_accepts_16 (d : Desc) (hwf : d.wf) (hk : d.kind = .ipv6addr) (he : d.encrypt = 0)
    (as : Attrs) (tag : UInt8) (ip secret auth salt : Bytes) (hl : ip.length = 16) :
    AcceptsAs H d as tag ip secret auth salt ip :=
  acceptsAs_ipv6addr H d hwf hk he as tag ip secret auth salt ip
    (by unfold to16; rw [if_neg (by omega), if_pos hl]) hl

/-- … in particular the v4-mapped form of an IPv4 address (what `net.ParseIP("a.b.c.d")` returns)
    is ACCEPTED by the IPv6 attribute -/
theorem ipv6_setter_accepts_v4mapped (d : Desc) (hwf : d.wf) (hk : d.kind = .ipv6addr) (he : d.encrypt = 0)
    (as : Attrs) (tag : UInt8) (ip secret auth salt : Bytes) (hm : isV4Mapped ip) :
    AcceptsAs H d as tag ip secret auth salt ip :=
  ipv6_setter_accepts_16 H d hwf hk he as tag ip secret auth salt hm.1

/-- any other length (`nil` included) → refused, whatever `encrypt` is -/
theorem ipv6_setter_refuses_other_length (d : Desc) (hk : d.kind = .ipv6addr)
    (as : Attrs) (tag : UInt8) (ip secret auth salt : Bytes) (h4 : ip.length ≠ 4) (h16 : ip.length ≠ 16) :
    Refuses H d as tag ip secret auth salt := by
  refine refuses_of_encode_err H d (by simp [hk]) as tag ip secret auth salt ?_
  rw [encode_ipv6addr H d hk]
  have : to16 ip = none := by
    unfold to16; rw [if_neg h4, if_neg h16]
  rw [this]

/-- summary for an unencrypted IPv6 attribute: refused exactly when the value has neither 4 nor 16
    octets — the address FAMILY of the value plays no role -/
theorem ipv6_setter_refuses_iff (d : Desc) (hwf : d.wf) (hk : d.kind = .ipv6addr) (he : d.encrypt = 0)
    (as : Attrs) (tag : UInt8) (ip secret auth salt : Bytes) :
    hSet H d as tag (.bytes ip) secret auth salt = .err ↔ ¬ (ip.length = 4 ∨ ip.length = 16) := by
  constructor
  · intro herr hor
    rcases hor with h | h
    · obtain ⟨⟨as', hs, _⟩, _⟩ := ipv6_setter_accepts_ipv4_as_mapped H d hwf hk he as tag ip secret auth salt h
      rw [hs] at herr; cases herr
    · obtain ⟨⟨as', hs, _⟩, _⟩ := ipv6_setter_accepts_16 H d hwf hk he as tag ip secret auth salt h
      rw [hs] at herr; cases herr
  · intro hn
    exact (ipv6_setter_refuses_other_length H d hk as tag ip secret auth salt
      (fun h => hn (Or.inl h)) (fun h => hn (Or.inr h))).1

/-- `X_Set` refuses an unencrypted text value of more than 253 octets, or of 253 with a tag octet to add -/
theorem refuses_oversize (hH : ∀ x, (H x).length = 16) (d : Desc) (hwf : d.wf)
    (hk : d.kind = .string ∨ d.kind = .octets) (he : d.encrypt = 0) (b : Bytes) (tag : UInt8)
    (hb : 253 < b.length ∨ (b.length = 253 ∧ d.hasTag = true ∧ tag.toNat ≤ 0x1F))
    (as : Attrs) (secret auth salt : Bytes) :
    hSet H d as tag (.bytes b) secret auth salt = .err := by
  refine (refused H hH hwf (by rcases hk with h | h <;> simp [h]) as _ ?_).1
  have hr : (d.encrypt = 0 ∧ b.length > 253) ∨ (d.encrypt ≠ 0 ∧ encFails d b.length secret auth salt) ∨
      (d.hasTag = true ∧ tag.toNat ≤ 0x1F ∧ d.encrypt = 0 ∧ b.length = 253) := by
    rcases hb with hb | hb
    · exact Or.inl ⟨he, hb⟩
    · exact Or.inr (Or.inr ⟨hb.2.1, hb.2.2, he, hb.1⟩)
  rcases hk with h | h <;> simp only [encodeRefused.eq_def, h] <;> exact Or.inr hr

/-- `X_Set` of a date attribute refuses a `time.Time` outside the 32-bit Unix range -/
theorem refuses_out_of_range_time (hH : ∀ x, (H x).length = 16) (d : Desc) (hwf : d.wf)
    (hk : d.kind = .date) (u : Int) (hu : u < 0 ∨ 4294967295 < u)
    (as : Attrs) (tag : UInt8) (secret auth salt : Bytes) :
    hSet H d as tag (.time u) secret auth salt = .err := by
  refine (refused H hH hwf (by simp [hk]) as _ ?_).1
  simp only [encodeRefused.eq_def, hk]; exact hu

/-- `X_Set` of a vendor attribute refuses a value that encodes to no octets (`_V_NewVendor`) -/
theorem refuses_empty_vendor_value (hH : ∀ x, (H x).length = 16) (d : Desc) (hwf : d.wf)
    (hv : d.vendorID ≠ 0) (tag : UInt8) (v : GVal) (secret auth salt : Bytes)
    (he : encodeValue H d tag v secret auth salt = .ok [])
    (as : Attrs) : hSet H d as tag v secret auth salt = .err := by
  have hc : d.kind ≠ .concat := fun hk => hv (hwf.concat_top hk)
  exact (hSet_err_iff H hH hwf as _).2
    (by rw [if_neg hc]; exact Or.inr ⟨hv, [], he, Or.inl rfl⟩)

/-! ### 7. encrypted attributes are stored obfuscated and read back with the same secret -/

/-- encrypt=1 text: the stored bytes after the optional tag octet are exactly the RFC 2865 §5.2
    ciphertext -/
theorem stored_obfuscated_user (hH : ∀ x, (H x).length = 16) (d : Desc) (hwf : d.wf)
    (hk : d.kind = .string ∨ d.kind = .octets) (he : d.encrypt = 1)
    (as as' : Attrs) (tag : UInt8) (b secret auth salt : Bytes)
    (h : hSet H d as tag (.bytes b) secret auth salt = .ok as') :
    rawValues d as' = [tagPrefix d tag ++ Rfc2865.userPasswordCipher H b secret auth] := by
  have hc : d.kind ≠ .concat := by rcases hk with h | h <;> simp [h]
  obtain ⟨a, hea, hr⟩ := rawValues_hSet H hwf hc as as' _ h
  obtain ⟨_, c, hcc, ha⟩ := stored_text H hk b a hea
  rw [hr, ha, ((textCipher_length H hH hk b c hcc).2.1 he).1]

/-- salt-encrypted attributes (encrypt=2 on text, addresses, untagged integers): the stored bytes
    after the optional tag octet are exactly the RFC 2868 §3.5 encoding under the given salt -/
theorem stored_obfuscated_salt (hH : ∀ x, (H x).length = 16) (d : Desc) (hwf : d.wf)
    (hs : d.usesSalt = true) (as as' : Attrs) (tag : UInt8) (v : GVal) (secret auth salt : Bytes)
    (h : hSet H d as tag v secret auth salt = .ok as') :
    ∃ clear, clearBytes d v = some clear ∧
      rawValues d as' = [tagPrefix d tag ++ Rfc2868.tunnelPasswordCipher H clear salt secret auth] := by
  have hc : d.kind ≠ .concat := by
    intro hk; have := hwf.concat_encrypt hk; have := usesSalt_encrypt hs; omega
  obtain ⟨a, hea, hr⟩ := rawValues_hSet H hwf hc as as' _ h
  obtain ⟨p, hp, ha⟩ := stored_salted H hH hwf hs v a hea
  exact ⟨p, hp, by rw [hr, ha]⟩

/-! ### 8. values survive Encode → Parse -/

/-- if the packet marshals, parsing the datagram gives back the attribute list (types 0-255), hence
    the same stored values and the same Lookup / Gets for every helper -/
theorem survives_wire (d : Desc) (hwf : d.wf) (p : Packet) (w s : Bytes) (hm : marshal p = .ok w)
    (hc : 0 ≤ p.code ∧ p.code ≤ 255) (ha : p.auth.length = 16) (secret auth : Bytes) :
    ∃ q, parse w s = .ok q ∧ q.attrs = p.attrs.filter validType ∧
      rawValues d q.attrs = rawValues d p.attrs ∧
      hLookup H d q.attrs secret auth = hLookup H d p.attrs secret auth ∧
      hGets H d q.attrs secret auth = hGets H d p.attrs secret auth := by
  refine ⟨_, C01.parse_marshal p w s hm hc ha, rfl, ?_⟩
  have hr := rawValues_filter_valid hwf p.attrs
  exact ⟨hr, hLookup_congr H _ _ hr, hGets_congr H _ _ hr⟩

/-! ### 9. concat attributes -/

/-- X_Set of a concat attribute replaces the value; X_Lookup returns the whole value (the chunks
    joined), or reports no attribute when the value is empty -/
theorem set_lookup_concat (d : Desc) (hwf : d.wf) (hk : d.kind = .concat) (as as' : Attrs)
    (tag : UInt8) (v : GVal) (secret auth salt : Bytes)
    (h : hSet H d as tag v secret auth salt = .ok as') :
    ∃ b, v = .bytes b ∧ rawValues d as' = chunks253 b ∧
      hLookup H d as' secret auth = if b = [] then .noAttr else .val 0 (.bytes b) := by
  obtain ⟨b, hv, hr⟩ := rawValues_hSet_concat H hwf hk as as' v h
  refine ⟨b, hv, hr, ?_⟩
  rw [hLookup_concat H hk, hr, chunks253_flatten]
  by_cases hb : b = []
  · rw [if_pos hb, if_pos ((chunks253_eq_nil_iff b).2 hb)]
  · rw [if_neg hb, if_neg (fun e => hb ((chunks253_eq_nil_iff b).1 e))]

/-- … and X_Get / X_GetString return the whole value (nil for the empty value) -/
theorem set_get_concat (d : Desc) (hwf : d.wf) (hk : d.kind = .concat) (as as' : Attrs)
    (tag : UInt8) (v : GVal) (secret auth salt : Bytes)
    (h : hSet H d as tag v secret auth salt = .ok as') :
    ∃ b, v = .bytes b ∧ hGet H d as' secret auth = (0, .bytes b) ∧ hGetString H d as' secret auth = (0, .bytes b) := by
  obtain ⟨b, hv, hr, hl⟩ := set_lookup_concat H d hwf hk as as' tag v secret auth salt h
  have hg : hGet H d as' secret auth = (0, .bytes b) := by
    by_cases hb : b = []
    · rw [if_pos hb] at hl
      rw [hGet_of_lookup_noAttr H as' hl, hk, hb]; rfl
    · rw [if_neg hb] at hl
      exact hGet_of_lookup_val H as' _ _ hl
  exact ⟨b, hv, hg, by rw [hGetString_eq H (Or.inr (Or.inr hk)), hg]⟩

/-- the stored chunks are non-empty, at most 253 bytes each, and concatenate to the value -/
theorem concat_chunks (b : Bytes) :
    (chunks253 b).flatten = b ∧ ∀ c ∈ chunks253 b, 1 ≤ c.length ∧ c.length ≤ 253 :=
  ⟨chunks253_flatten b, chunks253_bound b⟩

end

/-! ### 10. the three exclusions are necessary (known findings of the Go code) -/

/-- full strength without the tag bound -/
def set_lookup_anyTag_full : Prop :=
  ∀ (H : Hash), (∀ x, (H x).length = 16) → ∀ (d : Desc), d.wf → d.kind ≠ .concat →
    ∀ (as as' : Attrs) (tag : UInt8) (v : GVal) (secret auth salt : Bytes),
      valueTyped d tag v → tagIntFits d v → nulFree d v →
      hSet H d as tag v secret auth salt = .ok as' →
      hLookup H d as' secret auth = .val tag (canon d v)

/-- full strength without the 24-bit bound on tagged integers -/
def set_lookup_anyTaggedInt_full : Prop :=
  ∀ (H : Hash), (∀ x, (H x).length = 16) → ∀ (d : Desc), d.wf → d.kind ≠ .concat →
    ∀ (as as' : Attrs) (tag : UInt8) (v : GVal) (secret auth salt : Bytes),
      valueTyped d tag v → tagInRange d tag → nulFree d v →
      hSet H d as tag v secret auth salt = .ok as' →
      hLookup H d as' secret auth = .val tag (canon d v)

/-- full strength without the NUL exclusion on encrypt=1 text -/
def set_lookup_anyNul_full : Prop :=
  ∀ (H : Hash), (∀ x, (H x).length = 16) → ∀ (d : Desc), d.wf → d.kind ≠ .concat →
    ∀ (as as' : Attrs) (tag : UInt8) (v : GVal) (secret auth salt : Bytes),
      valueTyped d tag v → tagInRange d tag → tagIntFits d v →
      hSet H d as tag v secret auth salt = .ok as' →
      hLookup H d as' secret auth = .val tag (canon d v)

def zeroHash : Hash := fun _ => zeros 16
theorem zeroHash_len : ∀ x, (zeroHash x).length = 16 := fun _ => by simp [zeroHash, zeros]

/-- tag 0x20 on a tagged string: the setter stores no tag octet, the getter takes the first value
    octet (≤ 0x1F) for a tag -/
theorem set_lookup_anyTag_counterexample : ¬ set_lookup_anyTag_full := by
  intro h
  have hset : hSet zeroHash ⟨64, 0, 0, .string, true, 0, none⟩ [] 0x20 (.bytes [1, 2]) [] [] [] =
      .ok [⟨64, [1, 2]⟩] := by decide +kernel
  have := h zeroHash zeroHash_len _ (by decide) (by decide) [] _ 0x20 (.bytes [1, 2]) [] [] []
    (by decide) (by decide) (by decide) hset
  revert this
  decide

/-- a tagged integer ≥ 2^24: the top octet is replaced by the tag -/
theorem set_lookup_anyTaggedInt_counterexample : ¬ set_lookup_anyTaggedInt_full := by
  intro h
  have hset : hSet zeroHash ⟨64, 0, 0, .integer, true, 0, none⟩ [] 1 (.nat 0x01000000) [] [] [] =
      .ok [⟨64, [1, 0, 0, 0]⟩] := by decide +kernel
  have := h zeroHash zeroHash_len _ (by decide) (by decide) [] _ 1 (.nat 0x01000000) [] [] []
    (by decide) (by decide) (by decide) hset
  revert this
  decide

/-- an encrypt=1 value with an inner NUL is cut at the NUL when read back -/
theorem set_lookup_anyNul_counterexample : ¬ set_lookup_anyNul_full := by
  intro h
  have hset : hSet zeroHash ⟨2, 0, 0, .string, false, 1, none⟩ [] 0 (.bytes [65, 0, 66]) [1] (zeros 16) [] =
      .ok [⟨2, [65, 0, 66, 0, 0, 0, 0, 0, 0, 0, 0, 0, 0, 0, 0, 0]⟩] := by decide +kernel
  have := h zeroHash zeroHash_len _ (by decide) (by decide) [] _ 0 (.bytes [65, 0, 66]) [1] (zeros 16) []
    (by decide) (by decide) (by decide) hset
  revert this
  decide +kernel

/-! ### 11. negative control for `refusal_leaves_unchanged`: the statement order matters -/

/-- `_V_SetVendor` in the statement order it had before commit db9cf48 (removal loop first, encoding —
    which can fail — afterwards), mirrored with the same primitives: a Set that is refused (empty
    value) has already removed the attribute's old value from the packet.  The repaired order on the
    same input refuses and leaves the list as it was.  So `refusal_leaves_unchanged` is a statement
    about the order of the template's statements, not a consequence of the modelling style. -/
theorem old_vendor_set_order_changes_packet_on_refusal :
    ∃ (d : Desc) (as : Attrs) (tag : UInt8) (v : GVal), d.wf ∧ d.vendorID ≠ 0 ∧
      (Imp.hSetOldImp zeroHash d tag v [] [] [] as).1 = .err ∧
      (Imp.hSetOldImp zeroHash d tag v [] [] [] as).2 ≠ as ∧
      Imp.hSetImp zeroHash d tag v [] [] [] as = (.err, as) :=
  ⟨⟨26, 9, 1, .octets, false, 0, none⟩, [⟨26, [0, 0, 0, 9, 1, 3, 0xAA]⟩], 0, .bytes [],
    by decide +kernel, by decide +kernel, by decide +kernel, by decide +kernel, by decide +kernel⟩

/-- the same at the level of `_V_SetVendor` itself -/
example : Imp.setVendorOldImp 9 1 [] [⟨26, [0, 0, 0, 9, 1, 3, 0xAA]⟩, ⟨1, [0x61]⟩] = (.err, [⟨1, [0x61]⟩]) := by decide +kernel
example : Imp.setVendorImp 9 1 [] [⟨26, [0, 0, 0, 9, 1, 3, 0xAA]⟩, ⟨1, [0x61]⟩] =
    (.err, [⟨26, [0, 0, 0, 9, 1, 3, 0xAA]⟩, ⟨1, [0x61]⟩]) := by decide +kernel

/-! ### 12. address families, concretely -/

/-- The IPv4 address 192.0.2.1 (4 octets) handed to an IPv6 attribute (type 168, `ipv6addr`) is
    ACCEPTED and stored as `::ffff:192.0.2.1`; Lookup then returns that 16-octet address.  The
    property text ("setters refuse … wrong address family") does not hold of the code in this
    combination; whether that is a defect of the library or a loose wording of the property is for
    the reader to decide — the code's behaviour is `net.IP.To16()`. -/
theorem wrong_family_accepted_witness :
    hSet zeroHash ⟨168, 0, 0, .ipv6addr, false, 0, none⟩ [] 0 (.bytes [192, 0, 2, 1]) [] [] [] =
      .ok [⟨168, [0, 0, 0, 0, 0, 0, 0, 0, 0, 0, 0xff, 0xff, 192, 0, 2, 1]⟩] ∧
    hLookup zeroHash ⟨168, 0, 0, .ipv6addr, false, 0, none⟩
      [⟨168, [0, 0, 0, 0, 0, 0, 0, 0, 0, 0, 0xff, 0xff, 192, 0, 2, 1]⟩] [] [] =
      .val 0 (.bytes [0, 0, 0, 0, 0, 0, 0, 0, 0, 0, 0xff, 0xff, 192, 0, 2, 1]) := by
  constructor <;> decide +kernel

/-- the other direction is refused: 2001:db8::1 handed to an IPv4 attribute (type 8, `ipaddr`) -/
example : hSet zeroHash ⟨8, 0, 0, .ipaddr, false, 0, none⟩ [⟨8, [10, 0, 0, 1]⟩] 0
    (.bytes [0x20, 0x01, 0x0d, 0xb8, 0, 0, 0, 0, 0, 0, 0, 0, 0, 0, 0, 1]) [] [] [] = .err := by decide
/-- … while the v4-mapped form of 192.0.2.1 is accepted by the IPv4 attribute and stored as 4 octets -/
example : hSet zeroHash ⟨8, 0, 0, .ipaddr, false, 0, none⟩ [] 0
    (.bytes [0, 0, 0, 0, 0, 0, 0, 0, 0, 0, 0xff, 0xff, 192, 0, 2, 1]) [] [] [] = .ok [⟨8, [192, 0, 2, 1]⟩] := by
  decide +kernel
example : isV4Mapped [0, 0, 0, 0, 0, 0, 0, 0, 0, 0, 0xff, 0xff, 192, 0, 2, 1] := by decide
example : ¬ isV4Mapped [0x20, 0x01, 0x0d, 0xb8, 0, 0, 0, 0, 0, 0, 0, 0, 0, 0, 0, 1] := by decide
example : Desc.wf ⟨168, 0, 0, .ipv6addr, false, 0, none⟩ ∧ Desc.wf ⟨8, 0, 0, .ipaddr, false, 0, none⟩ ∧
    Desc.wf ⟨26, 311, 7, .ipaddr, false, 0, none⟩ := by decide
/-- instance of the table: a vendor IPv6 attribute, an IPv4 value, a packet with other content -/
example : AcceptsAs zeroHash ⟨26, 311, 7, .ipv6addr, false, 0, none⟩ [⟨1, [0x61]⟩] 0 [192, 0, 2, 1] [] [] []
    (v4InV6Prefix ++ [192, 0, 2, 1]) :=
  ipv6_setter_accepts_ipv4_as_mapped zeroHash _ (by decide) rfl rfl _ _ _ _ _ _ (by decide)
example : Refuses zeroHash ⟨8, 0, 0, .ipaddr, false, 2, none⟩ [⟨8, [10, 0, 0, 1]⟩] 0
    [0x20, 0x01, 0x0d, 0xb8, 0, 0, 0, 0, 0, 0, 0, 0, 0, 0, 0, 1] [1] (zeros 16) [0x80, 1] :=
  ipv4_setter_refuses_ipv6 zeroHash _ rfl _ _ _ _ _ _ (by decide) (by decide)

/-! ### 13. named value constants and their `String()` forms equal the VALUE declarations

    RV/Model/ValueConsts.lean models what genAttributeInteger emits from
    `values := attributeValues(attr, allValues)` (`Gen.attrValues`, the duplicate-number rule):
    the `const` block, the `X_Strings` map literal and `func (a X) String()`. -/

/-- For an arbitrary VALUE list sorted by number (the generator sorts: `value_constants_any_dictionary`)
    and an arbitrary attribute:
    (0) the generator keeps, of the attribute's VALUEs, exactly those not followed by another with
        the same number ("the last one wins");
    (1) it emits one constant per kept VALUE, named after the VALUE and equal to its number;
    (2) the keys of the `X_Strings` literal are pairwise distinct (the literal compiles and a lookup
        is unambiguous);
    (3) `String()` of a kept VALUE's number is the dictionary's name of that VALUE;
    (4) every VALUE declared for the attribute has its number named — by the last declaration with
        that number;
    (5) any other number prints as `X(<decimal>)`. -/
theorem value_constants_equal_dictionary (attrIdent attrName : Bytes) (all : List Dict.Value)
    (hs : all.Pairwise (fun a b => a.number ≤ b.number)) :
    (Gen.attrValues attrName all = Gen.lastWins (all.filter (fun v => v.attrName == attrName)) ∧
      ∀ v, v ∈ Gen.attrValues attrName all ↔
        ∃ pre post, all.filter (fun v => v.attrName == attrName) = pre ++ v :: post ∧
          ∀ w ∈ post, v.number < w.number) ∧
    Gen.valueConsts attrIdent (Gen.attrValues attrName all) =
      (Gen.attrValues attrName all).map
        (fun v => (attrIdent ++ Gen.bs "_Value_" ++ Gen.identifier v.name, v.number)) ∧
    ((Gen.stringsMap (Gen.attrValues attrName all)).map (·.1)).Nodup ∧
    (∀ v ∈ Gen.attrValues attrName all,
      v ∈ all ∧ v.attrName = attrName ∧
      Gen.valueString attrIdent (Gen.attrValues attrName all) v.number = v.name) ∧
    (∀ v ∈ all, v.attrName = attrName → ∃ v' ∈ Gen.attrValues attrName all, v'.number = v.number ∧
      Gen.valueString attrIdent (Gen.attrValues attrName all) v.number = v'.name) ∧
    (∀ n, (∀ v ∈ all, v.attrName = attrName → v.number ≠ n) →
      Gen.valueString attrIdent (Gen.attrValues attrName all) n =
        attrIdent ++ Gen.bs "(" ++ Gen.formatUint n ++ Gen.bs ")") := by
  have hmine : (all.filter (fun v => v.attrName == attrName)).Pairwise (fun a b => a.number ≤ b.number) :=
    List.Pairwise.sublist List.filter_sublist hs
  have heq := Gen.attrValues_eq_lastWins attrName all
  have hstrict := Gen.lastWins_strict _ hmine
  have hnodup : ((Gen.stringsMap (Gen.attrValues attrName all)).map (·.1)).Nodup := by
    rw [heq]
    unfold Gen.stringsMap
    rw [List.map_map]
    exact (List.pairwise_map.2 hstrict).imp Nat.ne_of_lt
  have hmem : ∀ v ∈ Gen.attrValues attrName all, v ∈ all ∧ v.attrName = attrName := by
    intro v hv
    rw [heq] at hv
    have := List.mem_filter.1 (Gen.lastWins_mem _ _ hv)
    exact ⟨this.1, beq_iff_eq.1 this.2⟩
  have hstr : ∀ v ∈ Gen.attrValues attrName all,
      Gen.valueString attrIdent (Gen.attrValues attrName all) v.number = v.name := by
    intro v hv
    unfold Gen.valueString
    rw [Gen.mapLookup_of_mem _ hnodup v.number v.name
      (by unfold Gen.stringsMap; exact List.mem_map.2 ⟨v, hv, rfl⟩)]
  refine ⟨⟨heq, fun v => ?_⟩, rfl, hnodup, fun v hv => ⟨(hmem v hv).1, (hmem v hv).2, hstr v hv⟩,
    fun v hv ha => ?_, fun n hn => ?_⟩
  · rw [heq]; exact Gen.lastWins_mem_iff _ hmine v
  · have hvm : v ∈ all.filter (fun v => v.attrName == attrName) :=
      List.mem_filter.2 ⟨hv, beq_iff_eq.2 ha⟩
    obtain ⟨v', hv', hn⟩ := Gen.lastWins_covers _ v hvm
    rw [← heq] at hv'
    exact ⟨v', hv', hn, by rw [← hn]; exact hstr v' hv'⟩
  · unfold Gen.valueString
    rw [Gen.mapLookup_none]
    intro e he
    unfold Gen.stringsMap at he
    obtain ⟨v, hv, rfl⟩ := List.mem_map.1 he
    exact hn v (hmem v hv).1 (hmem v hv).2

/-- the same for the list the generator actually passes — any VALUE list at all, stably sorted by
    number (`sortValues`): no hypothesis left -/
theorem value_constants_any_dictionary (attrIdent attrName : Bytes) (vs : List Dict.Value) :
    ((Gen.stringsMap (Gen.attrValues attrName (Gen.sortValues vs))).map (·.1)).Nodup ∧
    (∀ v ∈ Gen.attrValues attrName (Gen.sortValues vs),
      v ∈ vs ∧ v.attrName = attrName ∧
      Gen.valueString attrIdent (Gen.attrValues attrName (Gen.sortValues vs)) v.number = v.name) ∧
    (∀ v ∈ vs, v.attrName = attrName → ∃ v' ∈ Gen.attrValues attrName (Gen.sortValues vs),
      v'.number = v.number ∧ v' ∈ vs ∧ v'.attrName = attrName ∧
      Gen.valueString attrIdent (Gen.attrValues attrName (Gen.sortValues vs)) v.number = v'.name) ∧
    (∀ n, (∀ v ∈ vs, v.attrName = attrName → v.number ≠ n) →
      Gen.valueString attrIdent (Gen.attrValues attrName (Gen.sortValues vs)) n =
        attrIdent ++ Gen.bs "(" ++ Gen.formatUint n ++ Gen.bs ")") := by
  obtain ⟨_, _, h2, h3, h4, h5⟩ :=
    value_constants_equal_dictionary attrIdent attrName (Gen.sortValues vs) (Gen.sortValues_sorted vs)
  have hm : ∀ v, v ∈ Gen.sortValues vs ↔ v ∈ vs := fun v => Gen.mem_sortStable _ vs v
  refine ⟨h2, fun v hv => ?_, fun v hv ha => ?_, fun n hn => ?_⟩
  · obtain ⟨a, b, c⟩ := h3 v hv
    exact ⟨(hm v).1 a, b, c⟩
  · obtain ⟨v', hv', hn, hs⟩ := h4 v ((hm v).2 hv) ha
    obtain ⟨a, b, _⟩ := h3 v' hv'
    exact ⟨v', hv', hn, (hm v').1 a, b, hs⟩
  · exact h5 n (fun v hv => hn v ((hm v).1 hv))

/-- Service-Type-like example: two names for number 1 (the later declaration wins), declarations
    out of order, a VALUE of another attribute in between -/
example :
    let vs : List Dict.Value := [⟨Gen.bs "A", Gen.bs "Login", 1⟩, ⟨Gen.bs "A", Gen.bs "Zero", 0⟩,
      ⟨Gen.bs "B", Gen.bs "Other", 1⟩, ⟨Gen.bs "A", Gen.bs "Login-User", 1⟩]
    let values := Gen.attrValues (Gen.bs "A") (Gen.sortValues vs)
    Gen.valueConsts (Gen.bs "A") values = [(Gen.bs "A_Value_Zero", 0), (Gen.bs "A_Value_LoginUser", 1)] ∧
    Gen.valueString (Gen.bs "A") values 1 = Gen.bs "Login-User" ∧
    Gen.valueString (Gen.bs "A") values 0 = Gen.bs "Zero" ∧
    Gen.valueString (Gen.bs "A") values 27 = Gen.bs "A(27)" := by decide +kernel

/-! ### 14. X_Get on the error paths of X_Lookup, concretely -/

/-- an `octets[2]` attribute whose stored value has 3 octets: X_Lookup reports an error, X_Get (which
    drops the error) hands out the 3 octets — the template assigns `value` before the size check -/
example : hLookup zeroHash ⟨5, 0, 0, .octets, false, 0, some 2⟩ [⟨5, [1, 2, 3]⟩] [] [] = .err ∧
    hGet zeroHash ⟨5, 0, 0, .octets, false, 0, some 2⟩ [⟨5, [1, 2, 3]⟩] [] [] = (0, .bytes [1, 2, 3]) := by decide
/-- a tagged integer with a 3-octet value: error, X_Get returns the stripped tag and 0 -/
example : hLookup zeroHash ⟨64, 0, 0, .integer, true, 0, none⟩ [⟨64, [5, 0, 7]⟩] [] [] = .err ∧
    hGet zeroHash ⟨64, 0, 0, .integer, true, 0, none⟩ [⟨64, [5, 0, 7]⟩] [] [] = (5, .nat 0) := by decide
/-- absent attribute: zero values -/
example : hGet zeroHash ⟨55, 0, 0, .date, false, 0, none⟩ [] [] [] = (0, .time zeroTimeUnix) ∧
    hGet zeroHash ⟨97, 0, 0, .ipv6prefix, false, 0, none⟩ [] [] [] = (0, .pfx none) ∧
    hGetString zeroHash ⟨1, 0, 0, .string, false, 0, none⟩ [] [] [] = (0, .bytes []) := by decide
/-- Set then Get / GetString on a tagged text attribute (instance of `set_get`, `set_getString`) -/
example : ∃ as', hSet zeroHash ⟨64, 0, 0, .string, true, 0, none⟩ [⟨64, [9]⟩] 3 (.bytes [0x61]) [] [] [] = .ok as' ∧
    hGet zeroHash ⟨64, 0, 0, .string, true, 0, none⟩ as' [] [] = (3, .bytes [0x61]) ∧
    hGetString zeroHash ⟨64, 0, 0, .string, true, 0, none⟩ as' [] [] = (3, .bytes [0x61]) :=
  ⟨[⟨64, [3, 0x61]⟩], by decide +kernel, by decide, by decide⟩

/-! ### Non-vacuity (tests): the hypotheses are satisfiable -/

/-- a tagged, salt-encrypted string (Tunnel-Password): well-formed, accepted, stored, read back -/
example : ∃ as', hSet zeroHash ⟨69, 0, 0, .string, true, 2, none⟩ [] 1 (.bytes [97, 98]) [1]
    (zeros 16) [0x80, 7] = .ok as' := by
  have := refusal_leaves_unchanged zeroHash ⟨69, 0, 0, .string, true, 2, none⟩ [] 1 (.bytes [97, 98]) [1]
    (zeros 16) [0x80, 7]
  rcases this.1 with h | h
  · rw [set_refused_iff zeroHash zeroHash_len _ (by decide)] at h
    simp [encodeRefused.eq_def, encFails, Desc.usesSalt, Kind.isText, zeros] at h
  · exact h
example : valueOK ⟨69, 0, 0, .string, true, 2, none⟩ 1 (.bytes [97, 98]) := by decide
example : Desc.wf ⟨26, 9, 1, .integer, false, 0, none⟩ := by decide
example : Desc.indep ⟨26, 9, 1, .integer, false, 0, none⟩ ⟨26, 9, 2, .string, false, 0, none⟩ := by decide
example : Desc.indep ⟨1, 0, 0, .string, false, 0, none⟩ ⟨26, 9, 2, .string, false, 0, none⟩ := by decide

/-! ### The type octet (second audit, finding 1)

`survives_wire` assumes `d.wf`, hence `0 ≤ d.typ ≤ 255`.  The hypothesis is needed: the wire form has one octet
for the Type, `encodeTo` skips every other type, so a helper for "attribute 300" stores a value that never leaves
the process.  The generator used to emit such helpers for top-level attributes (fix 07e31b9 in /repo; C17
`top_level_number_must_fit_the_type_octet`). -/

def dBeyond : Desc := { typ := 300, vendorID := 0, vendorType := 0, kind := .string, hasTag := false, encrypt := 0, size := none }
def pBeyond : Packet := { code := 1, id := 7, auth := List.replicate 16 0, secret := [115], attrs := [⟨300, [97, 98]⟩] }
def wBeyond : Bytes := [1, 7, 0, 20, 0, 0, 0, 0, 0, 0, 0, 0, 0, 0, 0, 0, 0, 0, 0, 0]

/-- without the range the clause fails: the packet marshals (to a bare header), parses, and the value is gone -/
theorem survives_wire_needs_the_type_octet :
    ¬ dBeyond.wf ∧ marshal pBeyond = .ok wBeyond ∧
    ∃ q, parse wBeyond [115] = .ok q ∧ q.attrs = [] ∧ rawValues dBeyond q.attrs ≠ rawValues dBeyond pBeyond.attrs := by
  refine ⟨by decide, by decide +kernel, ?_⟩
  have h := C01.parse_marshal pBeyond wBeyond [115] (by decide +kernel) (by decide) (by decide)
  exact ⟨_, h, by decide, by decide⟩

end RV.C12
