/-
  C01 — Wire codec: Parse and MarshalBinary are mutual inverses.
  Statements are about the model RV.Model.Wire, which mirrors packet.go / attributes.go and is tied
  to them on every run.
-/
import RV.Model.Wire
import RV.Proofs.Wire
namespace RV.C01
open RV

/-- total wire length of the attributes the encoder emits (valid types only) -/
def wireLen (as : Attrs) : Nat := ((as.filter validType).map (fun a => 2 + a.val.length)).sum

/-- The parser accepts exactly the declaratively well-formed inputs. -/
theorem parse_accepts_iff (b s : Bytes) :
    (∃ p, parse b s = .ok p) ↔
      20 ≤ b.length ∧ 20 ≤ lengthField b ∧ lengthField b ≤ 4096 ∧ lengthField b ≤ b.length ∧
      WellFormedTLV ((b.take (lengthField b)).drop 20) := by
  simp only [parse_ok_iff, ← parseAttrs_ok_iff_wf]
  exact ⟨fun ⟨_, h1, h2, h3, h4, as, hp, _⟩ => ⟨h1, h2, h3, h4, as, hp⟩,
    fun ⟨h1, h2, h3, h4, as, hp⟩ => ⟨_, h1, h2, h3, h4, as, hp, rfl⟩⟩

/-- The parser never panics (index / slice out of range) on any input. -/
theorem parse_never_faults (b s : Bytes) : parse b s ≠ .fault := by
  exact parse_ne_fault b s

/-- The attribute-list parser accepts exactly the gap-free TLV sequences. -/
theorem parseAttrs_accepts_iff (b : Bytes) : (∃ as, parseAttrs b = .ok as) ↔ WellFormedTLV b := by
  exact parseAttrs_ok_iff_wf b

/-- The attribute-list parser never panics on any input. -/
theorem parseAttrs_never_faults (b : Bytes) : parseAttrs b ≠ .fault := by
  exact parseAttrs_ne_fault b

/-- For every accepted input, re-encoding the parsed packet reproduces exactly the first
    `Length` bytes. -/
theorem marshal_parse (b s : Bytes) (p : Packet) (h : parse b s = .ok p) :
    marshal p = .ok (b.take (lengthField b)) := by
  obtain ⟨h1, h2, h3, h4, as, hp, rfl⟩ := (parse_ok_iff b s p).1 h
  obtain ⟨he, hok⟩ := encode_parseAttrs _ _ hp
  have hlen : 20 + ((b.take (lengthField b)).drop 20).length = lengthField b := by
    simp; omega
  rw [marshal_eq]
  simp only [he, hok]
  have : b.take 20 = (b.take (lengthField b)).take 20 := by
    rw [List.take_take, Nat.min_eq_left h2]
  rw [hlen, if_pos ⟨trivial, h3⟩, ← take20_eq_header b h1, this, List.take_append_drop]

/-- Octets beyond `Length` are ignored as padding. -/
theorem parse_ignores_padding (b pad s : Bytes) (p : Packet) (h : parse b s = .ok p) :
    parse (b ++ pad) s = .ok p ∧ parse (b.take (lengthField b)) s = .ok p := by
  have ⟨_, _, _, h4, _⟩ := (parse_ok_iff b s p).1 h
  exact ⟨parse_of_take_eq b _ s p h (List.take_append_of_le_length h4),
    parse_of_take_eq b _ s p h (by rw [List.take_take, Nat.min_self])⟩

/-- Every packet the encoder accepts (codes 0-255) parses back to the same code, identifier,
    authenticator and attribute sequence, attributes with a type outside 0-255 being omitted. -/
theorem parse_marshal (p : Packet) (w s : Bytes) (hm : marshal p = .ok w)
    (hc : 0 ≤ p.code ∧ p.code ≤ 255) (ha : p.auth.length = 16) :
    parse w s = .ok { code := p.code, id := p.id, auth := p.auth, secret := s,
                      attrs := p.attrs.filter validType } := by
  obtain ⟨hwl, hlf, hsz⟩ := marshal_ok_size p w hm ha
  obtain ⟨⟨hok, _⟩, rfl⟩ := (marshal_eq_ok_iff p w).1 hm
  have hhl := header_length p.code p.id (20 + (encodeBytes p.attrs).length) p.auth
  rw [ha] at hhl
  rw [parse_ok_iff, hlf]
  refine ⟨by omega, by omega, hsz, Nat.le_refl _, p.attrs.filter validType, ?_, ?_⟩
  · rw [List.take_length, List.drop_left' hhl]
    exact parseAttrs_encodeBytes _ hok
  · rw [show ((header _ _ _ p.auth ++ _).drop 4).take 16 = p.auth from List.take_left' ha,
      show (header p.code _ _ _ ++ _).getD 0 0 = codeByte p.code from rfl, codeByte_cast hc.1 hc.2]
    rfl

/-- The encoder succeeds iff every emitted value is at most 253 bytes and the total is at most
    4096 bytes; anything larger is refused with an error (never a panic, never a datagram). -/
theorem marshal_ok_iff (p : Packet) :
    (∃ w, marshal p = .ok w) ↔
      (∀ a ∈ p.attrs, validType a = true → a.val.length ≤ 253) ∧ 20 + wireLen p.attrs ≤ 4096 := by
  unfold wireLen
  rw [← okLens_size_iff, marshal_eq]
  exact okIf_isOk

theorem marshal_never_faults (p : Packet) : marshal p ≠ .fault := by
  exact marshal_ne_fault p

theorem marshal_refuses_or_errs (p : Packet)
    (h : ¬ ((∀ a ∈ p.attrs, validType a = true → a.val.length ≤ 253) ∧ 20 + wireLen p.attrs ≤ 4096)) :
    marshal p = .err := by
  unfold wireLen at h
  rw [← okLens_size_iff] at h
  rw [marshal_eq, if_neg h]

/-- An emitted datagram is never mis-sized: its size is 20 + the attributes' wire length, its
    Length field says so, and it is within the limit. -/
theorem marshal_length (p : Packet) (w : Bytes) (hm : marshal p = .ok w) (ha : p.auth.length = 16) :
    w.length = 20 + wireLen p.attrs ∧ lengthField w = w.length ∧ w.length ≤ 4096 := by
  unfold wireLen
  rw [← encodeBytes_length]
  exact marshal_ok_size p w hm ha

/-- Whatever the encoder emits, the decoder accepts, and encoding the decoded packet gives the same
    octets again (encode ∘ decode ∘ encode = encode). -/
theorem marshal_parse_marshal (p : Packet) (w s : Bytes) (hm : marshal p = .ok w)
    (hc : 0 ≤ p.code ∧ p.code ≤ 255) (ha : p.auth.length = 16) :
    ∃ q, parse w s = .ok q ∧ marshal q = .ok w := by
  refine ⟨_, parse_marshal p w s hm hc ha, ?_⟩
  have h1 := marshal_parse w s _ (parse_marshal p w s hm hc ha)
  have h2 := marshal_length p w hm ha
  rw [h1, h2.2.1, List.take_length]

/-- Decoding is insensitive to what follows the datagram: two buffers that agree on the first
    `Length` octets decode to the same packet. -/
theorem parse_depends_on_prefix (b pad pad' s : Bytes) (p : Packet) (h : parse (b ++ pad) s = .ok p)
    (hl : lengthField (b ++ pad) ≤ b.length) : parse (b ++ pad') s = .ok p := by
  apply parse_of_take_eq _ _ s p h
  rw [List.take_append_of_le_length hl, List.take_append_of_le_length hl]

/-- `encodeTo` into a buffer of the reported size writes exactly the valid-type attributes in
    list order, without overrun, and the reported length equals the bytes written. -/
theorem encodeTo_writes (as : Attrs) (n : Nat) (h : encodedLen as = .ok n) :
    encodeTo as (zeros n) = .ok (encodeBytes as) ∧ (encodeBytes as).length = n := by
  exact encodeTo_of_encodedLen as n h

theorem encodeBytes_eq (as : Attrs) :
    encodeBytes as = ((as.filter validType).map avpBytes).flatten := by
  exact encodeBytes_eq_flatten as

/-! Non-vacuity: concrete inputs meeting the hypotheses (tests, not theorems about all inputs). -/
example : ∃ p, parse ([1, 7, 0, 25] ++ zeros 16 ++ [1, 5, 97, 98, 99]) [] = .ok p := by
  simp [parse, lengthField, be16, zeros, List.replicate, parseAttrs, minPacketLength, maxPacketLength,
    minAttrLength]
example : ∃ w, marshal ⟨1, 7, zeros 16, [], [⟨1, [97]⟩, ⟨256, [1]⟩, ⟨2, []⟩]⟩ = .ok w := by
  exact (marshal_ok_iff _).2 (by simp [wireLen, validType])

/-- The driver's oracle evaluates the Bool `wellFormedTLV` (`Driver/C01.lean: specAccept`); the
    acceptance theorem speaks about the inductive `WellFormedTLV`.  They are the same predicate. -/
theorem wellFormedTLV_iff (b : Bytes) : wellFormedTLV b = true ↔ WellFormedTLV b := by
  rw [wellFormedTLV_eq_isOk, ← parseAttrs_accepts_iff]
  cases parseAttrs b <;> simp [Res.isOk]

/-- … hence `Parse` accepts a datagram exactly when the oracle's Boolean says so -/
theorem parse_accepts_iff_oracle (b s : Bytes) :
    (∃ p, parse b s = .ok p) ↔
      (decide (20 ≤ b.length) && decide (20 ≤ lengthField b) && decide (lengthField b ≤ 4096)
        && decide (lengthField b ≤ b.length) && wellFormedTLV ((b.take (lengthField b)).drop 20)) = true := by
  rw [parse_accepts_iff]
  simp only [Bool.and_eq_true, decide_eq_true_eq, wellFormedTLV_iff, and_assoc]

end RV.C01
