/-
  C19 — MS-CHAPv2 and MPPE key derivation compute exactly RFC 2759 / RFC 3079 / RFC 2548.

  `Model.MSCHAP.*` mirrors the Go code, `Spec.*` transcribes the RFCs; both over arbitrary primitives
  `P` (SHA-1, MD4, DES) with the right output lengths (`P.WF`; `Prims.concrete_wf` shows the Lean
  implementations written from the standards are such primitives).  Said plainly: the `*_eq_spec`
  theorems are thin (the Go code is a direct transcription of the RFC pseudo-code); the one with
  content is the DES key expansion, proved for all 2^56 keys.  The weight of C19 rests on the
  correspondence run: Go's crypto/sha1, x/crypto/md4, crypto/des, x/text UTF-16 encoder and the Go
  composition against the independent Lean implementations on generated inputs.
-/
import RV.Model.MSCHAP
import RV.Proofs.MSCHAP
namespace RV.C19
open RV Model.MSCHAP

/-- ToUTF16: on valid UTF-8 the result is the UTF-16LE form (RFC 3629 → RFC 2781). -/
theorem toUTF16_eq_spec (pw u : Bytes) (h : UTF16.Spec.utf16le? pw = some u) : toUTF16 pw = .ok u := by
  rw [toUTF16, goEncodeLE_of_valid pw u h]

/-- (Observation, outside the property's domain) ToUTF16 never returns an error: the x/text encoder
    replaces every offending octet by U+FFFD. -/
theorem toUTF16_never_fails (pw : Bytes) : ∃ u, toUTF16 pw = .ok u := ⟨_, rfl⟩

/-- ChallengeHash = RFC 2759 §8.2. -/
theorem challengeHash_eq_spec (P : Prims) (peer auth user : Bytes) :
    challengeHash P peer auth user = Spec.Rfc2759.challengeHash P peer auth user := rfl

/-- NTPasswordHash = RFC 2759 §8.3 (and §8.4 when applied to a hash). -/
theorem ntPasswordHash_eq_spec (P : Prims) (pwU : Bytes) :
    ntPasswordHash P pwU = Spec.Rfc2759.ntPasswordHash P pwU ∧
    ntPasswordHash P pwU = Spec.Rfc2759.hashNtPasswordHash P pwU := ⟨rfl, rfl⟩

/-- parityPadDESKey, the Go shift-and-mask code over a 64-bit accumulator, is the bit-wise key
    expansion of RFC 2759 §8.6 for EVERY 7-octet key. -/
theorem parityPad_eq_spec (k : Bytes) (h : k.length = 7) :
    parityPadDESKey k = Spec.Rfc2759.expandKey k := by
  exact parityPad_eq_expandKey k h

/-- … stated directly: octet `i` of the result holds the `i`-th 7-bit group of the 56-bit key
    (big-endian value `beNat k`) in its upper seven bits, and has odd parity. -/
theorem parityPad_spec (k : Bytes) (h : k.length = 7) (i : Nat) (hi : i < 8) :
    (parityPadDESKey k).length = 8 ∧
    ((parityPadDESKey k).getD i 0).toNat / 2 = beNat k / 2 ^ (7 * (7 - i)) % 128 ∧
    popCount ((parityPadDESKey k).getD i 0) % 2 = 1 := by
  refine ⟨parityPad_length k, ?_⟩
  rw [parityPad_getD k i hi, padAccum_zero k (by omega)]
  exact (padByte_spec _ i hi).2

/-- … and in the RFC's own terms: bit `j` (from the left) of octet `i` is key bit `7i+j`. -/
theorem expandKey_bits (k : Bytes) (i j : Nat) (hi : i < 8) (hj : j < 7) :
    (Spec.Rfc2759.expandKey k).length = 8 ∧
    ∃ g : List Bool, g.length = 7 ∧ g.getD j false = Spec.Rfc2759.bitAt k (7 * i + j) ∧
      (Spec.Rfc2759.expandKey k).getD i 0 = Spec.Rfc2759.byteOfBits (g ++ [Spec.Rfc2759.oddParityBit g]) := by
  refine ⟨by simp [Spec.Rfc2759.expandKey], (List.range 7).map (fun j => Spec.Rfc2759.bitAt k (7 * i + j)), by simp, ?_, ?_⟩
  · rw [List.getD_eq_getElem?_getD, List.getElem?_map, List.getElem?_range hj]; rfl
  · rw [Spec.Rfc2759.expandKey, List.getD_eq_getElem?_getD, List.getElem?_map, List.getElem?_range hi]; rfl

/-- DESCrypt with a 7-octet key = RFC 2759 §8.6 DesEncrypt. -/
theorem desCrypt_eq_spec (P : Prims) (key clear : Bytes) (hk : key.length = 7) (hc : clear.length = 8) :
    desCrypt P key clear = .ok (Spec.Rfc2759.desEncrypt P clear key) := by
  rw [desCrypt_seven P key clear hk, if_neg (by omega), List.take_of_length_le (by omega)]

/-- an 8-octet key is used unchanged (no parity expansion) -/
theorem desCrypt_8_octet_key (P : Prims) (key clear : Bytes) (hk : key.length = 8) (hc : clear.length = 8) :
    desCrypt P key clear = .ok (P.des key clear) := by
  rw [desCrypt_eq, if_pos ⟨.inr hk, by omega⟩, if_neg (by omega), List.take_of_length_le (by omega)]

/-- DESCrypt panics exactly for other key lengths or a clear text shorter than a block; it has no error result -/
theorem desCrypt_panics_iff (P : Prims) (key clear : Bytes) :
    desCrypt P key clear = .fault ↔ (key.length ≠ 7 ∧ key.length ≠ 8) ∨ clear.length < 8 := by
  rw [desCrypt_eq]; split <;> simp <;> omega

/-- ChallengeResponse = RFC 2759 §8.5 on its domain (8-octet challenge, 16-octet hash). -/
theorem challengeResponse_eq_spec (P : Prims) (ch ph : Bytes) (hc : ch.length = 8) (hp : ph.length = 16) :
    challengeResponse P ch ph = .ok (Spec.Rfc2759.challengeResponse P ch ph) := by
  rw [challengeResponse_eq_ite, if_neg (by omega), List.take_of_length_le (by omega), List.take_of_length_le (by omega)]

/-- GenerateNTResponse = RFC 2759 §8.1 for every challenge, user name and valid-UTF-8 password. -/
theorem generateNTResponse_eq_spec (P : Prims) (hP : P.WF) (auth peer user pw r : Bytes)
    (h : Spec.Rfc2759.generateNTResponse P auth peer user pw = some r) :
    generateNTResponse P auth peer user pw = .ok r := by
  obtain ⟨u, hu, rfl⟩ := Option.map_eq_some_iff.mp h
  simp only [generateNTResponse, toUTF16_eq_spec pw u hu]
  exact challengeResponse_eq_spec P _ _ (challengeHash_length P hP _ _ _) (hP.md4_len u)

/-- GenerateAuthenticatorResponse = RFC 2759 §8.7 (lower-case hex then `ToUpper` = upper-case hex). -/
theorem generateAuthenticatorResponse_eq_spec (P : Prims) (auth peer ntr user pw : Bytes) (s : List Char)
    (h : Spec.Rfc2759.generateAuthenticatorResponse P auth peer ntr user pw = some s) :
    generateAuthenticatorResponse P auth peer ntr user pw = .ok s := by
  obtain ⟨u, hu, rfl⟩ := Option.map_eq_some_iff.mp h
  simp only [generateAuthenticatorResponse, toUTF16_eq_spec pw u hu, hexLower_toUpper, magic1_eq, magic2_eq]
  rfl

/-- GetMasterKey = RFC 3079 §3.4. -/
theorem getMasterKey_eq_spec (P : Prims) (phh ntr : Bytes) :
    getMasterKey P phh ntr = Spec.Rfc3079.getMasterKey P phh ntr := by
  rw [getMasterKey, mppeMagic1_eq]; rfl

/-- GetAsymmetricStartKey = RFC 3079 §3.4 on the SERVER side (send ⇒ Magic3, receive ⇒ Magic2),
    truncated to the session key length, for every length up to the 20 octets of the digest. -/
theorem getAsymmetricStartKey_eq_spec (P : Prims) (hP : P.WF) (mk : Bytes) (n : Nat) (isSend : Bool)
    (hm : mk.length = 16) (hn : n ≤ 20) :
    getAsymmetricStartKey P mk n isSend = .ok (Spec.Rfc3079.getAsymmetricStartKey P mk n isSend true) := by
  simp only [getAsymmetricStartKey, Spec.Rfc3079.getAsymmetricStartKey, hm, ne_eq, not_true_eq_false, if_false,
    if_true, shaPad1_eq, shaPad2_eq, mppeMagic2_eq, mppeMagic3_eq]
  rw [sliceDigest_le _ _ (by rw [hP.sha1_len]; exact hn)]

/-- MakeKey = RFC 2548 §2.4.2 (128-bit server-side start key of the session) for a 24-octet NT
    response and a valid-UTF-8 password. -/
theorem makeKey_eq_spec (P : Prims) (hP : P.WF) (ntr pw k : Bytes) (isSend : Bool) (hn : ntr.length = 24)
    (h : Spec.Rfc2548.mppeKey P ntr pw isSend = some k) :
    makeKey P ntr pw isSend = .ok k := by
  obtain ⟨u, hu, rfl⟩ := Option.map_eq_some_iff.mp h
  simp only [makeKey, hn, ne_eq, not_true_eq_false, if_false, toUTF16_eq_spec pw u hu]
  rw [getAsymmetricStartKey_eq_spec P hP _ 16 isSend (getMasterKey_length P hP _ _) (by omega), getMasterKey_eq_spec]
  rfl

/-- The sizes of RFC 2759 / RFC 3079, for whatever is passed in: a challenge response, whenever one is returned, is
    the 24 octets of the NT-Response field (so `MakeKey` accepts what `GenerateNTResponse` returns); a master
    key is 16 octets, a start key has the requested length up to SHA-1's 20, a `MakeKey` result is 128 bits. -/
theorem challengeResponse_length (P : Prims) (hP : P.WF) (ch ph r : Bytes)
    (h : challengeResponse P ch ph = .ok r) : r.length = 24 := by
  rw [challengeResponse_eq_ite] at h
  split at h
  · cases h
  · cases h; simp [Spec.Rfc2759.challengeResponse, Spec.Rfc2759.desEncrypt, hP.des_len]

theorem generateNTResponse_length (P : Prims) (hP : P.WF) (auth peer user pw r : Bytes)
    (h : generateNTResponse P auth peer user pw = .ok r) : r.length = 24 := by
  rw [generateNTResponse_eq] at h
  exact challengeResponse_length P hP _ _ r h

/-- GenerateNTResponse never panics and never errs (for ANY password octets) -/
theorem generateNTResponse_total (P : Prims) (hP : P.WF) (auth peer user pw : Bytes) :
    ∃ r, generateNTResponse P auth peer user pw = .ok r := by
  rw [generateNTResponse_eq]
  exact ⟨_, challengeResponse_eq_spec P _ _ (challengeHash_length P hP _ _ _) (hP.md4_len _)⟩

/-- the authenticator response is "S=" followed by 40 upper-case hexadecimal digits -/
theorem authenticatorResponse_shape (P : Prims) (hP : P.WF) (auth peer ntr user pw : Bytes) :
    ∃ digits : List Char,
      generateAuthenticatorResponse P auth peer ntr user pw = .ok ('S' :: '=' :: digits) ∧
      digits.length = 40 ∧ ∀ c ∈ digits, c ∈ Spec.Rfc2759.upperHexDigits := by
  simp only [generateAuthenticatorResponse, toUTF16, hexLower_toUpper]
  exact ⟨_, rfl, by rw [hexUpper_length, hP.sha1_len], hexUpper_mem _⟩

theorem masterKey_length (P : Prims) (hP : P.WF) (phh ntr : Bytes) : (getMasterKey P phh ntr).length = 16 := by
  exact getMasterKey_length P hP phh ntr

theorem startKey_length (P : Prims) (hP : P.WF) (mk k : Bytes) (n : Nat) (isSend : Bool) (hn : n ≤ 20)
    (h : getAsymmetricStartKey P mk n isSend = .ok k) : k.length = n := by
  by_cases hm : mk.length = 16
  · rw [getAsymmetricStartKey_eq_spec P hP mk n isSend hm hn] at h
    cases h
    simp [Spec.Rfc3079.getAsymmetricStartKey, hP.sha1_len, hn]
  · simp [getAsymmetricStartKey, hm] at h

theorem makeKey_length (P : Prims) (hP : P.WF) (ntr pw k : Bytes) (isSend : Bool)
    (h : makeKey P ntr pw isSend = .ok k) : k.length = 16 := by
  by_cases hn : ntr.length = 24
  · simp only [makeKey, hn, ne_eq, not_true_eq_false, if_false, toUTF16] at h
    exact startKey_length P hP _ k 16 isSend (by omega) h
  · simp [makeKey, hn] at h

/-- a master key that is not 16 octets is refused with an error (and only such a key is) -/
theorem startKey_refuses_iff (P : Prims) (mk : Bytes) (n : Nat) (isSend : Bool) :
    getAsymmetricStartKey P mk n isSend = .err ↔ mk.length ≠ 16 := by
  by_cases hm : mk.length = 16
  · simp only [getAsymmetricStartKey, hm, ne_eq, not_true_eq_false, if_false, iff_false]
    exact sliceDigest_ne_err _ _
  · simp [getAsymmetricStartKey, hm]

/-- an NT response that is not 24 octets is refused with an error by MakeKey (and only such a one is) -/
theorem makeKey_refuses_iff (P : Prims) (hP : P.WF) (ntr pw : Bytes) (isSend : Bool) :
    makeKey P ntr pw isSend = .err ↔ ntr.length ≠ 24 := by
  by_cases hn : ntr.length = 24
  · simp only [makeKey, hn, ne_eq, not_true_eq_false, if_false, toUTF16, iff_false]
    rw [startKey_refuses_iff]
    simp [getMasterKey_length P hP]
  · simp [makeKey, hn]

/-- "Wrong-sized master keys and NT responses are refused with an error": the two functions that HAVE a size contract
    and an error result are `GetAsymmetricStartKey` (master key) and `MakeKey` (NT response).  The other two
    functions that take an NT response hash whatever they are given, as RFC 2759 §8.7 / RFC 3079 §3.4 write them:
    `GenerateAuthenticatorResponse` errs only with the UTF-16 conversion (never, for this encoder) and
    `GetMasterKey` has no error result at all.  Stated here so that the reading of the clause (DESIGN §5c) is a
    theorem about the model and not a silence of the oracle. -/
theorem nt_response_size_is_checked_by_makeKey_only (P : Prims) (hP : P.WF) (auth peer ntr user pw phh : Bytes) (isSend : Bool) :
    (makeKey P ntr pw isSend = .err ↔ ntr.length ≠ 24) ∧
    (∃ r, generateAuthenticatorResponse P auth peer ntr user pw = .ok r) ∧
    (getMasterKey P phh ntr).length = 16 := by
  refine ⟨makeKey_refuses_iff P hP ntr pw isSend, ?_, getMasterKey_length P hP phh ntr⟩
  obtain ⟨d, h, _⟩ := authenticatorResponse_shape P hP auth peer ntr user pw
  exact ⟨_, h⟩

example : Prims.concrete.WF := Prims.concrete_wf
-- … so every theorem above speaks about the primitives the driver runs, e.g.
example (auth peer user pw r : Bytes) (h : generateNTResponse Prims.concrete auth peer user pw = .ok r) :
    r.length = 24 := generateNTResponse_length _ Prims.concrete_wf auth peer user pw r h
-- a 7-octet key, its expansion (the repository's own test vector) and a 56-bit group
example : parityPadDESKey [0x61, 0xee, 0x8b, 0x50, 0x74, 0x8f, 0x5e] = [0x61, 0xf7, 0xa2, 0x6b, 0x07, 0xa4, 0x3d, 0xbc] := by
  decide +kernel
example : ([0x61, 0xee, 0x8b, 0x50, 0x74, 0x8f, 0x5e] : Bytes).length = 7 := rfl
-- valid UTF-8 with a surrogate pair and a 3-octet form; an invalid string has no specification value
example : UTF16.Spec.utf16le? [0x61, 0xf0, 0x9f, 0x98, 0x80, 0xe2, 0x82, 0xac] = some [0x61, 0, 0x3d, 0xd8, 0x00, 0xde, 0xac, 0x20] := by
  decide +kernel
example : UTF16.Spec.utf16le? [0x61, 0xff] = none := by decide +kernel
example : toUTF16 [0x61, 0xff] = .ok [0x61, 0, 0xfd, 0xff] := by decide +kernel
-- refusals and non-refusals exist for abstract primitives
example (P : Prims) : getAsymmetricStartKey P (zeros 15) 16 true = .err := by simp [getAsymmetricStartKey, zeros]
example (P : Prims) (hP : P.WF) : ∃ k, getAsymmetricStartKey P (zeros 16) 16 true = .ok k ∧ k.length = 16 := by
  refine ⟨_, getAsymmetricStartKey_eq_spec P hP (zeros 16) 16 true (by simp [zeros]) (by omega), ?_⟩
  simp [Spec.Rfc3079.getAsymmetricStartKey, hP.sha1_len]
example (P : Prims) : makeKey P (zeros 23) [] true = .err := by simp [makeKey, zeros]
example : desCrypt Prims.concrete (zeros 6) (zeros 8) = .fault := by simp [desCrypt, zeros]
example : Spec.Rfc2759.hexUpper [0x4a, 0xf0] = ['4', 'A', 'F', '0'] := by decide

end RV.C19
