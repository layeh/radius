/-
  C05 — Exchange returns a packet only if the datagram it was parsed from carries a valid response
  authenticator for the request actually sent and the packet's secret (unless verification is
  explicitly disabled), and the packet returned is the parse of the first such datagram whatever
  garbage, truncations, replays or forgeries precede it.  Datagrams that fail to parse or to verify are
  skipped; the call fails with that datagram's error exactly when their count reaches a positive
  MaxPacketErrors, and never on their account when it is zero.

  All theorems are about `RV.Client.recvLoop` (client.go:97-129 as a fold over the history of
  datagrams read), hold for every hash `H`, every request datagram `wire`, every secret, every
  configuration (including negative `MaxPacketErrors`) and every history of ANY length (induction over
  the history).  "Datagram" means the datagram as the loop sees it: its first 4096 bytes (`readBuf`).
  "Authentic" is `RV.isAuthenticResponse H` (equal to the RFC formula by C03.isAuthenticResponse_iff).

  Section "Machine level" lifts them to the event machine `RV.Exchange.step` — the
  whole call, with its dial, context, ticker, helper and read-error events — through the refinement
  `machine_refines_recvLoop`: in every run the machine's state is determined by `recvLoop` on the
  datagrams the machine actually read (`RV.Exchange.delivered`).
-/
import RV.Model.Client
import RV.Proofs.Client
import RV.Proofs.ClientRefine
namespace RV.C05
open RV RV.Client

variable (H : Hash) (cfg : Cfg) (wire secret : Bytes)

/-- what "unacceptable" means, spelled out: the datagram fails to parse, or verification is on and
    it fails to verify against the request actually sent -/
theorem unacceptable_iff (d : Bytes) :
    Spec.acceptable H cfg wire secret d = false ↔
      (∀ p, parse (readBuf d) secret ≠ .ok p) ∨
        (cfg.skipVerify = false ∧ isAuthenticResponse H (readBuf d) wire secret = false) := by
  unfold Spec.acceptable
  cases parse (readBuf d) secret <;> simp [Res.isOk]

/-- A returned packet is the parse of datagram `i`, and that datagram is authentic for `wire` and
    the secret — unless verification is disabled. -/
theorem returned_sound (hist : List Bytes) (i : Nat) (p : Packet)
    (h : recvLoop H cfg wire secret hist = .returned i p) :
    ∃ d, hist[i]? = some d ∧ parse (readBuf d) secret = .ok p ∧
      (cfg.skipVerify = true ∨ isAuthenticResponse H (readBuf d) wire secret = true) := by
  obtain ⟨rfl, d, hd, hp⟩ := recvLoop_returned H cfg wire secret hist i p h
  obtain ⟨hlt, rfl⟩ := List.getElem?_eq_some_iff.1 hd
  obtain ⟨_, _, hv⟩ := (acceptable_iff H cfg wire secret _).1 (acceptable_leadingBad H cfg wire secret hlt)
  exact ⟨_, hd, hp, hv⟩

/-- It is the FIRST such datagram: everything before it is unacceptable (garbage, truncations,
    replays of rejected datagrams, forgeries — whatever it is). -/
theorem returned_first (hist : List Bytes) (i : Nat) (p : Packet)
    (h : recvLoop H cfg wire secret hist = .returned i p) :
    ∀ j d, j < i → hist[j]? = some d → Spec.acceptable H cfg wire secret d = false := by
  obtain ⟨rfl, -⟩ := recvLoop_returned H cfg wire secret hist i p h
  intro j d hj hd
  exact ((lt_leadingBad_iff H cfg wire secret hist j).1 hj).2 j d (Nat.le_refl j) hd

/-- The call fails at datagram `i` with error `e` exactly when the budget is positive, datagram
    `i` and every datagram before it are unacceptable (so no acceptable datagram precedes it and it is
    the `(i+1)`-th unacceptable one), `i + 1 = MaxPacketErrors`, and `e` is datagram `i`'s own error
    class (its parse error, or NonAuthenticResponseError when it parses but does not verify). -/
theorem failed_iff (hist : List Bytes) (i : Nat) (e : ErrClass) :
    recvLoop H cfg wire secret hist = .failed i e ↔
      cfg.maxErrors > 0 ∧
      ∃ d, hist[i]? = some d ∧
        (∀ j d', j ≤ i → hist[j]? = some d' → Spec.acceptable H cfg wire secret d' = false) ∧
        (i : Int) + 1 = cfg.maxErrors ∧
        e = Spec.errClass secret d := by
  rw [recvLoop_eq_outcome]
  unfold Spec.outcome
  simp only
  constructor
  · intro h
    split at h
    · rename_i hb
      cases h
      have hlt := (lt_leadingBad_iff H cfg wire secret hist (cfg.maxErrors.toNat - 1)).1 (by omega)
      exact ⟨hb.1, _, List.getElem?_eq_getElem hlt.1, hlt.2, by omega,
        by rw [List.getD_eq_getElem?_getD, List.getElem?_eq_getElem hlt.1]; rfl⟩
    · split at h
      · split at h <;> cases h
      · cases h
  · rintro ⟨hm, d, hd, hall, hi, rfl⟩
    have hlt := (lt_leadingBad_iff H cfg wire secret hist i).2 ⟨(List.getElem?_eq_some_iff.1 hd).1, hall⟩
    rw [if_pos ⟨hm, by omega⟩, show cfg.maxErrors.toNat - 1 = i by omega, List.getD_eq_getElem?_getD, hd]
    rfl

/-- `failed_iff` in counting form: the failing datagram `i` is the `MaxPacketErrors`-th unacceptable
    datagram of the history. -/
theorem failed_is_nth_unacceptable (hist : List Bytes) (i : Nat) (e : ErrClass)
    (h : recvLoop H cfg wire secret hist = .failed i e) :
    (((hist.take (i + 1)).countP (fun d => !Spec.acceptable H cfg wire secret d) : Nat) : Int) = cfg.maxErrors := by
  obtain ⟨_, d, hk, hall, hi, _⟩ := (failed_iff H cfg wire secret hist i e).1 h
  have hlt : i < hist.length := (List.getElem?_eq_some_iff.1 hk).1
  rw [List.countP_eq_length.2 fun x hx => ?_, List.length_take]
  · omega
  · obtain ⟨n, hn, rfl⟩ := List.getElem_of_mem hx
    rw [List.length_take] at hn
    rw [List.getElem_take, hall n _ (by omega) (List.getElem?_eq_getElem _)]
    rfl

/-- With a zero (or negative) budget the call never fails on account of bad datagrams, however
    many there are. -/
theorem zero_budget_never_fails (h0 : cfg.maxErrors ≤ 0) (hist : List Bytes) (i : Nat) (e : ErrClass) :
    recvLoop H cfg wire secret hist ≠ .failed i e := by
  intro h
  have := ((failed_iff H cfg wire secret hist i e).1 h).1
  omega

/-- A datagram that does not verify is returned only when verification is explicitly disabled. -/
theorem skipVerify_only_way (hist : List Bytes) (i : Nat) (p : Packet) (d : Bytes)
    (h : recvLoop H cfg wire secret hist = .returned i p) (hd : hist[i]? = some d)
    (hna : isAuthenticResponse H (readBuf d) wire secret = false) :
    cfg.skipVerify = true := by
  obtain ⟨d', hd', _, hv⟩ := returned_sound H cfg wire secret hist i p h
  rw [hd] at hd'
  cases hd'
  rcases hv with hv | hv
  · exact hv
  · rw [hna] at hv; cases hv

/-- The call is still waiting exactly when nothing acceptable has arrived and the budget is not
    exhausted. -/
theorem waiting_iff (hist : List Bytes) :
    recvLoop H cfg wire secret hist = .waiting ↔
      (∀ d, d ∈ hist → Spec.acceptable H cfg wire secret d = false) ∧
      (cfg.maxErrors > 0 → (hist.length : Int) < cfg.maxErrors) :=
  recvLoop_waiting_iff H cfg wire secret hist

/-- Whatever follows a decision is never looked at (replays and late forgeries cannot change it). -/
theorem decided_is_final (hist more : List Bytes) (h : recvLoop H cfg wire secret hist ≠ .waiting) :
    recvLoop H cfg wire secret (hist ++ more) = recvLoop H cfg wire secret hist :=
  loop_stable H cfg wire secret hist more 0 0 h

/-- The loop computes the outcome the statement describes (`Spec.outcome`, written without the
    loop and without a counter). -/
theorem recvLoop_eq_spec (hist : List Bytes) :
    recvLoop H cfg wire secret hist = Spec.outcome H cfg wire secret hist :=
  recvLoop_eq_outcome H cfg wire secret hist

/-! ### Machine level: the same about `RV.Exchange.step`, for EVERY event sequence

  `delivered H P evs` are the datagrams `conn.Read` handed to the receive loop during the run `evs`
  (a `datagram` event while the call is in the receive loop with its conn open; `datagram` events
  before the dial, on a conn the helper has closed, or after the return are no-ops of `step` and read
  nothing).  `P.wireBytes` is the byte string `Encode` produced, which is every byte string the call
  ever writes (C08 `resend_verbatim`): "the request actually sent". -/
section machine
open RV.Exchange
variable (P : Params)

/-- REFINEMENT.  In every run, whatever the interleaving of dial results, ticks, context
    cancellation, helper scheduling, read errors and datagrams:
    * while dialing nothing has been read;
    * while the call waits, `recvLoop` on the datagrams read is still `.waiting` and the machine's
      `packetErrorCount` is their number;
    * when the call has returned `reply p`, the datagrams read are `pre ++ [d]`, the loop was still
      waiting after `pre` and returns `p` at `d` (index `pre.length`);
    * the call has returned the packet error `e` likewise with `.failed`;
    * with any other result (encode, dial, network, context error) the loop was still waiting. -/
theorem machine_refines_recvLoop (evs : List Event) :
    match (reach H P evs).phase with
    | .dialing => delivered H P evs = [] ∧ (reach H P evs).errCount = 0
    | .waiting =>
      recvLoop H P.cfg P.wireBytes P.secret (delivered H P evs) = .waiting ∧
        (reach H P evs).errCount = ((delivered H P evs).length : Int)
    | .returned (.reply p) =>
      ∃ pre d, delivered H P evs = pre ++ [d] ∧
        recvLoop H P.cfg P.wireBytes P.secret pre = .waiting ∧
        recvLoop H P.cfg P.wireBytes P.secret (delivered H P evs) = .returned pre.length p
    | .returned (.pktErr e) =>
      ∃ pre d, delivered H P evs = pre ++ [d] ∧
        recvLoop H P.cfg P.wireBytes P.secret pre = .waiting ∧
        recvLoop H P.cfg P.wireBytes P.secret (delivered H P evs) = .failed pre.length e
    | .returned _ => recvLoop H P.cfg P.wireBytes P.secret (delivered H P evs) = .waiting :=
  RV.Exchange.refines_reach H P evs

/-- The machine restricted to datagram events (after the dial) IS `recvLoop`. -/
theorem machine_on_datagrams_is_recvLoop (w : Bytes) (hw : P.wire = .ok w) (hist : List Bytes) :
    (reach H P (.dialOk :: hist.map .datagram)).phase =
      phaseOf (recvLoop H P.cfg P.wireBytes P.secret hist) := by
  have h0 : step H P (init P) .dialOk =
      { phase := .waiting, sent := [P.wireBytes], connClosed := false, helperAlive := true,
        ctxDone := false, errCount := 0 } := by
    simp only [init, hw]
    unfold step
    rfl
  unfold reach
  rw [RV.Exchange.run_cons, h0]
  exact RV.Exchange.run_datagrams H P _ hist 0 rfl rfl

/-- If the call returns a packet `p` — in ANY run — then the datagrams it read are `pre ++ [d]`
    where: `p` is the parse of `d`; `d` is authentic for the request actually sent and the packet's
    secret, unless `InsecureSkipVerify`; every datagram read before `d` is unacceptable (so `d` is the
    FIRST acceptable datagram read); and with a positive `MaxPacketErrors` fewer than that many
    unacceptable datagrams were read before it.  The request was encoded and written (at least once),
    and everything written is that one byte string. -/
theorem exchange_reply_sound (evs : List Event) (p : Packet)
    (h : (reach H P evs).phase = .returned (.reply p)) :
    ∃ pre d, delivered H P evs = pre ++ [d] ∧
      parse (readBuf d) P.secret = .ok p ∧
      (P.cfg.skipVerify = true ∨ isAuthenticResponse H (readBuf d) P.wireBytes P.secret = true) ∧
      (∀ d', d' ∈ pre → Spec.acceptable H P.cfg P.wireBytes P.secret d' = false) ∧
      (P.cfg.maxErrors > 0 → (pre.length : Int) < P.cfg.maxErrors) ∧
      P.wire = .ok P.wireBytes ∧ (reach H P evs).sent ≠ [] ∧
      (∀ x, x ∈ (reach H P evs).sent → x = P.wireBytes) := by
  have href := machine_refines_recvLoop H P evs
  simp only [h] at href
  obtain ⟨pre, d, hd, hpre, hret⟩ := href
  obtain ⟨d', hd', hp, hv⟩ := returned_sound H P.cfg P.wireBytes P.secret _ _ p hret
  rw [hd, List.getElem?_concat_length] at hd'
  cases hd'
  obtain ⟨hall, hcnt⟩ := (waiting_iff H P.cfg P.wireBytes P.secret pre).1 hpre
  exact ⟨pre, d, hd, hp, hv, hall, hcnt,
    RV.Exchange.wire_ok_of_not_encodeErr H P evs (by rw [h]; simp),
    (RV.Exchange.sent_nonempty H P evs).2 p h,
    RV.Exchange.sent_wire H P evs⟩

/-- If the call returns the packet error `e` then `MaxPacketErrors` is positive, exactly that many
    datagrams were read, every one of them unacceptable (the count has reached the budget, and did so
    at the last one), and `e` is the last one's own error (its parse error, or
    NonAuthenticResponseError when it parses but does not verify). -/
theorem exchange_pktErr_sound (evs : List Event) (e : ErrClass)
    (h : (reach H P evs).phase = .returned (.pktErr e)) :
    P.cfg.maxErrors > 0 ∧ ((delivered H P evs).length : Int) = P.cfg.maxErrors ∧
      (∀ d, d ∈ delivered H P evs → Spec.acceptable H P.cfg P.wireBytes P.secret d = false) ∧
      ∃ pre d, delivered H P evs = pre ++ [d] ∧ e = Spec.errClass P.secret d := by
  have href := machine_refines_recvLoop H P evs
  simp only [h] at href
  obtain ⟨pre, d, hd, hpre, hf⟩ := href
  obtain ⟨hm, d', hd', hall, hi, he⟩ := (failed_iff H P.cfg P.wireBytes P.secret _ _ e).1 hf
  rw [hd, List.getElem?_concat_length] at hd'
  cases hd'
  refine ⟨hm, by rw [hd]; simp; omega, ?_, pre, d, hd, he⟩
  intro x hx
  obtain ⟨n, hn, hxn⟩ := List.getElem_of_mem hx
  refine hall n x ?_ (by rw [← hxn]; exact List.getElem?_eq_getElem hn)
  rw [hd] at hn; simp at hn; omega

/-- With `MaxPacketErrors ≤ 0` no run ever ends with a packet error, however many bad datagrams
    are read. -/
theorem exchange_zero_budget_never_pktErr (h0 : P.cfg.maxErrors ≤ 0) (evs : List Event) (e : ErrClass) :
    (reach H P evs).phase ≠ .returned (.pktErr e) := by
  intro h
  have := (exchange_pktErr_sound H P evs e h).1
  omega

/-- While the call is still waiting, everything read so far was unacceptable, the machine's
    counter is the number of datagrams read, and a positive budget is not yet reached. -/
theorem exchange_waiting_sound (evs : List Event) (h : (reach H P evs).phase = .waiting) :
    (∀ d, d ∈ delivered H P evs → Spec.acceptable H P.cfg P.wireBytes P.secret d = false) ∧
    (reach H P evs).errCount = ((delivered H P evs).length : Int) ∧
    (P.cfg.maxErrors > 0 → ((delivered H P evs).length : Int) < P.cfg.maxErrors) := by
  have href := machine_refines_recvLoop H P evs
  simp only [h] at href
  obtain ⟨hw, hc⟩ := href
  obtain ⟨hall, hcnt⟩ := (waiting_iff H P.cfg P.wireBytes P.secret _).1 hw
  exact ⟨hall, hc, hcnt⟩

/-- "Exactly when": a datagram delivered to a waiting call with an open conn ends the call with the
    reply if it is acceptable; otherwise it is counted, and the call fails — with that datagram's
    error — iff the budget is positive and the count has now reached it; otherwise it keeps waiting. -/
theorem exchange_on_delivery (pre : List Event) (d : Bytes)
    (hw : (reach H P pre).phase = .waiting) (hc : (reach H P pre).connClosed = false) :
    delivered H P (pre ++ [.datagram d]) = delivered H P pre ++ [d] ∧
    (Spec.acceptable H P.cfg P.wireBytes P.secret d = true →
      ∃ p, parse (readBuf d) P.secret = .ok p ∧
        (reach H P (pre ++ [.datagram d])).phase = .returned (.reply p)) ∧
    (Spec.acceptable H P.cfg P.wireBytes P.secret d = false →
      (reach H P (pre ++ [.datagram d])).phase =
        if P.cfg.maxErrors > 0 ∧ ((delivered H P pre).length : Int) + 1 ≥ P.cfg.maxErrors
        then .returned (.pktErr (Spec.errClass P.secret d)) else .waiting) := by
  obtain ⟨_, hcnt, _⟩ := exchange_waiting_sound H P pre hw
  have hstep : reach H P (pre ++ [.datagram d]) = step H P (reach H P pre) (.datagram d) := by
    rw [RV.Exchange.reach_append]; rfl
  have hdel : delivered H P (pre ++ [.datagram d]) = delivered H P pre ++ [d] := by
    have hw' : (run H P (init P) pre).phase = .waiting := hw
    have hc' : (run H P (init P) pre).connClosed = false := hc
    unfold delivered
    rw [RV.Exchange.deliveredFrom_append]
    simp [deliveredFrom, deliveredBy, hw', hc']
  refine ⟨hdel, ?_, ?_⟩
  · intro ha
    rw [hstep]
    exact RV.Exchange.step_acceptable H P _ d hw hc ha
  · intro ha
    rw [hstep, RV.Exchange.step_datagram_open H P _ d hw hc,
      step_of_unacceptable H P.cfg P.wireBytes P.secret _ d ha, hcnt]
    simp only [budgetReached_iff]
    by_cases hb : P.cfg.maxErrors > 0 ∧ ((delivered H P pre).length : Int) + 1 ≥ P.cfg.maxErrors
    · simp only [hb, and_self, if_true]
      rfl
    · simp only [hb, if_false]
      exact hw

/-! ### The parameters ARE the packet

`Params.wire` and `Params.secret` are free fields of the machine; the call `c.Exchange(ctx, packet, addr)` fixes them:
the wire bytes are `packet.Encode()` and the secret is `packet.Secret` (client.go:51-54, :120).  `Params.ofPacket` is how the
drivers build their `Params`; the theorem restates soundness for "the request actually sent and the packet's secret". -/

/-- the machine's parameters for `c.Exchange(ctx, pk, addr)` (`Params.ofPacket`, which the drivers use) -/
abbrev paramsOf (cfg : Cfg) (retry : Int) (pk : Packet) : Params := Params.ofPacket H cfg retry pk

/-- Exchange returns a packet only if it is the parse of a datagram that carries a valid response authenticator for
    the ENCODING OF THE PACKET IT WAS GIVEN, under THAT PACKET'S secret (unless verification is disabled) - and that
    encoding is the only thing it ever wrote -/
theorem exchange_reply_authentic_for_the_packet_given (cfg : Cfg) (retry : Int) (pk : Packet) (evs : List Event) (p : Packet)
    (h : (reach H (paramsOf H cfg retry pk) evs).phase = .returned (.reply p)) :
    ∃ w pre d, encode H pk = .ok w ∧ delivered H (paramsOf H cfg retry pk) evs = pre ++ [d] ∧
      parse (readBuf d) pk.secret = .ok p ∧
      (cfg.skipVerify = true ∨ isAuthenticResponse H (readBuf d) w pk.secret = true) ∧
      (∀ d', d' ∈ pre → Spec.acceptable H cfg w pk.secret d' = false) ∧
      (∀ x, x ∈ (reach H (paramsOf H cfg retry pk) evs).sent → x = w) := by
  obtain ⟨pre, d, hd, hp, hv, hpre, _, hw, _, hs⟩ := exchange_reply_sound H (paramsOf H cfg retry pk) evs p h
  exact ⟨_, pre, d, hw, hd, hp, hv, hpre, hs⟩

-- (a packet `Encode` refuses is never sent and never answered: `C08.encode_error_returns_first`)

end machine

/-! ### Non-vacuity (tests, evaluated by the kernel on a toy hash) -/
section examples

/-- a 16-byte "hash": the first sixteen input bytes, zero padded -/
def toyH : Hash := fun x => (x ++ zeros 16).take 16

/-- request: Access-Request id 7, authenticator 1..16, no attributes -/
def reqWire : Bytes := [1, 7, 0, 20, 1, 2, 3, 4, 5, 6, 7, 8, 9, 10, 11, 12, 13, 14, 15, 16]
/-- Access-Accept id 7 whose authenticator is `toyH (hdr ++ reqauth ++ secret)` = hdr ++ first 12 bytes of the request authenticator -/
def goodReply : Bytes := [2, 7, 0, 20, 2, 7, 0, 20, 1, 2, 3, 4, 5, 6, 7, 8, 9, 10, 11, 12]
def forged : Bytes := [2, 7, 0, 20, 0, 0, 0, 0, 0, 0, 0, 0, 0, 0, 0, 0, 0, 0, 0, 0]
def garbage : Bytes := [1, 2, 3]

def returnedAt (o : Outcome) (i : Nat) : Bool :=
  match o with
  | .returned j _ => j == i
  | _ => false

/-- garbage and a forgery precede the genuine reply: datagram 2 is returned -/
example : returnedAt (recvLoop toyH ⟨0, false⟩ reqWire [115] [garbage, forged, goodReply, forged]) 2 = true := by
  decide +kernel
/-- budget 2: the second bad datagram ends the call with its own error -/
example : recvLoop toyH ⟨2, false⟩ reqWire [115] [garbage, forged, goodReply] = .failed 1 .nonAuthentic := by
  decide +kernel
example : recvLoop toyH ⟨1, false⟩ reqWire [115] [garbage, forged, goodReply] = .failed 0 .parseErr := by
  decide +kernel
/-- budget 3 is not reached before the genuine reply -/
example : returnedAt (recvLoop toyH ⟨3, false⟩ reqWire [115] [garbage, forged, goodReply]) 2 = true := by
  decide +kernel
/-- verification disabled: the forgery is returned -/
example : returnedAt (recvLoop toyH ⟨0, true⟩ reqWire [115] [garbage, forged, goodReply]) 1 = true := by
  decide +kernel
/-- nothing acceptable, zero (or negative) budget: still waiting -/
example : recvLoop toyH ⟨0, false⟩ reqWire [115] [garbage, forged, garbage, forged] = .waiting := by
  decide +kernel
example : recvLoop toyH ⟨-1, false⟩ reqWire [115] [garbage, forged, garbage, forged] = .waiting := by
  decide +kernel

/-- parameters for the machine-level tests below (the same histories, interleaved with ticks, a context
    cancellation and a datagram on a conn the helper has already closed): `Retry` 5, request `reqWire` -/
def PM (maxErr : Int) (skip : Bool) : RV.Exchange.Params := ⟨⟨maxErr, skip⟩, 5, .ok reqWire, [115]⟩
open RV.Exchange in
example : delivered toyH (PM 0 false)
    [.datagram forged, .dialOk, .datagram garbage, .tick, .datagram forged, .ctxDone, .datagram goodReply,
     .datagram forged] = [garbage, forged, goodReply] := by
  decide +kernel
open RV.Exchange in
example : (reach toyH (PM 0 false)
    [.datagram forged, .dialOk, .datagram garbage, .tick, .datagram forged, .ctxDone, .datagram goodReply,
     .datagram forged]).phase =
    phaseOf (recvLoop toyH ⟨0, false⟩ reqWire [115] [garbage, forged, goodReply]) := by
  decide +kernel
open RV.Exchange in
example : (reach toyH (PM 2 false) [.dialOk, .datagram garbage, .tick, .datagram forged, .datagram goodReply]).phase =
    .returned (.pktErr .nonAuthentic) := by
  decide +kernel
open RV.Exchange in
/-- the helper closed the conn: the genuine reply is not read; the read error returns the context's error -/
example : delivered toyH (PM 0 false) [.dialOk, .ctxDone, .helperObservesCtx, .datagram goodReply, .readError] = [] ∧
    (reach toyH (PM 0 false) [.dialOk, .ctxDone, .helperObservesCtx, .datagram goodReply, .readError]).phase =
      .returned .ctxErr := by
  decide +kernel

end examples
end RV.C05
