/-
  C02 — The decode surface never panics and never hangs.

  Statements are about the *checked* mirror RV/Model/Checked.lean, in which every Go index
  expression `b[i]`, slice expression `b[i:j]` and store `b[i] = v` is a partial operation that
  yields `Res.fault` exactly when the Go runtime would panic (`primitives_faithful`), and in which
  every loop is a well-founded recursion that Lean accepted without fuel — each `Checked.*` function
  below is a total function, i.e. it returns after finitely many steps on every input ("no hang").

  `*_refines` / `decoders_refine`: the Go function, read with Go's checked index and slice
  semantics, computes on ALL inputs exactly what the total model of Wire/Auth/Codec/Password/
  Vendor/Helper computes; the total model has no panicking operation, so the Go function never
  panics (`*_never_faults`, `*_never_fault`), and the theorems of the other properties, stated on
  the total models, are statements about code that was checked not to index out of range.
  Refinement and fault-freedom: `parseAttrs`, `parse`, `isAuthenticResponse`, `isAuthenticRequest`,
  the value decoders (`decoders_*`; `bytesOf` returns no `Res` and has only the equation),
  `userPassword`, `tunnelPassword`, `vsaGets`, `getsVendor`, `lookupVendor`, `decodeValue`.
  Fault-freedom only: `tagStrip`, `tagStripInt`, `byteKind` (`getter_pieces_never_fault`) and
  `dumpAttrs` (`dump_never_faults`): the total models have no function of that name.
  `*_bound`: how often a loop can run, in terms of the input length.  `hLookup_total`,
  `total_decodeValue_never_faults` and `hGets_bound` are about the total getter model, which has
  no checked mirror above `decodeValue`.
  The hash is a parameter; where the code indexes into a digest (`UserPassword`, `TunnelPassword`)
  the theorems assume a 16-byte digest, which `md5_is_16` discharges for MD5 and
  `userPassword_needs_16` shows to be necessary.  `negative_control_*` show that the layer has
  teeth: removing one guard from the shipped code produces a provable fault.
-/
import RV.Model.Checked
import RV.Model.MD5
import RV.Proofs.Checked
namespace RV.C02
open RV

/-- `b[i]` faults iff `i ≥ len(b)`; `b[i:j]` faults iff `i > j` or `j > len(b)`; `b[i] = v` faults
    iff `i ≥ len(b)`; `binary.BigEndian.Uint32(b)` faults iff `len(b) < 4`. -/
theorem primitives_faithful (b : Bytes) (i j : Nat) (v : UInt8) :
    (Checked.idx b i = .fault ↔ b.length ≤ i) ∧
    (Checked.slice b i j = .fault ↔ (i > j ∨ j > b.length)) ∧
    (Checked.store b i v = .fault ↔ b.length ≤ i) ∧
    (Checked.be32 b = .fault ↔ b.length < 4) :=
  ⟨Checked.idx_fault_iff b i, Checked.slice_fault_iff b i j, Checked.store_fault_iff b i v, Checked.be32_fault_iff b⟩

example : Checked.idx [1, 2, 3] 3 = .fault := rfl
example : Checked.slice [1, 2, 3] 2 1 = .fault := rfl
example : Checked.slice [1, 2, 3] 1 4 = .fault := rfl
example : Checked.slice [1, 2, 3] 1 3 = .ok [2, 3] := rfl

theorem md5_is_16 : ∀ x, (MD5.md5 x).length = 16 := MD5.md5_length

theorem parseAttrs_never_faults (b : Bytes) : Checked.parseAttrs b ≠ .fault := by
  rw [Checked.parseAttrs_refines]; exact parseAttrs_ne_fault b

theorem parseAttrs_refines (b : Bytes) : Checked.parseAttrs b = RV.parseAttrs b :=
  Checked.parseAttrs_refines b

/-- bounded work: every parsed attribute consumed at least two input bytes (so the loop runs at most
    `len(b)/2` times), and header plus value lengths add up to the input length exactly -/
theorem parseAttrs_bound (b : Bytes) (as : Attrs) (h : Checked.parseAttrs b = .ok as) :
    2 * as.length ≤ b.length ∧ (as.map (fun a => 2 + a.val.length)).sum = b.length := by
  rw [Checked.parseAttrs_refines] at h
  exact Checked.parseAttrs_count_bytes b as h

theorem parse_refines (b secret : Bytes) : Checked.parse b secret = RV.parse b secret := by
  unfold Checked.parse RV.parse
  by_cases h20 : b.length < minPacketLength
  · rw [if_pos h20, if_pos h20]
  · have h20' : ¬ b.length < 20 := h20
    rw [if_neg h20', if_neg h20, Checked.slice_ok (by omega) (by omega), Res.ok_bind]
    have hlf : Checked.be16 (List.take (4 - 2) (List.drop 2 b)) = .ok (lengthField b) := by
      rw [Checked.be16_eq _ (by simp; omega)]
      rcases b with _ | ⟨b0, _ | ⟨b1, _ | ⟨b2, _ | ⟨b3, rest⟩⟩⟩⟩
      all_goals simp at h20'
      simp [lengthField, beNat, RV.be16]
    rw [hlf, Res.ok_bind]
    simp only []
    by_cases hg : lengthField b < minPacketLength ∨ lengthField b > maxPacketLength ∨ b.length < lengthField b
    · rw [if_pos hg, if_pos hg]
    · rw [if_neg hg, if_neg hg]
      simp only [minPacketLength] at hg
      rw [Checked.slice_ok (by omega) (by omega), Res.ok_bind, Checked.parseAttrs_refines, ← List.drop_take]
      cases RV.parseAttrs (List.drop 20 (List.take (lengthField b) b)) with
      | ok as =>
        simp only [Res.ok_bind]
        rw [Checked.idx_ok (by omega), Res.ok_bind, Checked.idx_ok (by omega), Res.ok_bind,
          Checked.slice_ok (by omega) (by omega), Res.ok_bind]
        rfl
      | err => rfl
      | fault => rfl

theorem parse_never_faults (b secret : Bytes) : Checked.parse b secret ≠ .fault := by
  rw [parse_refines]; exact parse_ne_fault b secret

/-- 2038 = (`maxPacketLength` − 20) / 2: at least two bytes per attribute after the 20-byte header -/
theorem parse_bound (b secret : Bytes) (p : Packet) (h : Checked.parse b secret = .ok p) :
    p.attrs.length ≤ 2038 := by
  rw [parse_refines] at h
  exact Checked.parse_count b secret p h

theorem isAuthenticResponse_refines (H : Hash) (response request secret : Bytes) :
    Checked.isAuthenticResponse H response request secret = .ok (RV.isAuthenticResponse H response request secret) := by
  unfold Checked.isAuthenticResponse RV.isAuthenticResponse
  by_cases hg : response.length < 20 ∨ request.length < 20 ∨ secret.length = 0
  · rw [if_pos hg, if_pos hg]; rfl
  · rw [if_neg hg, if_neg hg, Checked.sliceTo_ok (by omega), Res.ok_bind, Checked.slice_ok (by omega) (by omega), Res.ok_bind,
      Checked.sliceFrom_ok (by omega), Res.ok_bind, Checked.slice_ok (by omega) (by omega), Res.ok_bind]
    rfl

theorem isAuthenticResponse_never_faults (H : Hash) (response request secret : Bytes) :
    Checked.isAuthenticResponse H response request secret ≠ .fault := by
  rw [isAuthenticResponse_refines]; simp

theorem isAuthenticRequest_refines (H : Hash) (request secret : Bytes) :
    Checked.isAuthenticRequest H request secret = .ok (RV.isAuthenticRequest H request secret) := by
  unfold Checked.isAuthenticRequest RV.isAuthenticRequest
  by_cases hg : request.length < 20 ∨ secret.length = 0
  · rw [if_pos hg, if_pos hg]; rfl
  · rw [if_neg hg, if_neg hg, Checked.idx_ok (by omega), Res.ok_bind]
    unfold requestClass
    by_cases h1 : (request.getD 0 0).toNat = 1 ∨ (request.getD 0 0).toNat = 12
    · rw [if_pos h1, if_pos h1]; rfl
    · rw [if_neg h1, if_neg h1]
      by_cases h2 : (request.getD 0 0).toNat = 4 ∨ (request.getD 0 0).toNat = 40 ∨ (request.getD 0 0).toNat = 43
      · rw [if_pos h2, if_pos h2, Checked.sliceTo_ok (by omega), Res.ok_bind,
          Checked.sliceFrom_ok (by omega), Res.ok_bind, Checked.slice_ok (by omega) (by omega), Res.ok_bind]
        rfl
      · rw [if_neg h2, if_neg h2]; rfl

theorem isAuthenticRequest_never_faults (H : Hash) (request secret : Bytes) :
    Checked.isAuthenticRequest H request secret ≠ .fault := by
  rw [isAuthenticRequest_refines]; simp

theorem decoders_refine (a : Bytes) :
    Checked.integer a = RV.integer a ∧ Checked.integer64 a = RV.integer64 a ∧ Checked.short a = RV.short a ∧
    Checked.bytesOf a = RV.bytesOf a ∧ Checked.ipAddr a = RV.ipAddr a ∧ Checked.ipv6Addr a = RV.ipv6Addr a ∧
    Checked.ifid a = RV.ifid a ∧ Checked.date a = RV.date a ∧ Checked.vendorSpecific a = RV.vendorSpecific a ∧
    Checked.tlv a = RV.tlv a ∧ Checked.ipv6Prefix a = RV.ipv6Prefix a :=
  ⟨Checked.integer_refines a, Checked.integer64_refines a, Checked.short_refines a, Checked.bytesOf_refines a, Checked.ipAddr_refines a,
   Checked.ipv6Addr_refines a, Checked.ifid_refines a, Checked.date_refines a, Checked.vendorSpecific_refines a, Checked.tlv_refines a,
   Checked.ipv6Prefix_refines a⟩

theorem decoders_never_fault (a : Bytes) :
    Checked.integer a ≠ .fault ∧ Checked.integer64 a ≠ .fault ∧ Checked.short a ≠ .fault ∧
    Checked.ipAddr a ≠ .fault ∧ Checked.ipv6Addr a ≠ .fault ∧ Checked.ifid a ≠ .fault ∧
    Checked.date a ≠ .fault ∧ Checked.vendorSpecific a ≠ .fault ∧ Checked.tlv a ≠ .fault ∧
    Checked.ipv6Prefix a ≠ .fault := by
  rw [Checked.integer_refines, Checked.integer64_refines, Checked.short_refines, Checked.ipAddr_refines, Checked.ipv6Addr_refines,
    Checked.ifid_refines, Checked.date_refines, Checked.vendorSpecific_refines, Checked.tlv_refines, Checked.ipv6Prefix_refines]
  exact ⟨integer_ne_fault a, integer64_ne_fault a, short_ne_fault a, ipAddr_ne_fault a, ipv6Addr_ne_fault a,
    ifid_ne_fault a, date_ne_fault a, vendorSpecific_ne_fault a, tlv_ne_fault a, ipv6Prefix_ne_fault a⟩

theorem userPassword_never_faults (H : Hash) (hH : ∀ x, (H x).length = 16) (a secret ra : Bytes) :
    Checked.userPassword H a secret ra ≠ .fault :=
  Checked.userPassword_ne_fault' H hH a secret ra

theorem userPassword_refines (H : Hash) (hH : ∀ x, (H x).length = 16) (a secret ra : Bytes) :
    Checked.userPassword H a secret ra = RV.userPassword H a secret ra :=
  Checked.userPassword_refines H hH a secret ra

theorem tunnelPassword_never_faults (H : Hash) (hH : ∀ x, (H x).length = 16) (a secret ra : Bytes) :
    Checked.tunnelPassword H a secret ra ≠ .fault := by
  rw [Checked.tunnelPassword_refines H hH]; exact RV.tunnelPassword_ne_fault H a secret ra

theorem tunnelPassword_refines (H : Hash) (hH : ∀ x, (H x).length = 16) (a secret ra : Bytes) :
    Checked.tunnelPassword H a secret ra = RV.tunnelPassword H a secret ra :=
  Checked.tunnelPassword_refines H hH a secret ra

/-- for the hash the library uses -/
theorem passwords_never_fault_md5 (a secret ra : Bytes) :
    Checked.userPassword MD5.md5 a secret ra ≠ .fault ∧ Checked.tunnelPassword MD5.md5 a secret ra ≠ .fault :=
  ⟨userPassword_never_faults _ md5_is_16 a secret ra, tunnelPassword_never_faults _ md5_is_16 a secret ra⟩

/-- the digest-length hypothesis is necessary: with a hash that returns nothing, `dec[i] ^= b` indexes an empty
    slice -/
theorem userPassword_needs_16 : Checked.userPassword (fun _ => []) (zeros 16) [1] (zeros 16) = .fault := by
  unfold Checked.userPassword
  rw [if_neg (by decide), if_neg (by decide), if_neg (by decide), Checked.sliceTo_ok (by decide), Res.ok_bind]
  rfl

theorem vsaGets_refines (typ : UInt8) (vsa : Bytes) : Checked.vsaGets typ vsa = .ok (RV.vsaGets typ vsa) := by
  unfold Checked.vsaGets; rw [Checked.vsaGetsLoop_eq]; simp

theorem vsaGets_never_faults (typ : UInt8) (vsa : Bytes) : Checked.vsaGets typ vsa ≠ .fault := by
  rw [vsaGets_refines]; simp

/-- bounded work: every sub-attribute found consumed at least three payload bytes -/
theorem vsaGets_bound (typ : UInt8) (vsa : Bytes) (vs : List Bytes) (h : Checked.vsaGets typ vsa = .ok vs) :
    3 * vs.length ≤ vsa.length := by
  rw [vsaGets_refines] at h; cases h; exact Checked.vsaGets_count typ vsa

theorem getsVendor_refines (vid : Nat) (typ : UInt8) (as : Attrs) :
    Checked.getsVendor vid typ as = .ok (RV.getsVendor vid typ as) := by
  unfold Checked.getsVendor; rw [Checked.getsVendorLoop_eq]; simp

theorem getsVendor_never_faults (vid : Nat) (typ : UInt8) (as : Attrs) : Checked.getsVendor vid typ as ≠ .fault := by
  rw [getsVendor_refines]; simp

theorem lookupVendor_refines (vid : Nat) (typ : UInt8) (as : Attrs) :
    Checked.lookupVendor vid typ as = .ok (RV.lookupVendor vid typ as) := by
  unfold Checked.lookupVendor RV.lookupVendor
  induction as with
  | nil => rfl
  | cons a rest ih =>
    rw [Checked.getsVendor_cons, Checked.lookupVendorLoop]
    refine (Checked.vendorCase vid a _ Res.fault _).trans ?_
    cases vendorPayload vid a with
    | none => simpa using ih
    | some p =>
      simp only []
      rw [Checked.vsaLookupLoop_eq]
      cases RV.vsaGets typ p with
      | nil => simpa using ih
      | cons v vs => simp

theorem lookupVendor_never_faults (vid : Nat) (typ : UInt8) (as : Attrs) : Checked.lookupVendor vid typ as ≠ .fault := by
  rw [lookupVendor_refines]; simp

/-- tag stripping and the byte kind never index out of range -/
theorem getter_pieces_never_fault (a : Bytes) :
    Checked.tagStrip a ≠ .fault ∧ Checked.tagStripInt a ≠ .fault ∧ Checked.byteKind a ≠ .fault := by
  rw [Checked.tagStrip_eq, Checked.tagStripInt_eq, Checked.byteKind_eq]
  refine ⟨by simp, by simp, ?_⟩
  split <;> simp

theorem decodeValue_refines (H : Hash) (hH : ∀ x, (H x).length = 16) (d : Desc) (a secret auth : Bytes) :
    Checked.decodeValue H d a secret auth = RV.decodeValue H d a secret auth := by
  unfold Checked.decodeValue RV.decodeValue
  cases hk : d.kind <;> simp only []
  case string | octets | concat => rw [Checked.tagIf_eq, Res.ok_bind]; exact Checked.textBody_eq H hH d _ secret auth
  case ipaddr =>
    simp only [Checked.tpPlain_refines H hH, Checked.ipAddr_refines, Checked.ipv6Addr_refines, Checked.bind_eq_match, Res.pure_eq]
    cases (if d.usesSalt = true then RV.tpPlain H a secret auth else Res.ok a) <;> simp only [] <;>
      cases (RV.ipAddr _) <;> rfl
  case ipv6addr =>
    simp only [Checked.tpPlain_refines H hH, Checked.ipAddr_refines, Checked.ipv6Addr_refines, Checked.bind_eq_match, Res.pure_eq]
    cases (if d.usesSalt = true then RV.tpPlain H a secret auth else Res.ok a) <;> simp only [] <;>
      cases (RV.ipv6Addr _) <;> rfl
  case ifid => rw [Checked.ifid_refines, Checked.bind_eq_match]; cases RV.ifid a <;> rfl
  case ipv6prefix => rw [Checked.ipv6Prefix_refines, Checked.bind_eq_match]; cases RV.ipv6Prefix a <;> rfl
  case date => rw [Checked.date_refines, Checked.bind_eq_match]; cases RV.date a <;> rfl
  case byte =>
    rw [Checked.byteKind_eq]
    split <;> rfl
  case integer => exact Checked.intBody_eq H hH d 4 (Or.inr (Or.inl rfl)) a secret auth
  case integer64 => exact Checked.intBody_eq H hH d 8 (Or.inr (Or.inr rfl)) a secret auth
  case short => exact Checked.intBody_eq H hH d 2 (Or.inl rfl) a secret auth

/-- `hLookup` / `hGets` are total functions into `LookupRes` / a list with a success flag, neither of
    which has a fault outcome; the only source of a fault below them is `decodeValue`, which the
    total model never reports and the checked mirror excludes.  Every `X_Lookup` answer is one of
    "absent", "error", "value". -/
theorem hLookup_total (H : Hash) (d : Desc) (as : Attrs) (secret auth : Bytes) :
    hLookup H d as secret auth = .noAttr ∨ hLookup H d as secret auth = .err ∨
    ∃ t v, hLookup H d as secret auth = .val t v := by
  cases hLookup H d as secret auth with
  | noAttr => exact Or.inl rfl
  | err => exact Or.inr (Or.inl rfl)
  | val t v => exact Or.inr (Or.inr ⟨t, v, rfl⟩)

theorem total_decodeValue_never_faults (H : Hash) (d : Desc) (a secret auth : Bytes) :
    RV.decodeValue H d a secret auth ≠ .fault := by
  have hsalt : (if d.usesSalt = true then RV.tpPlain H a secret auth else .ok a) ≠ .fault := by
    split
    · exact Checked.RV_tpPlain_ne_fault H _ _ _
    · exact nofun
  have hip : ∀ v, (if d.kind = .ipaddr then RV.ipAddr v else RV.ipv6Addr v) ≠ .fault := fun v => by
    split
    · exact ipAddr_ne_fault v
    · exact ipv6Addr_ne_fault v
  unfold RV.decodeValue
  split
  -- string | octets | concat: the only `fault` arm forwards the decryption's
  iterate 3
    · split
      split
      · split <;> exact nofun
      · exact nofun
      · rename_i hm
        split at hm
        · exact absurd hm (RV.userPassword_ne_fault H _ _ _)
        · exact absurd hm (Checked.RV_tpPlain_ne_fault H _ _ _)
        · cases hm
  -- ipaddr | ipv6addr
  iterate 2
    · split
      · split
        · exact nofun
        · exact nofun
        · rename_i hm; exact absurd hm (hip _)
      · exact nofun
      · rename_i hm; exact absurd hm hsalt
  -- ifid
  · split
    · exact nofun
    · exact nofun
    · rename_i hm; exact absurd hm (ifid_ne_fault _)
  -- ipv6prefix
  · split
    · exact nofun
    · exact nofun
    · rename_i hm; exact absurd hm (ipv6Prefix_ne_fault _)
  -- date
  · split
    · exact nofun
    · exact nofun
    · rename_i hm; exact absurd hm (date_ne_fault _)
  -- byte
  · split <;> exact nofun
  -- the catch-all arm: integer | integer64 | short, through `k.intBytes`
  · split
    · exact nofun
    · split
      · split
        split <;> exact nofun
      · split
        · split <;> exact nofun
        · exact nofun
        · rename_i hm; exact absurd hm hsalt

theorem decodeValue_never_faults (H : Hash) (hH : ∀ x, (H x).length = 16) (d : Desc) (a secret auth : Bytes) :
    Checked.decodeValue H d a secret auth ≠ .fault := by
  rw [decodeValue_refines H hH]; exact total_decodeValue_never_faults H d a secret auth

/-- `X_Gets` returns at most one value per stored occurrence -/
theorem hGets_bound (H : Hash) (d : Desc) (as : Attrs) (secret auth : Bytes) :
    (hGets H d as secret auth).1.length ≤ (rawValues d as).length := by
  exact Checked.hGets_go_count H d secret auth _

theorem dump_never_faults (H : Hash) (hH : ∀ x, (H x).length = 16) (dict : Int → Option Checked.DumpType)
    (secret auth : Bytes) (as : Attrs) : Checked.dumpAttrs H dict secret auth as ≠ .fault := by
  induction as with
  | nil => exact nofun
  | cons a rest ih =>
    exact Res.bind_ne_fault (Checked.dumpAttr_ne_fault H hH _ _ _ _) fun v => Res.bind_ne_fault ih fun vs => nofun

/-- one output line per attribute -/
theorem dump_bound (H : Hash) (dict : Int → Option Checked.DumpType) (secret auth : Bytes) (as : Attrs)
    (out : List Checked.DumpVal) (h : Checked.dumpAttrs H dict secret auth as = .ok out) :
    out.length = as.length := by
  induction as generalizing out with
  | nil => cases h; rfl
  | cons a rest ih =>
    obtain ⟨v, _, h⟩ := Res.bind_eq_ok.1 h
    obtain ⟨vs, hr, h⟩ := Res.bind_eq_ok.1 h
    cases h
    exact congrArg (· + 1) (ih vs hr)

/-- TunnelPassword without `if int(passwordLength) > len(plaintext)-1`: `plaintext[1:1+passwordLength]`
    panics on an 18-byte attribute (and the shipped function answers "error" on it).  The attribute is crafted so
    that its first decrypted octet is 0xFF: `1+255` wraps to `0` in byte arithmetic, so the slice is
    `plaintext[1:0]`. -/
theorem negative_control_tunnelPassword :
    Checked.tunnelPasswordNoLenCheck (fun _ => zeros 16) ([0x80, 0x00, 0xFF] ++ zeros 15) [1] (zeros 16) = .fault ∧
    Checked.tunnelPassword (fun _ => zeros 16) ([0x80, 0x00, 0xFF] ++ zeros 15) [1] (zeros 16) = .err := by
  constructor
  · unfold Checked.tunnelPasswordNoLenCheck
    rw [if_neg (by decide), if_neg (by decide), if_neg (by decide), Checked.idx_ok (by decide), Res.ok_bind,
      if_neg (by decide), Checked.sliceTo_ok (by decide), Res.ok_bind, Checked.sliceFrom_ok (by decide), Res.ok_bind]
    simp only [List.nil_append]
    rw [Checked.tpChunks_eq _ (fun _ => rfl) _ _ _ _ _ (by decide), Res.ok_bind, Checked.tpDecLoop_control]
    rfl
  · rw [tunnelPassword_refines _ (fun _ => rfl)]
    unfold RV.tunnelPassword
    rw [if_neg (by decide), if_neg (by decide), if_neg (by decide), if_neg (by decide)]
    simp only [Checked.tpDecLoop_control]
    rfl

/-- the vendor walker without `int(vsaLen) > len(vsa)`: `vsa[2:5]` panics on a 3-byte payload (and the
    shipped walker stops there and returns nothing) -/
theorem negative_control_vendor_walker :
    Checked.vsaGetsNoLenCheck 1 [1, 5, 0] = .fault ∧ Checked.vsaGets 1 [1, 5, 0] = .ok [] := by
  constructor
  · rw [Checked.vsaGetsNoLenCheck, Checked.vsaGetsLoop_unfold _ _ _ _ (by decide)]; rfl
  · rw [vsaGets_refines, RV.vsaGets]; rfl

end RV.C02
