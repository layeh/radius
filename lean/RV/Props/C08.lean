/-
  C08 — Exchange always returns: with the reply as soon as an acceptable one arrives, with the
  context's own error promptly after the context is cancelled or its deadline passes — however the
  peer behaves — or with the network error.  While it waits it retransmits the byte-identical request
  at the configured interval and never when the interval is zero or negative; after it returns it
  sends nothing more, its socket is closed and no goroutine it started survives.

  The theorems are about the logic machine `RV.Exchange.step` (client.go:46-130 as reactions to the
  events dial result / ticker / context / read completion / helper scheduling), for every hash, every
  configuration, every request and EVERY event sequence (induction over the sequence).  Events that
  cannot occur in a state (a tick before the dial, a datagram on a closed conn) are no-ops, so
  quantifying over all sequences over-approximates the real schedules.

  What the machine cannot exhibit, and what is therefore NOT proved here but validated on traces of
  the real code by the harness (see `level_note`): that the Go runtime eventually schedules the helper
  after `ctx.Done()` is closed (event `helperObservesCtx`), that closing the conn makes the blocked
  `conn.Read` fail (event `readError`), how long both take ("promptly"), that `conn.Close()` releases
  the descriptor, that the helper goroutine really exits, and ICMP behaviour.  `ctx_wins` and
  `returns_under_fairness` say exactly which runtime events the guarantees need.
-/
import RV.Model.Client
import RV.Proofs.Client
import RV.Proofs.ClientTimed
namespace RV.C08
open RV RV.Client RV.Exchange

variable (H : Hash) (P : Params)

/-- Resend verbatim: everything ever written to the conn is the one byte string `Encode` produced
    before the dial — the first write and every retransmission alike. -/
theorem resend_verbatim (evs : List Event) :
    (∀ x, x ∈ (reach H P evs).sent → x = P.wireBytes) ∧
    (∀ x, x ∈ (reach H P evs).sent → some x = (reach H P evs).sent.head?) := by
  have h := RV.Exchange.sent_wire H P evs
  refine ⟨h, fun x hx => ?_⟩
  cases hs : (reach H P evs).sent with
  | nil => rw [hs] at hx; cases hx
  | cons y ys => rw [h x hx, h y (hs ▸ List.mem_cons_self ..)]; rfl

/-- No resend without retry: with `Retry ≤ 0` at most the initial write ever happens. -/
theorem no_resend_without_retry (hr : P.retry ≤ 0) (evs : List Event) :
    (reach H P evs).sent.length ≤ 1 :=
  (RV.Exchange.inv_run H P evs).no_retry_one hr

/-- With `Retry > 0` a resend happens on every tick while the call waits (and `sent` grows by at
    most one element, `wire`, per event: `RV.Exchange.step_sent`). -/
theorem resend_on_tick (hr : P.retry > 0) (s : State) (hw : s.phase = .waiting) (ha : s.helperAlive = true) :
    (step H P s .tick).sent = s.sent ++ [P.wireBytes] := by
  simp [RV.Exchange.step_sent_eq, hw, hr, ha]

theorem sent_grows_by_wire_only (s : State) (e : Event) :
    (step H P s e).sent = s.sent ∨ (step H P s e).sent = s.sent ++ [P.wireBytes] :=
  RV.Exchange.step_sent H P s e

/-- Silent after return: once the call has returned, no event changes what was sent (or the
    result). -/
theorem silent_after_return (pre post : List Event) (r : Result)
    (h : (reach H P pre).phase = .returned r) :
    (reach H P (pre ++ post)).sent = (reach H P pre).sent ∧
    (reach H P (pre ++ post)).phase = .returned r := by
  have := RV.Exchange.run_returned H P (reach H P pre) post r h
  rw [RV.Exchange.reach_append]
  exact ⟨this.2, this.1⟩

/-- ctx wins on a read error: when the context is done, a failing `conn.Read` returns the
    context's own error — whatever the error counter and the budget are, whatever was received. -/
theorem ctx_wins_on_read_error (s : State) (hw : s.phase = .waiting) (hc : s.ctxDone = true) :
    (step H P s .readError).phase = .returned .ctxErr := by
  rw [RV.Exchange.step_readError H P s hw, hc]
  rfl

/-- ctx wins: once the context is done and the helper has observed it (it closes the conn),
    no datagram is delivered any more — whatever is queued (`mid` is arbitrary), whatever the budget —
    nothing more is sent, and the read completion that does happen (the error of the closed conn)
    returns the context's error.
    Needed from the runtime for "promptly": (R1) the helper goroutine runs after `ctx.Done()` closes
    (`helperObservesCtx`); (R2) `conn.Close()` makes the blocked `Read` return an error (`readError`). -/
theorem ctx_wins (pre mid post : List Event)
    (hw : (reach H P pre).phase = .waiting)
    (hmid : ∀ e, e ∈ mid → e ≠ .readError) :
    (reach H P (pre ++ [.ctxDone, .helperObservesCtx] ++ mid)).phase = .waiting ∧
    (reach H P (pre ++ [.ctxDone, .helperObservesCtx] ++ mid)).sent = (reach H P pre).sent ∧
    (reach H P (pre ++ [.ctxDone, .helperObservesCtx] ++ mid ++ .readError :: post)).phase = .returned .ctxErr := by
  have h1 : (step H P (reach H P pre) .ctxDone).phase = .waiting := by
    rw [RV.Exchange.step_waiting H P hw]; exact hw
  have h2 := RV.Exchange.step_helper_closes H P _
    (RV.Exchange.inv_step H P _ .ctxDone (RV.Exchange.inv_run H P pre)) h1 (by simp [RV.Exchange.step_ctxDone])
  have e0 : reach H P (pre ++ [.ctxDone, .helperObservesCtx]) =
      step H P (step H P (reach H P pre) .ctxDone) .helperObservesCtx := by
    rw [RV.Exchange.reach_append]; rfl
  refine ⟨?_, ?_, ?_⟩
  · rw [RV.Exchange.reach_append, e0]
    exact (RV.Exchange.run_ctxClosed H P _ mid hmid h2).1
  · rw [RV.Exchange.reach_append, e0,
      (RV.Exchange.run_helper_dead H P _ mid (by rw [h2.1]; simp) h2.2.2.1).2]
    simp [RV.Exchange.step_sent_eq]
  · rw [List.append_assoc, RV.Exchange.reach_append, e0]
    exact RV.Exchange.ctxClosed_readError H P _ mid post h2 hmid

/-- What the code does NOT guarantee (and the statement does not demand): between the
    cancellation and the helper closing the conn, a datagram that `Read` has already delivered is
    processed exactly as if the context were alive — it can still be returned as the reply, or exhaust
    the error budget.  Only a read ERROR consults the context. -/
theorem ctx_window_processes_datagrams (s : State) (d : Bytes) (hw : s.phase = .waiting) :
    (step H P { s with ctxDone := true } (.datagram d)).phase = (step H P s (.datagram d)).phase := by
  rw [RV.Exchange.step_waiting H P hw, RV.Exchange.step_waiting H P (s := { s with ctxDone := true }) hw]
  dsimp only
  split
  · rfl
  · cases stepDatagram H P.cfg P.wireBytes P.secret s.errCount d <;> rfl

/-- Returns under fairness.  (a) A failed dial returns.  (b) After the dial, any read error
    returns.  (c) After a successful dial, an acceptable datagram delivered while the helper has not
    closed the conn returns — with that datagram's parse if the call was still waiting.
    (d) After the dial, `ctxDone` followed by `helperObservesCtx` and the induced read error
    returns, and with the context's error unless something returned earlier. -/
theorem returns_under_fairness :
    -- (a): a failed dial
    (∀ a c : List Event, .dialOk ∉ a → isReturned (reach H P (a ++ .dialFail :: c)) = true) ∧
    -- (b): a dial result followed, any time later, by a read error
    (∀ a b c : List Event, ∀ dial : Event, dial = .dialOk ∨ dial = .dialFail →
      isReturned (reach H P (a ++ dial :: b ++ .readError :: c)) = true) ∧
    -- (c): an acceptable datagram while the conn is open
    (∀ pre post : List Event, ∀ d : Bytes,
      .dialOk ∈ pre → .helperObservesCtx ∉ pre →
      Spec.acceptable H P.cfg P.wireBytes P.secret d = true →
      isReturned (reach H P (pre ++ .datagram d :: post)) = true ∧
      ((reach H P pre).phase = .waiting →
        ∃ p, parse (readBuf d) P.secret = .ok p ∧
          (reach H P (pre ++ .datagram d :: post)).phase = .returned (.reply p))) ∧
    -- (d): the context chain
    (∀ a b c d e : List Event, ∀ dial : Event, dial = .dialOk ∨ dial = .dialFail →
      (∀ x, x ∈ d → x ≠ .readError) →
      isReturned (reach H P (a ++ dial :: b ++ .ctxDone :: c ++ .helperObservesCtx :: d ++ .readError :: e)) = true ∧
      ((reach H P (a ++ dial :: b ++ .ctxDone :: c)).phase = .waiting →
        (reach H P (a ++ dial :: b ++ .ctxDone :: c ++ .helperObservesCtx :: d ++ .readError :: e)).phase
          = .returned .ctxErr)) := by
  refine ⟨RV.Exchange.dialFail_returns H P, ?_, ?_, ?_⟩
  · intro a b c dial hd
    exact RV.Exchange.readError_returns H P (a ++ dial :: b) c (RV.Exchange.run_past_dial H P a b dial hd)
  · intro pre post d hdo hno hacc
    have hpast : (reach H P pre).phase ≠ .dialing := by
      obtain ⟨a, b, rfl⟩ := List.append_of_mem hdo
      exact RV.Exchange.run_past_dial H P a b .dialOk (Or.inl rfl)
    have hopen : (reach H P pre).phase = .waiting → (reach H P pre).connClosed = false :=
      RV.Exchange.run_open_until_helper H P pre hno
    have hstepd := fun hw => RV.Exchange.step_acceptable H P (reach H P pre) d hw (hopen hw) hacc
    constructor
    · rw [RV.Exchange.reach_append, RV.Exchange.run_cons]
      apply RV.Exchange.run_isReturned
      rw [RV.Exchange.isReturned_iff]
      cases hph : (reach H P pre).phase with
      | dialing => exact absurd hph hpast
      | waiting => exact ⟨_, (hstepd hph).choose_spec.2⟩
      | returned r => exact ⟨r, (RV.Exchange.step_returned H P _ _ r hph).1⟩
    · intro hw
      obtain ⟨p, hparse, hp⟩ := hstepd hw
      rw [RV.Exchange.reach_append, RV.Exchange.run_cons]
      exact ⟨p, hparse, (RV.Exchange.run_returned H P _ post _ hp).1⟩
  · intro a b c d e dial hd hnd
    constructor
    · have : a ++ dial :: b ++ Event.ctxDone :: c ++ Event.helperObservesCtx :: d ++ Event.readError :: e
          = a ++ dial :: (b ++ Event.ctxDone :: c ++ Event.helperObservesCtx :: d) ++ Event.readError :: e := by
        simp
      rw [this]
      exact RV.Exchange.readError_returns H P _ e (RV.Exchange.run_past_dial H P a _ dial hd)
    · intro hw
      have hflag : (reach H P (a ++ dial :: b ++ Event.ctxDone :: c)).ctxDone = true := by
        rw [RV.Exchange.reach_append, RV.Exchange.run_cons]
        exact RV.Exchange.run_ctxDone_sticky H P _ c (by simp [RV.Exchange.step_ctxDone])
      have h2 := RV.Exchange.step_helper_closes H P _ (RV.Exchange.inv_run H P _) hw hflag
      have : a ++ dial :: b ++ Event.ctxDone :: c ++ Event.helperObservesCtx :: d ++ Event.readError :: e
          = (a ++ dial :: b ++ Event.ctxDone :: c) ++ Event.helperObservesCtx :: (d ++ Event.readError :: e) := by
        simp
      rw [this, RV.Exchange.reach_append, RV.Exchange.run_cons]
      exact RV.Exchange.ctxClosed_readError H P _ d e h2 hnd

/-- Cleanup: when the call has returned its socket is closed (every close is recorded: the
    helper's and the deferred one) and stays closed; the context the helper waits on is done (the
    deferred `cancel()`), so the helper's exit is enabled; once the helper has taken that step it is
    gone for good. -/
theorem cleanup (evs : List Event) (h : isReturned (reach H P evs) = true) :
    (reach H P evs).connClosed = true ∧
    helperCtxDone (reach H P evs) = true ∧
    (∀ post, (reach H P (evs ++ .helperObservesCtx :: post)).helperAlive = false) ∧
    (∀ post, (reach H P (evs ++ post)).connClosed = true) := by
  have hinv : RV.Exchange.Inv P (reach H P evs) := RV.Exchange.inv_run H P evs
  obtain ⟨r, hr⟩ := (RV.Exchange.isReturned_iff _).1 h
  refine ⟨hinv.returned_closed h, ?_, ?_, ?_⟩
  · simp [helperCtxDone, hr]
  · intro post
    rw [RV.Exchange.reach_append, RV.Exchange.run_cons]
    refine (RV.Exchange.run_helper_dead H P _ post ?_ (RV.Exchange.step_helper_exit H P _ r hr)).1
    rw [(RV.Exchange.step_returned H P _ .helperObservesCtx r hr).1]
    simp
  · intro post
    have hret : isReturned (reach H P (evs ++ post)) = true := by
      rw [RV.Exchange.reach_append]
      exact RV.Exchange.run_isReturned H P _ post h
    exact (RV.Exchange.inv_run H P (evs ++ post)).returned_closed hret

/-- The helper exists only after a successful dial, and only while the conn it will close exists. -/
theorem helper_only_after_dial (evs : List Event) (h : .dialOk ∉ evs) :
    (reach H P evs).helperAlive = false ∧ (reach H P evs).sent = [] :=
  (RV.Exchange.run_no_dialOk H P evs h).2

/-- An Encode refusal returns before anything happens: nothing is dialled, nothing sent, no helper. -/
theorem encode_error_returns_first (hw : ∀ w, P.wire ≠ .ok w) (evs : List Event) :
    (reach H P evs).phase = .returned .encodeErr ∧ (reach H P evs).sent = [] ∧
    (reach H P evs).helperAlive = false := by
  have hp : (init P).phase = .returned .encodeErr := by
    unfold init
    cases hp : P.wire with
    | ok w => exact absurd hp (hw w)
    | _ => rfl
  have hd := RV.Exchange.run_helper_dead H P (init P) evs (by rw [hp]; nofun) (by unfold init; cases P.wire <;> rfl)
  exact ⟨(RV.Exchange.run_returned H P _ evs _ hp).1, hd.2.trans (RV.Exchange.init_sent P), hd.1⟩

/-! ### Non-vacuity (tests, evaluated by the kernel on a toy hash) -/
section examples

def toyH : Hash := fun x => (x ++ zeros 16).take 16
def reqWire : Bytes := [1, 7, 0, 20, 1, 2, 3, 4, 5, 6, 7, 8, 9, 10, 11, 12, 13, 14, 15, 16]
def goodReply : Bytes := [2, 7, 0, 20, 2, 7, 0, 20, 1, 2, 3, 4, 5, 6, 7, 8, 9, 10, 11, 12]
def garbage : Bytes := [1, 2, 3]
def P1 (retry maxErr : Int) : Params := ⟨⟨maxErr, false⟩, retry, .ok reqWire, [115]⟩

def isReply : Phase → Bool
  | .returned (.reply _) => true
  | _ => false

/-- silent peer, two retransmissions, cancellation: three identical datagrams, then the context's error -/
example : (run toyH (P1 5 0) (init (P1 5 0))
    [.dialOk, .tick, .tick, .ctxDone, .helperObservesCtx, .tick, .readError, .tick]).phase = .returned .ctxErr := by
  decide +kernel
example : (run toyH (P1 5 0) (init (P1 5 0))
    [.dialOk, .tick, .tick, .ctxDone, .helperObservesCtx, .tick, .readError, .tick]).sent = [reqWire, reqWire, reqWire] := by
  decide +kernel
/-- Retry = 0: ticks do nothing -/
example : (run toyH (P1 0 0) (init (P1 0 0)) [.dialOk, .tick, .tick, .datagram garbage, .tick]).sent = [reqWire] := by
  decide +kernel
/-- late reply after garbage -/
example : isReply (run toyH (P1 5 0) (init (P1 5 0)) [.dialOk, .tick, .datagram garbage, .datagram goodReply]).phase = true := by
  decide +kernel
/-- the window of `ctx_window_processes_datagrams` is real: the reply is returned although the context is already done -/
example : isReply (run toyH (P1 5 0) (init (P1 5 0)) [.dialOk, .ctxDone, .datagram goodReply]).phase = true := by
  decide +kernel
/-- … and so is the budget error -/
example : (run toyH (P1 5 1) (init (P1 5 1)) [.dialOk, .ctxDone, .datagram garbage]).phase = .returned (.pktErr .parseErr) := by
  decide +kernel
/-- closed port: the read error is returned as it is when the context is alive -/
example : (run toyH (P1 5 0) (init (P1 5 0)) [.dialOk, .readError]).phase = .returned .netErr := by
  decide +kernel
/-- already cancelled context: the dial fails and the context's error is preferred -/
example : (run toyH (P1 5 0) (init (P1 5 0)) [.ctxDone, .dialFail]).phase = .returned .ctxErr := by
  decide +kernel
example : (run toyH (P1 5 0) (init (P1 5 0)) [.dialFail]).phase = .returned .dialErr := by
  decide +kernel

end examples
end RV.C08

/-! ## The timed layer: "… at the configured interval"

  `RV.Exchange.Timed` (Model/ClientTimed.lean) refines the machine above with time stamps and with
  `time.Ticker` as client.go uses it: created at `dialOk` (instant `t0`) iff `Retry > 0`; firing number
  k is due at `t0 + k·d`; the runtime sends it on a channel of capacity 1 at some instant ≥ its due time
  (event `fire k`; a send into a full channel is dropped, late firings may be skipped); the helper
  receives it at some instant ≥ the send (event `ev .tick`).  `wellTimed` = a time-stamped sequence obeys
  these rules.  Theorems for EVERY well-timed sequence (induction, no bound on the length):
  the refinement, and WHEN writes can happen.  `writes` is the ghost list (instant, firing number) of
  every `conn.Write`, parallel to `sent`; `writes[0]` is the first write, `writes[i]` for i ≥ 1 the i-th
  retransmission.

  What is NOT here: how late the runtime and the scheduler are.  The upper bounds (never early, never
  more than one per interval) need nothing; the lower bound is conditional on an explicit latency
  hypothesis (`responsive`, `settled`).
-/
namespace RV.C08
open RV RV.Client RV.Exchange RV.Exchange.Timed

variable (H : Hash) (P : Params)

/-- T0. Refinement: forgetting time stamps and deliveries, a timed run IS a run of the untimed machine —
    so every theorem above holds of the logical part of every timed run. -/
theorem timed_refines (evs : List TEvent) :
    (treach H P evs).logic = reach H P (erase evs) ∧
    (treach H P evs).writes.length = (treach H P evs).logic.sent.length :=
  ⟨RV.Exchange.Timed.timed_refines H P evs, RV.Exchange.Timed.writes_parallel_sent H P evs⟩

/-- T1. Never early: the i-th retransmission does not happen before `t0 + i·d`. -/
theorem resend_not_early (evs : List TEvent) (hw : wellTimed H P evs = true)
    (i : Nat) (h : i < (treach H P evs).writes.length) :
    (treach H P evs).t0 + i * period P ≤ ((treach H P evs).writes[i]).1 :=
  RV.Exchange.Timed.resend_not_early H P evs hw i h

/-- T2. Never more than one per interval: a write that has happened by `T` has index ≤ `(T - t0) / d`;
    at most `1 + (T - t0) / d` writes have happened by `T`; and so for everything sent, at any instant
    not before the last event.  (With `Retry ≤ 0`, `d = 0` and `x / 0 = 0`: at most the first write.) -/
theorem resend_count_le (evs : List TEvent) (hw : wellTimed H P evs = true) (T : Nat) :
    (∀ i (h : i < (treach H P evs).writes.length), ((treach H P evs).writes[i]).1 ≤ T →
      i ≤ (T - (treach H P evs).t0) / period P) ∧
    (treach H P evs).writes.countP (fun w => decide (w.1 ≤ T)) ≤ 1 + (T - (treach H P evs).t0) / period P ∧
    ((treach H P evs).now ≤ T →
      (treach H P evs).logic.sent.length ≤ 1 + (T - (treach H P evs).t0) / period P) :=
  ⟨fun i h hT => RV.Exchange.Timed.resend_index_le H P evs hw T i h hT,
   RV.Exchange.Timed.resend_count_le H P evs hw T,
   RV.Exchange.Timed.sent_length_le H P evs hw T⟩

/-- T3. Spacing: consecutive writes are caused by different firings, the later with the larger number;
    each write is not before its firing was due; hence the next write is at least one interval after
    the DUE time of the previous one's tick, i.e. at least `d` minus the previous write's lateness after
    the previous write.  (Not `d` after the previous write: see `late_receive_then_quick_resend`.) -/
theorem resend_spacing_or_late (evs : List TEvent) (hw : wellTimed H P evs = true)
    (i : Nat) (h : i + 1 < (treach H P evs).writes.length) :
    let s := treach H P evs
    let a := s.writes[i]
    let b := s.writes[i + 1]
    a.2 < b.2 ∧ a.1 ≤ b.1 ∧ due P s a.2 ≤ a.1 ∧ due P s a.2 + period P ≤ b.1 ∧
      a.1 + period P ≤ b.1 + (a.1 - due P s a.2) :=
  RV.Exchange.Timed.resend_spacing_or_late H P evs hw i h

/-- T4. Lower bound under a latency hypothesis: positive interval, `L < d`; along the run nothing (the
    next firing, the tick in the channel) is ever overdue by more than `L` when something happens and no
    firing is skipped; the call still waits, its helper runs; at the instant `T` of the observation the
    deadline of what is outstanding has not been reached.  Then no tick was lost and at least
    `(T - t0 - L) / d` retransmissions have happened. -/
theorem resend_count_ge_under_latency (hr : P.retry > 0) (L : Nat) (hL : L < period P)
    (evs : List TEvent) (hw : wellTimed H P evs = true) (hresp : responsive H P L evs = true)
    (T : Nat) (hset : settled P L (treach H P evs) T = true)
    (hwait : (treach H P evs).logic.phase = .waiting)
    (halive : (treach H P evs).logic.helperAlive = true) :
    (∀ tk, (treach H P evs).ticker = some tk → tk.lost = 0) ∧
    (T - (treach H P evs).t0 - L) / period P ≤ (treach H P evs).logic.sent.length - 1 :=
  RV.Exchange.Timed.resend_count_ge_under_latency H P hr L hL evs hw hresp T hset hwait halive

/-- T5. `Retry ≤ 0`: no ticker exists, no delivery and no receive is ever enabled, no well-timed
    sequence contains one, at most the first write happens (`no_resend_without_retry` through T0). -/
theorem no_resend_without_retry_timed (hr : P.retry ≤ 0) (evs : List TEvent) (hw : wellTimed H P evs = true) :
    (treach H P evs).ticker = none ∧
    (∀ t k, enabled P (treach H P evs) (t, .fire k) = false) ∧
    (∀ t, enabled P (treach H P evs) (t, .ev .tick) = false) ∧
    (∀ te, te ∈ evs → te.2 ≠ .ev .tick ∧ ∀ k, te.2 ≠ .fire k) ∧
    (treach H P evs).logic.sent.length ≤ 1 :=
  RV.Exchange.Timed.no_resend_without_retry_timed H P hr evs hw

/-- T6. Tie to the observation: whatever is SEEN of a well-timed run — each write at an instant not before
    it happened, the end not before the last event, on a clock whose origin is not after `t0` —
    satisfies the two predicates `RV.Driver.c08` evaluates on the harness's raw numbers, with any
    allowance. -/
theorem observation_within_model_bounds (evs : List TEvent) (hw : wellTimed H P evs = true)
    (c : Nat) (hc : c ≤ (treach H P evs).t0) (arr : List Nat) (fin tol : Nat)
    (hlen : arr.length = (treach H P evs).writes.length)
    (harr : ∀ i (h1 : i < arr.length) (h2 : i < (treach H P evs).writes.length),
      ((treach H P evs).writes[i]).1 ≤ c + arr[i])
    (hfin : (treach H P evs).now ≤ c + fin) :
    obsNotEarly (period P) tol arr = true ∧ obsCountOk (period P) tol fin arr = true :=
  RV.Exchange.Timed.observation_within_model_bounds H P evs hw c hc arr fin tol hlen harr hfin

/-- T6'. The same for a LOSSY observer: UDP may lose datagrams, and a peer that goes away (`vanish`, `deaf`)
    sees a prefix only.  `ws` is any subsequence of the writes (what reached the observer, in order), `arr`
    the instants at which it was seen.  The i-th observed datagram is write number ≥ i, hence not before
    `i·d`; fewer observations than writes: both predicates of the driver still hold. -/
theorem observation_within_model_bounds_lossy (evs : List TEvent) (hw : wellTimed H P evs = true)
    (c : Nat) (hc : c ≤ (treach H P evs).t0) (ws : List (Nat × Nat)) (arr : List Nat) (fin tol : Nat)
    (hsub : ws.Sublist (treach H P evs).writes)
    (hlen : arr.length = ws.length)
    (harr : ∀ i (h1 : i < arr.length) (h2 : i < ws.length), (ws[i]).1 ≤ c + arr[i])
    (hfin : (treach H P evs).now ≤ c + fin) :
    obsNotEarly (period P) tol arr = true ∧ obsCountOk (period P) tol fin arr = true :=
  RV.Exchange.Timed.observation_within_model_bounds_lossy H P evs hw c hc ws arr fin tol hsub hlen harr hfin

/-- … with the observer given as a strictly increasing index map (observation `i` is write number `f i`). -/
theorem observation_within_model_bounds_lossy_idx (evs : List TEvent) (hw : wellTimed H P evs = true)
    (c : Nat) (hc : c ≤ (treach H P evs).t0) (arr : List Nat) (f : Nat → Nat) (fin tol : Nat)
    (hmono : ∀ i j, i < j → j < arr.length → f i < f j)
    (hrange : ∀ i, i < arr.length → f i < (treach H P evs).writes.length)
    (harr : ∀ i (h1 : i < arr.length) (h2 : f i < (treach H P evs).writes.length),
      ((treach H P evs).writes[f i]).1 ≤ c + arr[i])
    (hfin : (treach H P evs).now ≤ c + fin) :
    obsNotEarly (period P) tol arr = true ∧ obsCountOk (period P) tol fin arr = true :=
  RV.Exchange.Timed.observation_within_model_bounds_lossy_idx H P evs hw c hc arr f fin tol hmono hrange harr hfin

/-- T7. The LOWER bound on an observation — what would be asserted on a quiet machine; a theorem only, the
    driver does not evaluate `obsCountGe` (a loaded sandbox does not meet the latency hypothesis; a ticker
    that is merely slower than `Retry` is caught by the regenerated fact `tickerPeriodIsRetry`,
    Facts/TieC08.lean).  Under the hypotheses of T4, a LOSSLESS observer whose estimate `t0'` of the first
    write is not before it (e.g. the first arrival) and who looks at `c + fin ≤ T` has seen at least
    `1 + (fin - t0' - L) / d` datagrams. -/
theorem observation_lower_bound_under_latency (hr : P.retry > 0) (L : Nat) (hL : L < period P)
    (evs : List TEvent) (hw : wellTimed H P evs = true) (hresp : responsive H P L evs = true)
    (T : Nat) (hset : settled P L (treach H P evs) T = true)
    (hwait : (treach H P evs).logic.phase = .waiting)
    (halive : (treach H P evs).logic.helperAlive = true)
    (c t0' fin : Nat) (arr : List Nat)
    (hlen : arr.length = (treach H P evs).writes.length)
    (ht0 : (treach H P evs).t0 ≤ c + t0')
    (hfin : c + fin ≤ T) :
    obsCountGe (period P) L t0' fin arr = true :=
  RV.Exchange.Timed.observation_lower_bound_under_latency H P hr L hL evs hw hresp T hset hwait halive
    c t0' fin arr hlen ht0 hfin

/-! ### Non-vacuity of the timed layer (interval 5, toy hash, evaluated by the kernel) -/
section timed_examples

/-- a punctual run: three firings, each received within 2 -/
def punctualRun : List TEvent :=
  [(10, .ev .dialOk), (15, .fire 1), (16, .ev .tick), (20, .fire 2), (22, .ev .tick), (25, .fire 3), (25, .ev .tick)]

example : wellTimed toyH (P1 5 0) punctualRun = true := by decide +kernel
example : (treach toyH (P1 5 0) punctualRun).writes = [(10, 0), (16, 1), (22, 2), (25, 3)] := by decide +kernel
example : (treach toyH (P1 5 0) punctualRun).logic.sent = [reqWire, reqWire, reqWire, reqWire] := by decide +kernel
/-- the hypotheses of T4 are satisfiable, and its bound is attained: (29 - 10 - 2) / 5 = 3 retransmissions -/
example : responsive toyH (P1 5 0) 2 punctualRun = true ∧ settled (P1 5 0) 2 (treach toyH (P1 5 0) punctualRun) 29 = true ∧
    (treach toyH (P1 5 0) punctualRun).logic.phase = .waiting ∧
    (treach toyH (P1 5 0) punctualRun).logic.helperAlive = true ∧
    (29 - (treach toyH (P1 5 0) punctualRun).t0 - 2) / period (P1 5 0) = 3 := by decide +kernel
/-- … and the upper bound T2 is attained as well: 4 writes = 1 + (25 - 10) / 5 -/
example : (treach toyH (P1 5 0) punctualRun).logic.sent.length = 1 + (25 - 10) / period (P1 5 0) := by decide +kernel

/-- a dropped tick: firing 2 finds firing 1 still in the channel; the helper receives firing 1 late (at 12)
    and firing 3 at once (at 15) -/
def lateRun : List TEvent :=
  [(0, .ev .dialOk), (5, .fire 1), (10, .fire 2), (12, .ev .tick), (15, .fire 3), (15, .ev .tick)]

example : wellTimed toyH (P1 5 0) lateRun = true := by decide +kernel
example : (treach toyH (P1 5 0) lateRun).ticker = some { next := 4, chan := none, taken := 2, lost := 1 } := by
  decide +kernel
/-- two retransmissions only 3 < 5 apart (T3 allows it: the first was 7 late) -/
theorem late_receive_then_quick_resend :
    wellTimed toyH (P1 5 0) lateRun = true ∧
    (treach toyH (P1 5 0) lateRun).writes = [(0, 0), (12, 1), (15, 3)] := by decide +kernel
/-- … and this run is not `responsive` for any latency below the interval -/
example : responsive toyH (P1 5 0) 4 lateRun = false := by decide +kernel

/-- the runtime skips firings 1 and 2 -/
example : wellTimed toyH (P1 5 0) [(0, .ev .dialOk), (17, .fire 3), (17, .ev .tick)] = true ∧
    (treach toyH (P1 5 0) [(0, .ev .dialOk), (17, .fire 3), (17, .ev .tick)]).writes = [(0, 0), (17, 3)] := by
  decide +kernel

/-- what `wellTimed` rules out: a receive with nothing in the channel, a delivery before it is due, a delivery
    out of order, time running backwards, a delivery after the return, anything of the ticker when `Retry ≤ 0` -/
example : wellTimed toyH (P1 5 0) [(0, .ev .dialOk), (7, .ev .tick)] = false := by decide +kernel
example : wellTimed toyH (P1 5 0) [(0, .ev .dialOk), (4, .fire 1)] = false := by decide +kernel
example : wellTimed toyH (P1 5 0) [(0, .ev .dialOk), (10, .fire 2), (10, .fire 1)] = false := by decide +kernel
example : wellTimed toyH (P1 5 0) [(3, .ev .dialOk), (2, .ev .ctxDone)] = false := by decide +kernel
example : wellTimed toyH (P1 5 0) [(0, .ev .dialOk), (1, .ev .readError), (5, .fire 1)] = false := by decide +kernel
example : wellTimed toyH (P1 5 0) [(0, .ev .dialOk), (5, .fire 1), (6, .ev .tick), (6, .ev .tick)] = false := by
  decide +kernel
example : wellTimed toyH (P1 0 0) [(0, .ev .dialOk), (5, .fire 1)] = false := by decide +kernel
example : wellTimed toyH (P1 0 0) [(0, .ev .dialOk), (5, .ev .tick)] = false := by decide +kernel
example : wellTimed toyH (P1 (-1) 0) [(0, .ev .dialOk), (5, .ev .tick)] = false := by decide +kernel
/-- a tick received after the return writes nothing (the conn is closed), and the helper then exits -/
example : wellTimed toyH (P1 5 0)
      [(0, .ev .dialOk), (5, .fire 1), (6, .ev .readError), (7, .ev .tick), (8, .ev .helperObservesCtx)] = true ∧
    (treach toyH (P1 5 0)
      [(0, .ev .dialOk), (5, .fire 1), (6, .ev .readError), (7, .ev .tick), (8, .ev .helperObservesCtx)]).writes = [(0, 0)] := by
  decide +kernel
/-- erasure -/
example : erase lateRun = [.dialOk, .tick, .tick] := by decide +kernel
/-- the driver's predicates on numbers: on time, one millisecond early, one too many -/
example : obsNotEarly 5 0 [0, 5, 11, 15] = true ∧ obsCountOk 5 0 15 [0, 5, 11, 15] = true := by decide
example : obsNotEarly 5 0 [0, 5, 9] = false ∧ obsNotEarly 5 1 [0, 5, 9] = true := by decide
example : obsCountOk 5 0 14 [0, 5, 11, 14] = false := by decide

/-- a lossy observer of `punctualRun` (clock origin 10 = t0): the second write (at 16) is lost; what it saw
    of the others — at 10, 22, 25, i.e. 0, 12, 15 on its clock — is a subsequence of the writes, each seen
    not before it happened, and satisfies the driver's predicates with no allowance (T6') -/
example : [(10, 0), (22, 2), (25, 3)].Sublist (treach toyH (P1 5 0) punctualRun).writes ∧
    obsNotEarly 5 0 [0, 12, 15] = true ∧ obsCountOk 5 0 15 [0, 12, 15] = true := by decide +kernel
/-- … whereas an observer that sees the third datagram before 2·d after losing nothing is refused -/
example : obsNotEarly 5 0 [0, 6, 9] = false := by decide
/-- the lower bound on numbers (T7): `punctualRun` seen without loss at 29 with latency 2 — 1 + (29-10-2)/5 = 4
    datagrams are demanded and 4 were seen; one fewer is refused -/
example : obsCountGe 5 2 10 29 [10, 16, 22, 25] = true ∧ obsCountGe 5 2 10 29 [10, 16, 22] = false := by decide

end timed_examples
end RV.C08
