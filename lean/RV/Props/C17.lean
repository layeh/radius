/-
  C17 — Generator output: API shape, ignore list, unique identifiers, imports, determinism.

  `Gen.generate cfg` is the model of dictionarygen.Generator.Generate; `Cfg.asIs` is the code as found,
  `Cfg.repaired` the code with proposed_fixes/01–03 applied (the driver compares the working tree with
  `Cfg.current`).  For every clause that is FALSE of the code as found there is the statement at full
  strength (`…_full cfg : Prop`), a kernel-checked counter-example for `Cfg.asIs`, a partial theorem for
  `Cfg.asIs` with the excluded domain explicit, and the full theorem for `Cfg.repaired`.

  Not proved here, and not provable in Lean: that the emitted text type-checks (template bodies are not
  modelled).  That is observed with go/types on every correspondence case (see checklib/propdefs/C17.py).
  What "compiles" means at the level of the model is stated in full: declared names are pairwise distinct
  (`idents_unique_*`, `declaredNames_covers`), every name is a well-formed Go identifier (`names_wellformed`),
  exported or private as documented (`exported_names`), the import list is duplicate-free and is exactly what
  the emitted sections use (`imports_exact_*`, `dot_imports_exact`, `imports_nodup`) — "use" being
  `Spec.neededImports`, read off the table `usedImports` that Model/Gen keeps per template.

  The definitions the statements speak with: `Spec.helperRoles`, `hasTagParam`, `hasRequestParam`,
  `neededImports`, `PermRel`, `declaredNames` in Model/Gen; `Spec.typeConstDecl`, `declsOf`, `AttrIn` in
  Proofs/GenAudit; `Spec.wordByte`, `goIdent`, `declNameOK` in Proofs/GenAudit2; `Role.kind` in Proofs/GenShape.
-/
import RV.Model.Gen
import RV.Proofs.Gen
namespace RV.C17
open RV RV.Dict RV.Gen RV.Gen.Spec

/-- True of every Lean function: `generate` is one, so two evaluations agree; this says nothing about the
    Go code.  In Go the run-to-run variation comes from MAP ITERATION ORDER; the
    maps of `Generate` are `ExternalAttributes` (iterated, then `sortExternalAttributes`), `baseImports`
    (iterated, then sorted by go/format), `ignoredAttributes`, `attrIdents`, `vendorIdents` (looked up only).
    The statements with content are `refs_order_irrelevant` and `ignore_order_irrelevant` below (the model
    takes the two option maps as lists; the result is invariant under every re-ordering of them), and
    `std_imports_canonical` (the `baseImports` map is emitted in one fixed order). -/
theorem deterministic (cfg : Cfg) (d : Dictionary) (o : Options) (r₁ r₂ : Except Err Output)
    (h₁ : generate cfg d o = r₁) (h₂ : generate cfg d o = r₂) : r₁ = r₂ := by
  rw [← h₁, ← h₂]

/-- `ExternalAttributes` (the `-ref` options) is a Go map: its keys are distinct and it is iterated in an
    arbitrary order.  Whatever that order is, the result is the same — for the code as found, the repaired
    code and the working tree alike (`cfg` is arbitrary): `sortExternalAttributes` orders the slice by a
    key that is unique. -/
theorem refs_order_irrelevant (cfg : Cfg) (d : Dictionary) (o : Options) (refs' : List (Bytes × Bytes))
    (h : o.refs.Perm refs') (hd : (o.refs.map (·.1)).Nodup) :
    generate cfg d { o with refs := refs' } = generate cfg d o :=
  generate_congr cfg d (fun _ => rfl) (sortRefs_perm h hd).symm

/-- the ignore list is turned into a map and only ever looked up: order and repetitions do not matter -/
theorem ignore_order_irrelevant (cfg : Cfg) (d : Dictionary) (o : Options) (ignore' : List Bytes)
    (h : ∀ n, n ∈ o.ignore ↔ n ∈ ignore') :
    generate cfg d { o with ignore := ignore' } = generate cfg d o := by
  refine generate_congr cfg d (fun n => ?_) rfl
  rw [Bool.eq_iff_iff]
  simp only [List.contains_iff_mem]
  exact (h n).symm

/-- both at once, for the working tree -/
theorem options_order_irrelevant (d : Dictionary) (o o' : Options)
    (hr : o.refs.Perm o'.refs) (hd : (o.refs.map (·.1)).Nodup) (hi : ∀ n, n ∈ o.ignore ↔ n ∈ o'.ignore) :
    generate Cfg.current d o' = generate Cfg.current d o := by
  have h1 := refs_order_irrelevant Cfg.current d o o'.refs hr hd
  have h2 := ignore_order_irrelevant Cfg.current d { o with refs := o'.refs } o'.ignore hi
  exact h2.trans h1

/-- the standard-library imports (the `baseImports` map) come out in one fixed order, whatever was
    inserted first: they are a sub-list of the sorted list `stdImports` -/
theorem std_imports_canonical (cfg : Cfg) (d : Dictionary) (o : Options) (out : Output)
    (h : generate cfg d o = .ok out) :
    (out.imports.filter (fun i => match i with | .std _ => true | _ => false)).Sublist stdImports := by
  obtain ⟨seen, evs0, vimps, _, _, _, _, _, himp, _⟩ := generate_ok h
  rw [himp]
  simp only [List.filter_append]
  have h2 : ∀ c : Bool, (if c = true then [Imp.radius] else []).filter (fun i => match i with | .std _ => true | _ => false) = [] := by
    intro c; cases c <;> rfl
  have h3 : ∀ c : Bool, (if c = true then [Imp.rfc2865] else []).filter (fun i => match i with | .std _ => true | _ => false) = [] := by
    intro c; cases c <;> rfl
  have h4 : ∀ l : List Bytes, (l.map Imp.dot).filter (fun i => match i with | .std _ => true | _ => false) = [] := by
    intro l
    rw [List.filter_eq_nil_iff]
    intro i hi
    obtain ⟨q, _, rfl⟩ := List.mem_map.1 hi
    simp
  rw [h2, h3, h4, List.append_nil, List.append_nil, List.append_nil]
  exact List.filter_sublist.trans List.filter_sublist

/-- two `-ref` options, an ignore list with a repetition -/
def witnessRefs : Dictionary :=
  { attributes := [{ name := bs "A", oid := [1], typ := .string }, { name := bs "Old", oid := [2], typ := .string }],
    values := [⟨bs "X", bs "on", 1⟩, ⟨bs "Y", bs "off", 0⟩] }

example : generate Cfg.current witnessRefs ⟨[bs "Old"], [(bs "Y", bs "q"), (bs "X", bs "p")]⟩
    = generate Cfg.current witnessRefs ⟨[bs "Old"], [(bs "X", bs "p"), (bs "Y", bs "q")]⟩ :=
  refs_order_irrelevant Cfg.current witnessRefs ⟨[bs "Old"], [(bs "X", bs "p"), (bs "Y", bs "q")]⟩ _
    (List.Perm.swap _ _ _) (by decide)

example : generate Cfg.current witnessRefs ⟨[bs "Old", bs "Old", bs "Old"], [(bs "X", bs "p"), (bs "Y", bs "q")]⟩
    = generate Cfg.current witnessRefs ⟨[bs "Old"], [(bs "X", bs "p"), (bs "Y", bs "q")]⟩ :=
  ignore_order_irrelevant Cfg.current witnessRefs ⟨[bs "Old"], [(bs "X", bs "p"), (bs "Y", bs "q")]⟩ _ (by simp)

/-- the run the two examples are about succeeds and emits both external sections -/
example : (match generate Cfg.current witnessRefs ⟨[bs "Old"], [(bs "X", bs "p"), (bs "Y", bs "q")]⟩ with
    | .ok out => out.imports.contains (Imp.dot (bs "p")) && out.imports.contains (Imp.dot (bs "q"))
    | .error _ => false) = true := by decide +kernel

/-- the hypothesis "keys are distinct" (a Go map) cannot be dropped: with a repeated key the first entry
    in sort order wins, and `sort.Stable` keeps the input order of equal keys -/
example : generate Cfg.current witnessRefs ⟨[bs "Old"], [(bs "X", bs "p"), (bs "X", bs "q"), (bs "Y", bs "r")]⟩
    ≠ generate Cfg.current witnessRefs ⟨[bs "Old"], [(bs "X", bs "q"), (bs "X", bs "p"), (bs "Y", bs "r")]⟩ := by decide +kernel

/-- the only way the model reaches `Err.panic`: the ignore-list repair (proposed_fixes/03) is missing and
    an IGNORED — hence unchecked, but still emitted — vendor attribute of a templated type has an empty OID
    (`attr.OID[0]` in the vendor templates) -/
theorem panic_only_if (cfg : Cfg) (d : Dictionary) (o : Options) (h : generate cfg d o = .error .panic) :
    cfg.dropIgnoredVendorAttrs = false ∧
    ∃ v ∈ d.vendors, ∃ a ∈ v.attributes, a.name ∈ o.ignore ∧ a.oid = [] ∧ hasTemplate a.typ = true := by
  rw [generate_eq] at h
  rcases (bind_error_iff _ _ _).1 h with h | ⟨seen, _, h⟩
  · exact absurd h (checkAttrs_ne_panic _ _ _ _)
  rcases (bind_error_iff _ _ _).1 h with h | ⟨_, _, h⟩
  · exact absurd h (gmid_ne_panic _ _ _ _ _)
  rcases (bind_error_iff _ _ _).1 h with h | ⟨r, hcv, h⟩
  · exact absurd h (checkVendors_ne_panic _ _ _ _ _)
  have hp := gtail_panic h
  obtain ⟨hr1, _, hvalid⟩ := checkVendors_struct cfg o d.vendors _ _ _ hcv
  obtain ⟨ev, hev, hp1⟩ := List.any_eq_true.1 hp
  obtain ⟨a, ha, hp2⟩ := List.any_eq_true.1 hp1
  simp only [sortVendors, mem_sortStable, hr1, List.mem_map] at hev
  obtain ⟨w, hw, rfl⟩ := hev
  simp only [vendorAttrPanics, Bool.and_eq_true, List.isEmpty_iff] at hp2
  have hnk : a ∉ kept o w.attributes := by
    intro hk
    have := (invalidAttr_false (hvalid w hw a hk)).1
    rw [hp2.2] at this
    cases this
  simp only [mkEV, vsrc, sortAttrs, mem_sortStable] at ha
  cases hdrop : cfg.dropIgnoredVendorAttrs
  · rw [hdrop] at ha
    simp only [Bool.false_eq_true, if_false] at ha
    refine ⟨rfl, w, hw, a, ha, ?_, hp2.2, hp2.1⟩
    apply Classical.byContradiction
    intro hni
    exact hnk (mem_kept.2 ⟨ha, hni⟩)
  · rw [hdrop] at ha
    rw [if_pos rfl] at ha
    exact absurd ha hnk

/-- the repaired generator never panics: every attribute it emits went through the validity block, whose
    first test is `len(attr.OID) != 1` -/
theorem repaired_never_panics (d : Dictionary) (o : Options) : generate Cfg.repaired d o ≠ .error .panic :=
  fun h => absurd (panic_only_if _ d o h).1 (by decide)

/-- the working tree is the repaired code -/
theorem current_never_panics (d : Dictionary) (o : Options) : generate Cfg.current d o ≠ .error .panic :=
  repaired_never_panics d o

/-- `VENDOR V 9` with an `ATTRIBUTE X <no OID> string` inside, generated with `-ignore X` -/
def witnessPanic : Dictionary :=
  { vendors := [{ name := bs "V", number := 9, attributes := [{ name := bs "X", oid := [], typ := .string }] }] }

/-- the code as found panics on it (the repair matters) … -/
theorem asIs_panics : generate Cfg.asIs witnessPanic ⟨[bs "X"], []⟩ = .error .panic := by decide +kernel

/-- … the repaired code emits the vendor without the ignored attribute -/
example : (generate Cfg.repaired witnessPanic ⟨[bs "X"], []⟩).toOption.isSome = true := by decide +kernel

/-- as found, there is no panic unless an ignored vendor attribute has an empty OID -/
theorem asIs_never_panics_partial (d : Dictionary) (o : Options)
    (h : ∀ v ∈ d.vendors, ∀ a ∈ v.attributes, a.name ∈ o.ignore → a.oid ≠ []) :
    generate Cfg.asIs d o ≠ .error .panic := by
  intro hp
  obtain ⟨_, v, hv, a, ha, hi, he, _⟩ := panic_only_if _ d o hp
  exact h v hv a ha hi he

example : ∀ v ∈ ({ vendors := [{ name := bs "V", number := 9, attributes := [{ name := bs "X", oid := [255, 1], typ := .octets }] }] } : Dictionary).vendors,
    ∀ a ∈ v.attributes, a.name ∈ [bs "X"] → a.oid ≠ [] := by decide

/-- the normalised identifier consists of ASCII letters and digits only (no `_`, no `.`) -/
theorem identifier_alnum (name : Bytes) : ∀ c ∈ identifier name, isAlnum c = true :=
  Gen.identifier_alnum name

example : identifier (bs "3GPP-Charging-Id") = bs "ThreeGPPChargingID" := by decide +kernel
example : identifier (bs "ADSL2+") = bs "ADSL2Plus" := by decide +kernel
example : identifier (bs "Acct-Session-Id") = bs "AcctSessionID" := by decide +kernel
example : identifier (bs "First_Name") = identifier (bs "First-Name") := by decide +kernel
example : identifier (bs "--") = [] := by decide +kernel

/-- the code as found: `Less` compares an element with itself, so `SortAttributes` never moves anything -/
theorem sortAttrs_asIs_identity (as : List Attribute) : sortAttrs Cfg.asIs as = as :=
  sortStable_id_of _ as fun a _ _ _ => oidLess_irrefl a.oid

/-- repaired: the result is a permutation of the input, ordered by (OID, name) -/
theorem sortAttrs_repaired_sorted (as : List Attribute) :
    (sortAttrs Cfg.repaired as).Perm as ∧
    (sortAttrs Cfg.repaired as).Pairwise (fun a b => attrLess Cfg.repaired b a = false) :=
  ⟨Gen.sortStable_perm _ as, Gen.sortAttrs_fixed_pairwise rfl as⟩

/-- of several VALUEs of one attribute with the same number, exactly the last one declared survives;
    values with distinct numbers are all kept -/
example : attrValues (bs "A") (sortValues [⟨bs "A", bs "x", 1⟩, ⟨bs "A", bs "z", 0⟩, ⟨bs "B", bs "q", 1⟩, ⟨bs "A", bs "y", 1⟩])
    = [⟨bs "A", bs "z", 0⟩, ⟨bs "A", bs "y", 1⟩] := by decide +kernel

/-- the functions emitted for an attribute are exactly the documented helpers of its kind, in the
    documented order, each named `<Identifier><suffix of its role>` -/
theorem api_shape (vendor : Bool) (a : Attribute) (vals : List Value) :
    ((attrDecls vendor a vals).filter (·.kind == .func)).map (·.role) = helperRoles vendor a
    ∧ ∀ d ∈ attrDecls vendor a vals, d.kind = .func → d.name = identifier a.name ++ bs d.role.suffix :=
  ⟨api_shape_roles vendor a vals, api_shape_names vendor a vals⟩

/-- integer kinds additionally get a value type, one named constant per (de-duplicated) VALUE, the
    `_Strings` map and the `String()` method; other kinds get nothing but functions -/
theorem api_shape_integer (vendor : Bool) (a : Attribute) (vals : List Value) :
    ((attrDecls vendor a vals).filter (·.kind != .func)).map (fun d => (d.kind, d.role, d.name)) =
      if isIntKind a.typ then
        [(DKind.type, Role.valueType, identifier a.name)]
        ++ (attrValues a.name vals).map (fun v => (DKind.const, Role.valueConst, identifier a.name ++ bs "_Value_" ++ identifier v.name))
        ++ [(DKind.var, Role.strings, identifier a.name ++ bs "_Strings"), (DKind.method, Role.stringer, identifier a.name ++ bs ".String")]
      else [] := by
  rw [attrDecls_eq, isIntKind]
  split
  · rename_i hs
    rw [intBits_of_stringy hs]
    split <;> rfl
  · cases intBits a.typ with
    | some n => exact intDecls_nonfunc _ a _ _
    | none =>
      show List.map _ (List.filter _ (if hasTemplate a.typ = true then _ else [])) = []
      split <;> rfl

/-- a tag parameter exactly when the attribute is tagged (for every attribute the validity rules accept) -/
theorem tag_param_iff (cfg : Cfg) (vendor : Bool) (a : Attribute) (vals : List Value)
    (hv : invalidAttr cfg vendor a = false) :
    ∀ d ∈ attrDecls vendor a vals, (d.role.isWriter || d.role.isReader) = true → hasTagParam d = tagged a := by
  intro d hd hr
  rw [attrDecls_tag vals hv d hd, hr]
  rfl

/-- a request-packet parameter exactly when the attribute is salt-encrypted -/
def request_param_full (cfg : Cfg) : Prop :=
  ∀ (vendor : Bool) (a : Attribute) (vals : List Value), invalidAttr cfg vendor a = false →
    ∀ d ∈ attrDecls vendor a vals, d.role.isReader = true → hasRequestParam d = salted a

/-- #18: `ATTRIBUTE X 1 date encrypt=2` is accepted by the code as found and its readers have no `q` -/
theorem request_param_counterexample : ¬ request_param_full Cfg.asIs := by
  intro h
  have := h false { name := bs "X", oid := [1], typ := .date, encrypt := some 2 } [] (by decide)
    (fn (bs "X") .get [.packet] [.time]) (by decide) (by decide)
  exact absurd this (by decide)

/-- as found, the clause holds on the kinds whose template implements `encrypt=2` -/
theorem request_param_partial (vendor : Bool) (a : Attribute) (vals : List Value)
    (hv : invalidAttr Cfg.asIs vendor a = false)
    (hk : salted a = true → (stringy a.typ || isIPKind a.typ || isIntKind a.typ) = true) :
    ∀ d ∈ attrDecls vendor a vals, d.role.isReader = true → hasRequestParam d = salted a :=
  request_param_general Cfg.asIs vendor a vals hv hk

/-- repaired (`encrypt=` refused where no template implements it): the readers of an accepted attribute take
    the request packet `q` exactly when the attribute is salt-encrypted -/
theorem request_param_repaired : request_param_full Cfg.repaired :=
  fun vendor a vals hv => request_param_general Cfg.repaired vendor a vals hv (salted_kind_of_valid rfl hv)

/-! ### the clauses of the API shape, one by one, over the output of an accepted dictionary

`api_shape` above compares the template table `attrDecls` with the specification table `helperRoles`.  The
statements below do not go through `helperRoles`: each spells its list out, and each is about the OUTPUT of
`generate` for an arbitrary accepted dictionary `d` and an arbitrary attribute `a` declared by `d` (at top
level or inside a VENDOR block — `AttrIn d vendor a vs`, `vs` being the VALUE lines of that scope) that is
not on the ignore list.  `declsOf out vendor a` is everything the output declares for `a`, in order. -/

/-- (i) text and octets: typed and `String` variants of Add/Get/Gets/Lookup/Set, and Del
    (top-level attributes additionally have their `_Type` constant) -/
theorem helpers_text {d : Dictionary} {o : Options} {out : Output} {vendor : Bool} {a : Attribute} {vs : List Value}
    (hacc : generate Cfg.repaired d o = .ok out) (hin : AttrIn d vendor a vs) (hi : a.name ∉ o.ignore)
    (hk : a.typ = .string ∨ a.typ = .octets) (hc : concatenated a = false) :
    (declsOf out vendor a).map (·.role) =
      (if vendor then [] else [Role.typeConst])
      ++ [.add, .addString, .get, .getString, .gets, .getStrings, .lookup, .lookupString, .set, .setString, .del] := by
  obtain ⟨vals, he, _⟩ := declsOf_eq hacc hin hi
  rw [he, List.map_append, attrDecls_text vendor a vals (stringy_of hk) (by simp [hc])]
  cases vendor <;> rfl

/-- (ii) concat attributes (top level only: inside a VENDOR block the flag is refused): only
    Get/Lookup/Set with their `String` variants, and Del — no Add, no Gets -/
theorem helpers_concat {d : Dictionary} {o : Options} {out : Output} {vendor : Bool} {a : Attribute} {vs : List Value}
    (hacc : generate Cfg.repaired d o = .ok out) (hin : AttrIn d vendor a vs) (hi : a.name ∉ o.ignore)
    (hk : a.typ = .string ∨ a.typ = .octets) (hc : concatenated a = true) :
    vendor = false ∧
    (declsOf out vendor a).map (·.role) = [.typeConst, .get, .getString, .lookup, .lookupString, .set, .setString, .del] := by
  obtain ⟨vals, he, _, hv, _⟩ := declsOf_eq hacc hin hi
  have hvn := (concat_of_valid hv hc).1
  subst hvn
  refine ⟨rfl, ?_⟩
  rw [he, List.map_append, attrDecls_concat a vals (stringy_of hk) hc]
  rfl

/-- (iii) integer kinds (`short`, `integer`, `integer64`; `n` = 16, 32, 64): the value type `uint<n>`, one
    named constant of that type per VALUE number (`attrValues ∘ sortValues`, characterised by `value_constants`),
    the `_Strings` map, the `String()` method, Add/Get/Gets/Lookup/Set/Del over the value type.  The constants'
    identifiers are pairwise distinct and their numbers fit the type. -/
theorem helpers_integer {d : Dictionary} {o : Options} {out : Output} {vendor : Bool} {a : Attribute} {vs : List Value}
    (hacc : generate Cfg.repaired d o = .ok out) (hin : AttrIn d vendor a vs) (hi : a.name ∉ o.ignore)
    (n : Nat) (hk : intBits a.typ = some n) :
    (declsOf out vendor a).map (fun dc => (dc.role, dc.name, dc.results)) =
      (if vendor then [] else [(Role.typeConst, identifier a.name ++ bs "_Type", [Ty.radiusType])])
      ++ [(Role.valueType, identifier a.name, [if n = 64 then Ty.u64 else if n = 16 then Ty.u16 else Ty.u32])]
      ++ (attrValues a.name (sortValues vs)).map (fun v =>
            (Role.valueConst, identifier a.name ++ bs "_Value_" ++ identifier v.name, [Ty.named (identifier a.name)]))
      ++ [(Role.strings, identifier a.name ++ bs "_Strings", [Ty.mapStr (identifier a.name)]),
          (Role.stringer, identifier a.name ++ bs ".String", [Ty.str]),
          (Role.add, identifier a.name ++ bs "_Add", [Ty.error]),
          (Role.get, identifier a.name ++ bs "_Get", tg a .byte ++ [Ty.named (identifier a.name)]),
          (Role.gets, identifier a.name ++ bs "_Gets", tg a .bytes ++ [Ty.slice (Ty.named (identifier a.name)), Ty.error]),
          (Role.lookup, identifier a.name ++ bs "_Lookup", tg a .byte ++ [Ty.named (identifier a.name), Ty.error]),
          (Role.set, identifier a.name ++ bs "_Set", [Ty.error]),
          (Role.del, identifier a.name ++ bs "_Del", [])]
    ∧ ((attrValues a.name (sortValues vs)).map (fun v => identifier v.name)).Nodup
    ∧ (∀ v ∈ attrValues a.name (sortValues vs), v.number < 2 ^ n) := by
  obtain ⟨vals, he, hvals, _, _, hok, hfit⟩ := declsOf_eq hacc hin hi
  have hint : isIntKind a.typ = true := by simp [isIntKind, hk]
  refine ⟨?_, ?_, ?_⟩
  · rw [he, List.map_append, attrDecls_int vendor a vals n hk, hvals]
    cases vendor <;> simp [typeConstDecl]
  · rw [← hvals]; exact hok hint
  · rw [← hvals]; exact hfit n hk

/-- which VALUEs name a constant: VALUE lines of that attribute (and scope), with pairwise distinct numbers,
    in ascending order, one for every number that occurs (which one: `value_constants_last`) -/
theorem value_constants (attrName : Bytes) (vs : List Value) :
    (attrValues attrName (sortValues vs)).Pairwise (fun x y => x.number < y.number)
    ∧ (∀ w ∈ attrValues attrName (sortValues vs), w ∈ vs ∧ w.attrName = attrName)
    ∧ (∀ v ∈ vs, v.attrName = attrName → ∃ w ∈ attrValues attrName (sortValues vs), w.number = v.number) :=
  Gen.attrValues_spec' attrName vs

/-- of the VALUE lines of one attribute that carry the same number, the one declared LAST names the constant
    (`sort.Stable` keeps their order, the loop of `attributeValues` overwrites) -/
theorem value_constants_last (attrName : Bytes) (vs : List Value) :
    ∀ w ∈ attrValues attrName (sortValues vs),
      (vs.filter (fun v => v.attrName == attrName && v.number == w.number)).getLast? = some w :=
  Gen.attrValues_last' attrName vs

example : attrValues (bs "Service-Type") (sortValues [⟨bs "Service-Type", bs "Login-User", 1⟩, ⟨bs "Service-Type", bs "Framed-User", 2⟩,
    ⟨bs "Service-Type", bs "Login", 1⟩, ⟨bs "Ext-Attr", bs "On", 1⟩]) = [⟨bs "Service-Type", bs "Login", 1⟩, ⟨bs "Service-Type", bs "Framed-User", 2⟩] := by decide +kernel

/-- (iv) the other kinds with a template (`ipaddr`, `ipv6addr`, `ipv6prefix`, `ifid`, `date`, `byte`):
    typed Add/Get/Gets/Lookup/Set/Del and nothing else -/
theorem helpers_other {d : Dictionary} {o : Options} {out : Output} {vendor : Bool} {a : Attribute} {vs : List Value}
    (hacc : generate Cfg.repaired d o = .ok out) (hin : AttrIn d vendor a vs) (hi : a.name ∉ o.ignore)
    (hk : a.typ = .ipaddr ∨ a.typ = .ipv6addr ∨ a.typ = .ipv6prefix ∨ a.typ = .ifid ∨ a.typ = .date ∨ a.typ = .byte) :
    (declsOf out vendor a).map (·.role) =
      (if vendor then [] else [Role.typeConst]) ++ [.add, .get, .gets, .lookup, .set, .del] := by
  obtain ⟨vals, he, _⟩ := declsOf_eq hacc hin hi
  have h3 : hasTemplate a.typ = true ∧ stringy a.typ = false ∧ isIntKind a.typ = false := by
    rcases hk with h | h | h | h | h | h <;> simp [h, hasTemplate, stringy, isIntKind, intBits, isIPKind]
  rw [he, List.map_append, attrDecls_simple vendor a vals h3.1 h3.2.1 h3.2.2]
  cases vendor <;> rfl

/-- (v) kinds without a template: the only one an accepted dictionary can contain is a top-level `vsa`,
    and it gets its `_Type` constant and nothing else -/
theorem helpers_none {d : Dictionary} {o : Options} {out : Output} {vendor : Bool} {a : Attribute} {vs : List Value}
    (hacc : generate Cfg.repaired d o = .ok out) (hin : AttrIn d vendor a vs) (hi : a.name ∉ o.ignore)
    (hk : hasTemplate a.typ = false) :
    vendor = false ∧ a.typ = .vsa ∧ declsOf out vendor a = [typeConstDecl a] := by
  obtain ⟨vals, he, _, hv, _⟩ := declsOf_eq hacc hin hi
  obtain ⟨hvn, ht⟩ := template_of_valid hv hk
  subst hvn
  refine ⟨rfl, ht, ?_⟩
  rw [he, attrDecls_none false a vals hk]
  rfl

/-- the five clauses are exhaustive -/
theorem helpers_cases (a : Attribute) :
    ((a.typ = .string ∨ a.typ = .octets) ∧ (concatenated a = false ∨ concatenated a = true))
    ∨ (∃ n, intBits a.typ = some n)
    ∨ (a.typ = .ipaddr ∨ a.typ = .ipv6addr ∨ a.typ = .ipv6prefix ∨ a.typ = .ifid ∨ a.typ = .date ∨ a.typ = .byte)
    ∨ hasTemplate a.typ = false := by
  obtain ⟨name, oid, typ, size, enc, tag, cc⟩ := a
  cases typ <;> simp [intBits, hasTemplate, stringy, isIPKind, isIntKind]
  all_goals (cases concatenated _ <;> simp)

/-- names and sorts of declaration: each declaration of `a` is the sort of declaration its role says and is
    named `<Identifier><suffix of the role>`, a constant `<Identifier>_Value_<identifier of the VALUE>` -/
theorem helper_names {d : Dictionary} {o : Options} {out : Output} {vendor : Bool} {a : Attribute} {vs : List Value}
    (hacc : generate Cfg.repaired d o = .ok out) (hin : AttrIn d vendor a vs) (hi : a.name ∉ o.ignore) :
    ∀ dc ∈ declsOf out vendor a, dc.kind = dc.role.kind ∧
      ((dc.role ≠ .valueConst ∧ dc.name = identifier a.name ++ bs dc.role.suffix) ∨
       (dc.role = .valueConst ∧ ∃ v ∈ attrValues a.name (sortValues vs),
          dc.name = identifier a.name ++ bs "_Value_" ++ identifier v.name)) := by
  obtain ⟨vals, he, hvals, _⟩ := declsOf_eq hacc hin hi
  intro dc hdc
  rw [he] at hdc
  rcases List.mem_append.1 hdc with hdc | hdc
  · cases vendor
    · simp only [Bool.false_eq_true, if_false, List.mem_singleton] at hdc
      subst hdc
      exact ⟨rfl, Or.inl ⟨by simp [typeConstDecl], rfl⟩⟩
    · simp at hdc
  · have hf := attrDecls_for vendor a vals dc hdc
    refine ⟨hf.kind, ?_⟩
    by_cases hvc : dc.role = .valueConst
    · right
      rw [← hvals]
      exact ⟨hvc, hf.const hvc⟩
    · exact Or.inl ⟨hvc, hf.name hvc⟩

/-- `declsOf out vendor a` is the union of the output's sections of that origin -/
theorem mem_declsOf {out : Output} {vendor : Bool} {a : Attribute} {dc : Decl} :
    dc ∈ declsOf out vendor a ↔ ∃ s ∈ out.sections, s.1 = .attr vendor a ∧ dc ∈ s.2 := by
  simp only [declsOf, List.mem_flatMap, List.mem_filter, beq_iff_eq]
  constructor
  · rintro ⟨s, ⟨hs, ho⟩, hd⟩; exact ⟨s, hs, ho, hd⟩
  · rintro ⟨s, hs, ho, hd⟩; exact ⟨s, ⟨hs, ho⟩, hd⟩

/-- a tag parameter exactly when the attribute is tagged: over EVERY declaration emitted for ANY attribute
    (top-level or vendor) of an accepted dictionary, a declaration carries a tag iff the attribute is tagged
    and the declaration is one of Add/Set/Get/Gets/Lookup (or a `String` variant); Del, the `_Type` constant,
    the value type, its constants, `_Strings` and `String()` never do -/
theorem tag_param {d : Dictionary} {o : Options} {out : Output} (hacc : generate Cfg.repaired d o = .ok out) :
    ∀ s ∈ out.sections, ∀ (vendor : Bool) (a : Attribute), s.1 = .attr vendor a → ∀ dc ∈ s.2,
      (hasTagParam dc = true ↔ (tagged a = true ∧ (dc.role.isWriter || dc.role.isReader) = true)) := by
  obtain ⟨evs, F⟩ := runFacts hacc
  intro s hs vendor a ho dc hdc
  obtain ⟨hv, _, _, hsec⟩ := section_attr_facts F hs ho
  rcases hsec with hsec | ⟨vals, hsec⟩
  · rw [hsec, List.mem_singleton] at hdc
    subst hdc
    simp [typeConstDecl, hasTagParam, Role.isWriter, Role.isReader]
  · rw [hsec] at hdc
    rw [attrDecls_tag vals hv dc hdc, Bool.and_eq_true, and_comm]

/-- a request-packet parameter exactly when the attribute is salt-encrypted (`encrypt=2`): over every
    declaration emitted for any attribute of an accepted dictionary, the parameters are `(p, q *radius.Packet)`
    iff the attribute is salt-encrypted and the declaration is one of Get/Gets/Lookup (or a `String` variant) -/
theorem request_param {d : Dictionary} {o : Options} {out : Output} (hacc : generate Cfg.repaired d o = .ok out) :
    ∀ s ∈ out.sections, ∀ (vendor : Bool) (a : Attribute), s.1 = .attr vendor a → ∀ dc ∈ s.2,
      (hasRequestParam dc = true ↔ (salted a = true ∧ dc.role.isReader = true)) := by
  obtain ⟨evs, F⟩ := runFacts hacc
  intro s hs vendor a ho dc hdc
  obtain ⟨hv, _, _, hsec⟩ := section_attr_facts F hs ho
  rcases hsec with hsec | ⟨vals, hsec⟩
  · rw [hsec, List.mem_singleton] at hdc
    subst hdc
    simp [typeConstDecl, hasRequestParam, Role.isReader]
  · rw [hsec] at hdc
    rw [attrDecls_req vals hv (salted_kind_of_valid rfl hv) dc hdc, Bool.and_eq_true, and_comm]

/-- the remaining sections (vendor identifiers, the private vendor helpers, external VALUE constants and
    their `init`) carry neither -/
theorem other_sections_no_param {cfg : Cfg} {d : Dictionary} {o : Options} {out : Output} (hacc : generate cfg d o = .ok out) :
    ∀ s ∈ out.sections, (∀ vendor a, s.1 ≠ .attr vendor a) → ∀ dc ∈ s.2, hasTagParam dc = false ∧ hasRequestParam dc = false := by
  obtain ⟨seen, evs0, vimps, _, _, _, _, hsec, _⟩ := generate_ok hacc
  intro s hs ho dc hdc
  rw [hsec] at hs
  rcases mem_gSections hs with ⟨b, hb, rfl⟩ | ⟨v, _, rfl⟩ | ⟨e, _, rfl⟩ | ⟨b, hb, rfl⟩ | ⟨v, _, rfl⟩ | ⟨v, hv, b, hb, rfl⟩
  · exact absurd rfl (ho false b)
  · rw [List.mem_singleton] at hdc
    subst hdc
    simp [hasTagParam, hasRequestParam, Role.isWriter]
  · rcases List.mem_cons.1 hdc with rfl | hdc
    · simp [hasTagParam, hasRequestParam, Role.isWriter]
    · obtain ⟨x, _, rfl⟩ := List.mem_map.1 hdc
      simp [hasTagParam, hasRequestParam, Role.isWriter]
  · exact absurd rfl (ho false b)
  · simp only [vendorHelperDecls, List.mem_cons, List.not_mem_nil, or_false] at hdc
    rcases hdc with rfl | rfl | rfl | rfl | rfl | rfl <;> simp [hasTagParam, hasRequestParam, Role.isWriter]
  · exact absurd rfl (ho true b)

/-- `ATTRIBUTE X 1 date encrypt=2` -/
def witnessDateSalt : Dictionary := { attributes := [{ name := bs "X", oid := [1], typ := .date, encrypt := some 2 }] }

/-- as found (#18) the request-packet clause fails on the OUTPUT too: `date encrypt=2` is accepted and its
    `_Get` takes one packet -/
example : (match generate Cfg.asIs witnessDateSalt ⟨[], []⟩ with
    | .ok out => out.decls.any (fun dc => dc.role == .get && !hasRequestParam dc)
    | .error _ => false) = true := by decide +kernel

def wText : Attribute := { name := bs "User-Name", oid := [1], typ := .string }
def wConcat : Attribute := { name := bs "EAP-Message", oid := [79], typ := .octets, isConcat := some true }
def wInt : Attribute := { name := bs "Service-Type", oid := [6], typ := .integer }
def wIP : Attribute := { name := bs "Framed-IP-Address", oid := [8], typ := .ipaddr }
def wVSA : Attribute := { name := bs "Vendor-Specific", oid := [26], typ := .vsa }
def wTunnel : Attribute := { name := bs "Tunnel-Password", oid := [69], typ := .string, encrypt := some 2, hasTag := some true }
def wOld : Attribute := { name := bs "Old", oid := [99], typ := .string }
def wVInt : Attribute := { name := bs "Acme-Level", oid := [1], typ := .short }
def wVText : Attribute := { name := bs "Acme-Note", oid := [2], typ := .octets, hasTag := some true }
def wVDate : Attribute := { name := bs "Acme-When", oid := [3], typ := .date }
def wVendor : Vendor :=
  { name := bs "Acme", number := 9, attributes := [wVDate, wVInt, wVText],
    values := [⟨bs "Acme-Level", bs "High", 2⟩, ⟨bs "Acme-Level", bs "Low", 1⟩] }

/-- top-level attributes of every kind, one of them ignored, VALUEs with a repeated number, a VALUE of an
    external attribute, a vendor with attributes of three kinds -/
def witnessShape : Dictionary :=
  { attributes := [wTunnel, wText, wConcat, wInt, wIP, wVSA, wOld],
    values := [⟨bs "Service-Type", bs "Login-User", 1⟩, ⟨bs "Service-Type", bs "Framed-User", 2⟩,
               ⟨bs "Service-Type", bs "Login", 1⟩, ⟨bs "Ext-Attr", bs "On", 1⟩],
    vendors := [wVendor] }
def witnessOpts : Options := ⟨[bs "Old"], [(bs "Ext-Attr", bs "example.com/ext")]⟩

def witnessOut : Output := match generate Cfg.repaired witnessShape witnessOpts with | .ok out => out | .error _ => ⟨[], []⟩

theorem witness_ok : generate Cfg.repaired witnessShape witnessOpts = .ok witnessOut := by
  have h : (generate Cfg.repaired witnessShape witnessOpts).toOption.isSome = true := by decide +kernel
  unfold witnessOut
  revert h
  cases generate Cfg.repaired witnessShape witnessOpts with
  | ok out => intro _; rfl
  | error e => intro h; cases h

example : (declsOf witnessOut false wText).map (·.role) =
    [.typeConst, .add, .addString, .get, .getString, .gets, .getStrings, .lookup, .lookupString, .set, .setString, .del] :=
  helpers_text witness_ok (Or.inl ⟨rfl, .tail _ (.head _), rfl⟩) (by decide) (Or.inl rfl) rfl
example : (declsOf witnessOut true wVText).map (·.role) =
    [.add, .addString, .get, .getString, .gets, .getStrings, .lookup, .lookupString, .set, .setString, .del] :=
  helpers_text witness_ok (Or.inr ⟨rfl, wVendor, .head _, .tail _ (.tail _ (.head _)), rfl⟩) (by decide) (Or.inr rfl) rfl
example : (declsOf witnessOut false wConcat).map (·.role) = [.typeConst, .get, .getString, .lookup, .lookupString, .set, .setString, .del] :=
  (helpers_concat witness_ok (Or.inl ⟨rfl, .tail _ (.tail _ (.head _)), rfl⟩) (by decide) (Or.inr rfl) rfl).2
example : ((declsOf witnessOut false wInt).filter (·.role == .valueConst)).map (·.name) =
    [bs "ServiceType_Value_Login", bs "ServiceType_Value_FramedUser"] := by decide +kernel
example := (helpers_integer (vs := witnessShape.values) witness_ok (Or.inl ⟨rfl, .tail _ (.tail _ (.tail _ (.head _))), rfl⟩) (by decide : wInt.name ∉ witnessOpts.ignore) 32 rfl).1
example := (helpers_integer (vs := wVendor.values) witness_ok (Or.inr ⟨rfl, wVendor, .head _, .tail _ (.head _), rfl⟩) (by decide : wVInt.name ∉ witnessOpts.ignore) 16 rfl).1
example : (declsOf witnessOut false wIP).map (·.role) = [.typeConst, .add, .get, .gets, .lookup, .set, .del] :=
  helpers_other witness_ok (Or.inl ⟨rfl, .tail _ (.tail _ (.tail _ (.tail _ (.head _)))), rfl⟩) (by decide) (Or.inl rfl)
example : (declsOf witnessOut true wVDate).map (·.role) = [.add, .get, .gets, .lookup, .set, .del] :=
  helpers_other witness_ok (Or.inr ⟨rfl, wVendor, .head _, .head _, rfl⟩) (by decide) (by decide)
example : declsOf witnessOut false wVSA = [typeConstDecl wVSA] :=
  (helpers_none witness_ok (Or.inl ⟨rfl, .tail _ (.tail _ (.tail _ (.tail _ (.tail _ (.head _))))), rfl⟩) (by decide) rfl).2.2
example := helper_names (vs := witnessShape.values) witness_ok (Or.inl ⟨rfl, .tail _ (.tail _ (.tail _ (.head _))), rfl⟩) (by decide : wInt.name ∉ witnessOpts.ignore)
/-- the output has tagged and untagged, salted and unsalted helpers, of top-level and of vendor attributes -/
example : witnessOut.sections.any (fun s => s.1 == .attr false wTunnel && s.2.any hasTagParam && s.2.any hasRequestParam) = true
    ∧ witnessOut.sections.any (fun s => s.1 == .attr true wVText && s.2.any hasTagParam && !s.2.any hasRequestParam) = true
    ∧ witnessOut.sections.any (fun s => s.1 == .attr false wText && !s.2.any hasTagParam) = true := by decide +kernel
example := tag_param witness_ok
example := request_param witness_ok

/-- no group of declarations originates from an ATTRIBUTE on the ignore list, and no constant from a
    VALUE of an attribute on the ignore list -/
def ignored_emit_nothing_full (cfg : Cfg) : Prop :=
  ∀ (d : Dictionary) (o : Options) (out : Output), generate cfg d o = .ok out →
    ∀ s ∈ out.sections, match s.1 with
      | .attr _ a => a.name ∉ o.ignore
      | _ => True

/-- the shape of rfc4679: `VENDOR V 9`, inside it `ATTRIBUTE X 255.1 octets`, generated with `-ignore X` -/
def witnessIgnored : Dictionary :=
  { vendors := [{ name := bs "V", number := 9, attributes := [{ name := bs "X", oid := [255, 1], typ := .octets }] }] }

/-- an ignored vendor attribute still gets its helpers from the code as found -/
theorem ignored_emit_nothing_counterexample : ¬ ignored_emit_nothing_full Cfg.asIs := by
  intro h
  obtain ⟨out, hg, hd⟩ := exists_ok_of_test (x := generate Cfg.asIs witnessIgnored ⟨[bs "X"], []⟩)
    (P := fun out => out.sections.any (fun s => match s.1 with | .attr _ a => [bs "X"].contains a.name | _ => false))
    (by decide +kernel)
  obtain ⟨s, hs, hbad⟩ := List.any_eq_true.mp hd
  have hgood := h _ _ out hg s hs
  cases hs1 : s.1 with
  | attr v a => rw [hs1] at hbad hgood; exact hgood (by simpa using hbad)
  | vendor n => rw [hs1] at hbad; simp at hbad
  | ext n => rw [hs1] at hbad; simp at hbad

/-- as found, the clause holds for top-level attributes -/
theorem ignored_emit_nothing_partial (d : Dictionary) (o : Options) (out : Output)
    (h : generate Cfg.asIs d o = .ok out) :
    ∀ s ∈ out.sections, ∀ a, s.1 = .attr false a → a.name ∉ o.ignore :=
  fun s hs a hsa => Gen.ignored_of Cfg.asIs d o out h s hs false a hsa (Or.inl rfl)

/-- repaired (proposed_fixes/03): nothing is emitted for an attribute on the ignore list, inside VENDOR
    blocks too -/
theorem ignored_emit_nothing_repaired : ignored_emit_nothing_full Cfg.repaired := by
  intro d o out h s hs
  split
  · rename_i vendor a hsa
    exact Gen.ignored_of Cfg.repaired d o out h s hs vendor a hsa (Or.inr rfl)
  · trivial

def imports_exact_full (cfg : Cfg) : Prop :=
  ∀ (d : Dictionary) (o : Options) (out : Output), generate cfg d o = .ok out →
    ∀ i, (∀ p, i ≠ Imp.dot p) → (i ∈ out.imports ↔ i ∈ neededImports out.sections)

/-- `ATTRIBUTE X 1 date encrypt=2` -/
def witnessImports : Dictionary := { attributes := [{ name := bs "X", oid := [1], typ := .date, encrypt := some 2 }] }

/-- #18: `crypto/rand` is imported for `date encrypt=2` and nothing uses it -/
theorem imports_exact_counterexample : ¬ imports_exact_full Cfg.asIs := by
  intro h
  obtain ⟨out, hg, hd⟩ := exists_ok_of_test (x := generate Cfg.asIs witnessImports ⟨[], []⟩)
    (P := fun out => out.imports.contains (Imp.std (bs "crypto/rand")) && !(neededImports out.sections).contains (Imp.std (bs "crypto/rand")))
    (by decide +kernel)
  have hiff := h _ _ out hg (Imp.std (bs "crypto/rand")) (by intro p hp; cases hp)
  simp only [Bool.and_eq_true, Bool.not_eq_true', List.contains_eq_mem, decide_eq_true_eq, decide_eq_false_iff_not] at hd
  exact hd.2 (hiff.mp hd.1)

/-- as found: declared = used, in both directions, provided no vendor attribute is on the ignore list (`hi`)
    and `encrypt=` stands only on kinds whose template implements it (`he`) -/
theorem imports_exact_partial (d : Dictionary) (o : Options) (out : Output)
    (h : generate Cfg.asIs d o = .ok out)
    (hi : ∀ v ∈ d.vendors, ∀ a ∈ v.attributes, a.name ∉ o.ignore)
    (he : ∀ a, (a ∈ d.attributes ∨ ∃ v ∈ d.vendors, a ∈ v.attributes) → encryptSupported a = true) :
    ∀ i, (∀ p, i ≠ Imp.dot p) → (i ∈ out.imports ↔ i ∈ neededImports out.sections) :=
  Gen.imports_exact_of Cfg.asIs d o out h (Or.inr hi) (Or.inr he)

/-- repaired: the import list is exactly what the emitted helpers refer to (dot imports: `dot_imports_exact`) -/
theorem imports_exact_repaired : imports_exact_full Cfg.repaired :=
  fun d o out h => Gen.imports_exact_of Cfg.repaired d o out h (Or.inl rfl) (Or.inl rfl)

/-- `imports_exact_*` is an equivalence (every import the sections need is imported AND nothing else is), but
    it leaves the dot imports aside.  Those are exact too, for every `cfg`: the package of a `-ref` option
    is dot-imported exactly when the output declares at least one constant of that external attribute
    (an unused dot import would not compile).  `ExternalAttributes` is a Go map: keys are distinct. -/
theorem dot_imports_exact (cfg : Cfg) (d : Dictionary) (o : Options) (out : Output) (h : generate cfg d o = .ok out)
    (hd : (o.refs.map (·.1)).Nodup) (p : Bytes) :
    Imp.dot p ∈ out.imports ↔
      ∃ r ∈ o.refs, r.2 = p ∧ ∃ s ∈ out.sections, s.1 = .ext r.1 ∧ ∃ dc ∈ s.2, dc.role = .extValue := by
  obtain ⟨seen, evs0, vimps, _, _, _, _, hsec, himp, _⟩ := generate_ok h
  have memE : ∀ e, e ∈ gExts o ↔ e ∈ o.refs := fun e => mem_sortStable _ _ _
  have h1 : Imp.dot p ∈ out.imports ↔ ∃ e ∈ gExts o, gExtVals cfg d o e ≠ [] ∧ e.2 = p := by
    rw [himp]
    simp only [List.mem_append, List.mem_filter, List.mem_map, Imp.dot.injEq, exists_eq_right, mem_dedupBytes]
    constructor
    · rintro (((hstd | hrad) | hrfc) | hdot)
      · exfalso
        have := hstd.1
        simp [stdImports] at this
      · exfalso
        split at hrad <;> simp at hrad
      · exfalso
        split at hrfc <;> simp at hrfc
      · obtain ⟨e, ⟨he, hne⟩, hp⟩ := hdot
        exact ⟨e, he, by simpa using hne, hp⟩
    · rintro ⟨e, he, hne, hp⟩
      exact Or.inr ⟨e, ⟨he, by simpa using hne⟩, hp⟩
  rw [h1]
  constructor
  · rintro ⟨e, he, hne, hp⟩
    have hsm : (Origin.ext e.1, (⟨.func, .extInit, bs "init", [], []⟩ : Decl)
        :: (gExtVals cfg d o e).map (fun v => (⟨.const, .extValue, identifier v.attrName ++ bs "_Value_" ++ identifier v.name, [], [.named (identifier v.attrName)]⟩ : Decl)))
        ∈ out.sections := by
      rw [hsec]
      simp only [gSections, sectionsOf, List.mem_append, List.mem_map]
      exact Or.inl (Or.inl (Or.inr ⟨e, he, rfl⟩))
    refine ⟨e, (memE e).1 he, hp, _, hsm, rfl, ?_⟩
    · obtain ⟨x, hx⟩ := List.exists_mem_of_ne_nil _ hne
      exact ⟨_, List.mem_cons_of_mem _ (List.mem_map_of_mem hx), rfl⟩
  · rintro ⟨r, hr, hp, s, hs, ho, dc, hdc, hrole⟩
    rw [hsec] at hs
    rcases mem_gSections hs with ⟨b, hb, rfl⟩ | ⟨v, _, rfl⟩ | ⟨e, he, rfl⟩ | ⟨b, hb, rfl⟩ | ⟨v, _, rfl⟩ | ⟨v, hv, b, hb, rfl⟩
    · cases ho
    · cases ho
    · have he1 : e.1 = r.1 := Origin.ext.inj ho
      have her : e = r := nodup_map_inj hd ((memE e).1 he) hr he1
      subst her
      refine ⟨e, he, ?_, hp⟩
      rcases List.mem_cons.1 hdc with rfl | hdc
      · cases hrole
      · obtain ⟨x, hx, _⟩ := List.mem_map.1 hdc
        exact List.ne_nil_of_mem hx
    · cases ho
    · cases ho
    · cases ho

/-- no package is imported twice -/
theorem imports_nodup (cfg : Cfg) (d : Dictionary) (o : Options) (out : Output) (h : generate cfg d o = .ok out) :
    out.imports.Nodup := by
  obtain ⟨seen, evs0, vimps, _, _, _, _, _, himp, _⟩ := generate_ok h
  rw [himp]
  have hstd : stdImports.Nodup := by decide
  have hstdm : ∀ i ∈ stdImports, ∃ q, i = Imp.std q := by
    intro i hi
    simp only [stdImports, List.mem_cons, List.not_mem_nil, or_false] at hi
    rcases hi with rfl | rfl | rfl | rfl | rfl <;> exact ⟨_, rfl⟩
  rw [List.nodup_append, List.nodup_append, List.nodup_append]
  refine ⟨⟨⟨hstd.sublist List.filter_sublist, by split <;> simp, ?_⟩, by split <;> simp, ?_⟩, ?_, ?_⟩
  · intro a ha b hb
    obtain ⟨q, rfl⟩ := hstdm a (List.mem_filter.1 ha).1
    split at hb <;> simp at hb
    subst hb
    simp
  · intro a ha b hb
    split at hb <;> simp at hb
    subst hb
    rcases List.mem_append.1 ha with ha | ha
    · obtain ⟨q, rfl⟩ := hstdm a (List.mem_filter.1 ha).1
      simp
    · split at ha <;> simp at ha
      subst ha
      simp
  · rw [List.Nodup, List.pairwise_map]
    exact (dedupBytes_nodup _).imp (fun hne e => hne (Imp.dot.inj e))
  · intro a ha b hb
    obtain ⟨q, _, rfl⟩ := List.mem_map.1 hb
    rcases List.mem_append.1 ha with ha | ha
    · rcases List.mem_append.1 ha with ha | ha
      · obtain ⟨q', rfl⟩ := hstdm a (List.mem_filter.1 ha).1
        simp
      · split at ha <;> simp at ha
        subst ha
        simp
    · split at ha <;> simp at ha
      subst ha
      simp

example : (witnessOpts.refs.map (·.1)).Nodup := by decide
example : Imp.dot (bs "example.com/ext") ∈ witnessOut.imports := by decide +kernel
example := (dot_imports_exact _ _ _ _ witness_ok (by decide) (bs "example.com/ext")).1 (by decide +kernel)
/-- a `-ref` option none of whose VALUEs occurs is not imported -/
example : (match generate Cfg.repaired witnessShape ⟨[bs "Old"], [(bs "Ext-Attr", bs "example.com/ext"), (bs "Unused", bs "example.com/unused")]⟩ with
    | .ok out => !out.imports.contains (Imp.dot (bs "example.com/unused")) && out.imports.contains (Imp.dot (bs "example.com/ext"))
    | .error _ => false) = true := by decide +kernel

/-- the `-ref` options are usable: every external attribute name normalises to an exported identifier,
    no two of them to the same one (ExternalAttributes is a Go map, so the names themselves are distinct),
    and none shares its identifier with a declared attribute (the external type is dot-imported) -/
def extWellFormed (d : Dictionary) (o : Options) : Prop :=
  (∀ r ∈ o.refs, ∀ a, (a ∈ d.attributes ∨ ∃ v ∈ d.vendors, a ∈ v.attributes) → identifier r.1 ≠ identifier a.name)
  ∧ (∀ r ∈ o.refs, exportedIdent (identifier r.1) = true)
  ∧ (o.refs.map (fun r => identifier r.1)).Nodup

def idents_unique_full (cfg : Cfg) : Prop :=
  ∀ (d : Dictionary) (o : Options) (out : Output), generate cfg d o = .ok out → extWellFormed d o →
    (declaredNames out).Nodup

/-- `ATTRIBUTE A 1 integer`, `VALUE A x-y 1`, `VALUE A x_y 2` -/
def witnessValues : Dictionary :=
  { attributes := [{ name := bs "A", oid := [1], typ := .integer }], values := [⟨bs "A", bs "x-y", 1⟩, ⟨bs "A", bs "x_y", 2⟩] }

/-- `VENDOR V-1 1`, `VENDOR V_1 2` -/
def witnessVendors : Dictionary := { vendors := [{ name := bs "V-1", number := 1 }, { name := bs "V_1", number := 2 }] }

/-- #15: two VALUEs of one attribute whose names normalise to the same identifier -/
theorem idents_unique_counterexample : ¬ idents_unique_full Cfg.asIs := by
  intro h
  obtain ⟨out, hg, hd⟩ := exists_ok_of_test (x := generate Cfg.asIs witnessValues ⟨[], []⟩)
    (P := fun out => !decide (declaredNames out).Nodup) (by decide +kernel)
  have := h _ _ out hg ⟨(by intro r hr; cases hr), (by intro r hr; cases hr), List.nodup_nil⟩
  simp [this] at hd

/-- #15, vendors: two vendors whose names normalise to the same identifier -/
theorem idents_unique_counterexample_vendor : ¬ idents_unique_full Cfg.asIs := by
  intro h
  obtain ⟨out, hg, hd⟩ := exists_ok_of_test (x := generate Cfg.asIs witnessVendors ⟨[], []⟩)
    (P := fun out => !decide (declaredNames out).Nodup) (by decide +kernel)
  have := h _ _ out hg ⟨(by intro r hr; cases hr), (by intro r hr; cases hr), List.nodup_nil⟩
  simp [this] at hd

/-- as found, the clause holds for dictionaries of top-level attributes without VALUE lines, vendors and
    `-ref` options (the collision check of the validity loop covers exactly the attribute identifiers).
    `hexp` is not used. -/
theorem idents_unique_partial (d : Dictionary) (o : Options) (out : Output)
    (h : generate Cfg.asIs d o = .ok out)
    (hvend : d.vendors = []) (hvals : d.values = []) (hrefs : o.refs = [])
    (hexp : ∀ a ∈ d.attributes, exportedIdent (identifier a.name) = true) :
    (declaredNames out).Nodup :=
  Gen.idents_unique_partial' d o out h hvend hvals hrefs hexp

/-- repaired (#15): with usable `-ref` options, no two declarations of the generated file share a name -/
theorem idents_unique_repaired : idents_unique_full Cfg.repaired :=
  fun d o out h hw => Gen.idents_unique_repaired' d o out h hw.1 hw.2.1 hw.2.2

/-- what `declaredNames` (hence `idents_unique_*`) covers: the name of EVERY declaration of the output —
    `_Type` constants, vendor identifiers, the private vendor helper functions, value types, value constants,
    `_Strings` maps, `String` methods, helper functions, constants of external attributes — with the one
    exception Go allows to repeat, the `init` functions -/
theorem declaredNames_covers (out : Output) :
    ∀ dc ∈ out.decls, dc.role ≠ .extInit → dc.name ∈ declaredNames out := by
  intro dc hdc hr
  exact List.mem_map.2 ⟨dc, List.mem_filter.2 ⟨hdc, by simpa using hr⟩, rfl⟩

/-- … and the exception is exactly the `init` functions -/
theorem extInit_is_init (cfg : Cfg) (d : Dictionary) (o : Options) (out : Output) (h : generate cfg d o = .ok out) :
    ∀ dc ∈ out.decls, dc.role = .extInit → dc = ⟨.func, .extInit, bs "init", [], []⟩ := by
  obtain ⟨seen, evs0, vimps, _, _, _, _, hsec, _⟩ := generate_ok h
  intro dc hdc hr
  obtain ⟨s, hs, hdc⟩ := List.mem_flatMap.1 hdc
  rw [hsec] at hs
  rcases mem_gSections hs with ⟨b, hb, rfl⟩ | ⟨v, _, rfl⟩ | ⟨e, he, rfl⟩ | ⟨b, hb, rfl⟩ | ⟨v, _, rfl⟩ | ⟨v, hv, b, hb, rfl⟩
  · rw [List.mem_singleton] at hdc
    subst hdc
    cases hr
  · rw [List.mem_singleton] at hdc
    subst hdc
    cases hr
  · rcases List.mem_cons.1 hdc with rfl | hdc
    · rfl
    · obtain ⟨x, _, rfl⟩ := List.mem_map.1 hdc
      cases hr
  · exact absurd hr (attrDecls_for false b _ dc hdc).role.2
  · simp only [vendorHelperDecls, List.mem_cons, List.not_mem_nil, or_false] at hdc
    rcases hdc with rfl | rfl | rfl | rfl | rfl | rfl <;> cases hr
  · exact absurd hr (attrDecls_for true b _ dc hdc).role.2

theorem goIdent_lexes (n : Bytes) (h : goIdent n = true) : lexesAsIdent n = true := by
  simp only [goIdent, Bool.and_eq_true] at h
  exact h.1.2

/-- every declared name of an accepted dictionary is a well-formed Go identifier (`goIdent`: non-empty,
    ASCII letters, digits and `_`, not starting with a digit — in particular `lexesAsIdent`), the method's
    name being `<value type>.String`.  No hypothesis on the `-ref` options: the model refuses (`Err.format`,
    as go/format does) a `-ref` name that normalises to something starting with a digit as soon as a VALUE
    is declared for it, and without a VALUE nothing is declared under that name. -/
theorem names_wellformed (d : Dictionary) (o : Options) (out : Output) (h : generate Cfg.repaired d o = .ok out) :
    ∀ dc ∈ out.decls, declNameOK dc := by
  obtain ⟨evs, F⟩ := runFacts h
  intro dc hdc
  obtain ⟨s, hs, hdc⟩ := List.mem_flatMap.1 hdc
  rw [F.secs] at hs
  rcases mem_gSections hs with ⟨b, hb, rfl⟩ | ⟨v, _, rfl⟩ | ⟨e, he, rfl⟩ | ⟨b, hb, rfl⟩ | ⟨v, _, rfl⟩ | ⟨v, hv, b, hb, rfl⟩
  · rw [List.mem_singleton] at hdc
    subst hdc
    exact (typeConst_names_ok b (F.attrsValid b hb).2).1
  · rw [List.mem_singleton] at hdc
    subst hdc
    unfold declNameOK
    rw [if_neg (by simp)]
    exact goIdent_us (x := identifier v.name ++ bs "_VendorID") (by rw [List.all_append, ident_word]; decide)
  · rcases List.mem_cons.1 hdc with rfl | hdc
    · unfold declNameOK
      rw [if_neg (by simp)]
      decide
    · obtain ⟨x, hx, rfl⟩ := List.mem_map.1 hdc
      have hxn : x.attrName = e.1 := route_ext (eq_of_beq (List.mem_filter.1 hx).2)
      unfold declNameOK
      rw [if_neg (by simp)]
      simp only
      rw [List.append_assoc, hxn]
      exact goIdent_append (ident_word _) (value_suffix_word _)
        (F.extNames e he (List.ne_nil_of_mem hx)) (fun _ => value_suffix_goIdent _)
  · exact (attrDecls_names_ok false b _ (F.attrsValid b hb).2 dc hdc).1
  · exact (vendorHelper_names_ok _ (ident_word _) dc hdc).1
  · exact (attrDecls_names_ok true b _ (F.evAttrsValid v hv b hb).2.1 dc hdc).1

example : ∀ r ∈ witnessOpts.refs, lexesAsIdent (identifier r.1) = true := by decide
example := names_wellformed _ _ _ witness_ok

/-- the format gate on `-ref` names, as observed on the Go side (dictionarygen.Generator.Generate with
    `ExternalAttributes = {NAME: "some/pkg"}` and one `VALUE NAME x 1`): `-ref -1=…` emits
    `1_Strings[1_Value_X] = "x"` / `1_Value_X 1 = 1`, which go/format refuses … -/
example : generate Cfg.repaired { values := [⟨bs "-1", bs "x", 1⟩] } ⟨[], [(bs "-1", bs "example.com/q")]⟩
    = .error .format := by decide +kernel
example : generate Cfg.asIs { values := [⟨bs "-1", bs "x", 1⟩] } ⟨[], [(bs "-1", bs "example.com/q")]⟩
    = .error .format := by decide +kernel
example : generate Cfg.repaired { values := [⟨bs "_1", bs "x", 1⟩] } ⟨[], [(bs "_1", bs "example.com/q")]⟩
    = .error .format := by decide +kernel
/-- … an ordinary `-ref` is accepted, with its constant and its dot import … -/
example : (match generate Cfg.repaired { values := [⟨bs "Ok-Name", bs "x", 1⟩] } ⟨[], [(bs "Ok-Name", bs "example.com/q")]⟩ with
    | .ok out => out.decls.any (fun dc => dc.name == bs "OkName_Value_X" && goIdent dc.name)
        && out.imports == [Imp.dot (bs "example.com/q")]
    | .error _ => false) = true := by decide +kernel
/-- … so are names whose FIRST byte is a digit (`1` ↦ `One`, `3Com` ↦ `ThreeCom`) … -/
example : (match generate Cfg.repaired { values := [⟨bs "1", bs "x", 1⟩, ⟨bs "3Com", bs "x", 1⟩] }
      ⟨[], [(bs "1", bs "example.com/q"), (bs "3Com", bs "example.com/r")]⟩ with
    | .ok out => out.decls.any (fun dc => dc.name == bs "One_Value_X") && out.decls.any (fun dc => dc.name == bs "ThreeCom_Value_X")
    | .error _ => false) = true := by decide +kernel
/-- … a name that normalises to the EMPTY identifier (`-ref -=…`: `_Strings[_Value_X] = "x"`, `_Value_X = 1`
    are Go) … -/
example : (match generate Cfg.repaired { values := [⟨bs "-", bs "x", 1⟩] } ⟨[], [(bs "-", bs "example.com/q")]⟩ with
    | .ok out => out.decls.any (fun dc => dc.name == bs "_Value_X" && goIdent dc.name)
    | .error _ => false) = true := by decide +kernel
/-- … and `-ref -1=…` when no VALUE line refers to it (only `func init() {}` and `const ()` are emitted) -/
example : (match generate Cfg.repaired {} ⟨[], [(bs "-1", bs "example.com/q")]⟩ with
    | .ok out => out.decls == [⟨.func, .extInit, bs "init", [], []⟩] && out.imports == []
    | .error _ => false) = true := by decide +kernel

/-- Everything declared for an ATTRIBUTE of an accepted dictionary (its `_Type` constant, helper functions,
    value type, named constants, `_Strings`, `String`) starts with the attribute's identifier, which is an
    upper-case ASCII letter followed by letters and digits: it is exported.  Everything declared for a VENDOR
    (`_<Identifier>_VendorID` and the six helpers `_<Identifier>_{New,Add,Gets,Lookup,Set,Del}Vendor`)
    starts with `_`: it is private to the package.  The section of an external attribute holds `init` and
    constants `<Identifier>_Value_…` (exported when the `-ref` name has an exported identifier). -/
theorem exported_names (d : Dictionary) (o : Options) (out : Output) (h : generate Cfg.repaired d o = .ok out) :
    ∀ s ∈ out.sections, ∀ dc ∈ s.2,
      match s.1 with
      | .attr _ a => exportedIdent dc.name = true ∧ identifier a.name <+: dc.name
      | .vendor n => dc.name.head? = some 95 ∧ (bs "_" ++ identifier n) <+: dc.name
      | .ext n => dc.name = bs "init" ∨ (identifier n ++ bs "_Value_") <+: dc.name := by
  obtain ⟨evs, F⟩ := runFacts h
  intro s hs dc hdc
  rw [F.secs] at hs
  rcases mem_gSections hs with ⟨b, hb, rfl⟩ | ⟨v, _, rfl⟩ | ⟨e, he, rfl⟩ | ⟨b, hb, rfl⟩ | ⟨v, _, rfl⟩ | ⟨v, hv, b, hb, rfl⟩
  · rw [List.mem_singleton] at hdc
    subst hdc
    exact (typeConst_names_ok b (F.attrsValid b hb).2).2
  · rw [List.mem_singleton] at hdc
    subst hdc
    exact ⟨rfl, by simp only [List.append_assoc]; exact List.prefix_append _ _⟩
  · rcases List.mem_cons.1 hdc with rfl | hdc
    · exact Or.inl rfl
    · obtain ⟨x, hx, rfl⟩ := List.mem_map.1 hdc
      have hxn : x.attrName = e.1 := route_ext (eq_of_beq (List.mem_filter.1 hx).2)
      right
      simp only
      rw [hxn]
      exact List.prefix_append _ _
  · exact (attrDecls_names_ok false b _ (F.attrsValid b hb).2 dc hdc).2
  · have hp := (vendorHelper_names_ok _ (ident_word v.name) dc hdc).2
    refine ⟨?_, hp⟩
    obtain ⟨t, ht⟩ := hp
    rw [← ht]
    rfl
  · exact (attrDecls_names_ok true b _ (F.evAttrsValid v hv b hb).2.1 dc hdc).2

/-- the part about attributes alone, as a property of `cfg` -/
def exported_names_full (cfg : Cfg) : Prop :=
  ∀ (d : Dictionary) (o : Options) (out : Output), generate cfg d o = .ok out →
    ∀ s ∈ out.sections, ∀ vendor a, s.1 = .attr vendor a → ∀ dc ∈ s.2, exportedIdent dc.name = true

/-- repaired: every declaration made for an attribute is exported -/
theorem exported_names_repaired : exported_names_full Cfg.repaired := by
  intro d o out h s hs vendor a ho dc hdc
  have := exported_names d o out h s hs dc hdc
  rw [ho] at this
  exact this.1

/-- `ATTRIBUTE -- 1 string`: the name normalises to the empty identifier -/
def witnessUnexported : Dictionary := { attributes := [{ name := bs "--", oid := [1], typ := .string }] }

/-- as found, `--` is accepted and its helpers are called `_Type`, `_Add`, …: not exported -/
theorem exported_names_counterexample : ¬ exported_names_full Cfg.asIs := by
  intro h
  obtain ⟨out, hg, hd⟩ := exists_ok_of_test (x := generate Cfg.asIs witnessUnexported ⟨[], []⟩)
    (P := fun out => out.sections.any (fun s => (match s.1 with | .attr _ _ => true | _ => false) && s.2.any (fun dc => !exportedIdent dc.name)))
    (by decide +kernel)
  obtain ⟨s, hs, hbad⟩ := List.any_eq_true.mp hd
  simp only [Bool.and_eq_true] at hbad
  obtain ⟨ho, hbad⟩ := hbad
  obtain ⟨dc, hdc, hne⟩ := List.any_eq_true.mp hbad
  cases hs1 : s.1 with
  | attr v a =>
    have := h _ _ out hg s hs v a hs1 dc hdc
    simp [this] at hne
  | vendor n => rw [hs1] at ho; simp at ho
  | ext n => rw [hs1] at ho; simp at ho

/-- as found, the clause holds for every attribute whose name has an exported identifier -/
theorem exported_names_partial (d : Dictionary) (o : Options) (out : Output) (h : generate Cfg.asIs d o = .ok out) :
    ∀ s ∈ out.sections, ∀ vendor a, s.1 = .attr vendor a → exportedIdent (identifier a.name) = true →
      ∀ dc ∈ s.2, exportedIdent dc.name = true := by
  obtain ⟨seen, evs0, vimps, _, _, _, _, hsec, _⟩ := generate_ok h
  intro s hs vendor a ho he dc hdc
  rw [hsec] at hs
  rcases mem_gSections hs with ⟨b, hb, rfl⟩ | ⟨v, _, rfl⟩ | ⟨e, _, rfl⟩ | ⟨b, hb, rfl⟩ | ⟨v, _, rfl⟩ | ⟨v, hv, b, hb, rfl⟩
  · cases ho
    rw [List.mem_singleton] at hdc
    subst hdc
    exact (typeConst_names_ok _ he).2.1
  · cases ho
  · cases ho
  · cases ho
    exact (attrDecls_names_ok false _ _ he dc hdc).2.1
  · cases ho
  · cases ho
    exact (attrDecls_names_ok true _ _ he dc hdc).2.1

example := exported_names _ _ _ witness_ok

/-- permuting ATTRIBUTE and VENDOR declarations changes neither whether Generate succeeds nor,
    if it does, anything about the output (imports, declarations, their order) -/
def perm_invariant_full (cfg : Cfg) : Prop :=
  ∀ (d₁ d₂ : Dictionary) (o : Options), PermRel d₁ d₂ → (generate cfg d₁ o).toOption = (generate cfg d₂ o).toOption

/-- #14: swapping two attributes swaps their helpers in the output of the code as found -/
theorem perm_invariant_counterexample : ¬ perm_invariant_full Cfg.asIs := by
  intro h
  have := h { attributes := [{ name := bs "B", oid := [2], typ := .string }, { name := bs "A", oid := [1], typ := .string }] }
            { attributes := [{ name := bs "A", oid := [1], typ := .string }, { name := bs "B", oid := [2], typ := .string }] }
            ⟨[], []⟩ ⟨List.Perm.swap _ _ _, rfl, [], .nil, .nil⟩
  exact absurd this (by decide +kernel)

/-- as found, whether Generate succeeds does not depend on the declaration order -/
theorem perm_invariant_partial (d₁ d₂ : Dictionary) (o : Options) (h : PermRel d₁ d₂) :
    accept Cfg.asIs d₁ o = accept Cfg.asIs d₂ o :=
  Gen.accept_perm' Cfg.asIs d₁ d₂ o h

/-- repaired (#14): the generated file does not depend on the order of the ATTRIBUTE and VENDOR lines -/
theorem perm_invariant_repaired : perm_invariant_full Cfg.repaired :=
  Gen.perm_invariant_repaired'

/-! ### Top-level attribute numbers (second audit, finding 1; fix 07e31b9 in /repo) -/

/-- the repaired validity rules refuse an attribute - top-level or vendor - whose number does not fit in one octet:
    the helpers would compile, and store values that `encodeTo` never puts on the wire (C12
    `survives_wire_needs_the_type_octet`) -/
theorem top_level_number_must_fit_the_type_octet (vendor : Bool) (a : Attribute) (n : Int) (ho : a.oid = [n])
    (hn : n < 0 ∨ 255 < n) : invalidAttr Cfg.current vendor a = true := by
  have h : (decide (n < 0) || decide (n > 255)) = true := by
    rcases hn with h | h <;> simp [h]
  simp [invalidAttr, Cfg.current, Cfg.repaired, ho, h]

/-- … conversely a number 0..255 alone never makes an attribute invalid (the other rules decide) -/
theorem number_in_range_is_not_the_reason (cfg : Cfg) (vendor : Bool) (a : Attribute) (n : Int) (ho : a.oid = [n])
    (hn : 0 ≤ n ∧ n ≤ 255) :
    invalidAttr cfg vendor a = invalidAttr { cfg with rejectRanges := false } vendor a := by
  have h : (decide (n < 0) || decide (n > 255)) = false := by
    simp only [Bool.or_eq_false_iff, decide_eq_false_iff_not]; omega
  simp [invalidAttr, ho, h]

/-- the code as found accepts `ATTRIBUTE Big-Num 300 string` at top level: nothing there checks the range of
    a top-level attribute number -/
theorem top_level_number_unchecked_as_found :
    invalidAttr Cfg.asIs false { name := bs "Big-Num", oid := [300], typ := .string } = false := by decide

end RV.C17
