/-
  C14 — vendor-specific helpers (_V_AddVendor / _V_GetsVendor / _V_LookupVendor / _V_SetVendor /
  _V_DelVendor emitted by dictionarygen/vendor.go) on arbitrary packets, including hostile ones.

  Specification vocabulary (defined model-free in RV/Proofs/Vendor.lean):
    `vsaParse p`      = (well-formed prefix of the payload as (type, value) pairs, residue)
    `vsaRender ps`    = wire form of a list of pairs
    `isVendorAttr vid a` = a has type 26, at least 5 bytes, and its first 4 bytes are `vid`
    `vsaWithout typ p`   = render (pairs of type ≠ typ) ++ residue
    `othersView vid typ as` = everything a Set/Del of (vid, typ) must preserve, in packet order
  Model side (RV.Model.Vendor): vsaGets, vsaDel, getsVendor, lookupVendor, addVendor, delVendor,
  setVendor — the Go loops.  All of them are total functions defined by structural / well-founded
  recursion without fuel, so termination on every input is part of their definition.
-/
import RV.Model.Vendor
import RV.Proofs.Vendor
import RV.Proofs.HelperImp
namespace RV.C14
open RV

/-! ### 1. the decomposition is lossless -/

/-- pairs and residue together are the payload, byte for byte -/
theorem parse_lossless (p : Bytes) : vsaRender (vsaParse p).1 ++ (vsaParse p).2 = p :=
  vsaParse_lossless p

/-- every pair of the well-formed prefix carries 1..253 value bytes, and the residue is where the
    walk stops (fewer than 3 bytes, or a length octet < 3 or beyond the end) -/
theorem parse_pairs_ok (p : Bytes) :
    (∀ q ∈ (vsaParse p).1, 1 ≤ q.2.length ∧ q.2.length ≤ 253) ∧
    vsaParse (vsaParse p).2 = ([], (vsaParse p).2) :=
  ⟨vsaParse_subOK p, vsaParse_stuck p⟩

/-- conversely any list of such pairs followed by a stuck residue parses to itself -/
theorem parse_render (ps : List (UInt8 × Bytes)) (r : Bytes)
    (hps : ∀ q ∈ ps, 1 ≤ q.2.length ∧ q.2.length ≤ 253) (hr : vsaParse r = ([], r)) :
    vsaParse (vsaRender ps ++ r) = (ps, r) :=
  vsaParse_render ps r hps hr

/-! ### 2. Gets / Lookup return exactly the matching sub-attributes of that vendor, in order -/

/-- inside one payload -/
theorem gets_spec (typ : UInt8) (p : Bytes) :
    vsaGets typ p = ((vsaParse p).1.filter (fun q => q.1 = typ)).map (·.2) :=
  vsaGets_eq typ p

/-- over the packet: only attributes of type 26 with at least 5 bytes whose vendor id matches
    contribute, in packet order -/
theorem getsVendor_spec (vid : Nat) (typ : UInt8) (as : Attrs) :
    getsVendor vid typ as =
      (as.filter (fun a => decide (a.typ = 26) && decide (5 ≤ a.val.length) &&
                           decide (beNat (a.val.take 4) = vid))).flatMap
        (fun a => ((vsaParse (a.val.drop 4)).1.filter (fun q => q.1 = typ)).map (·.2)) := by
  rw [getsVendor_eq]; simp only [vsaGets_eq]; rfl

/-- `_V_LookupVendor` returns the first of them -/
theorem lookup_spec (vid : Nat) (typ : UInt8) (as : Attrs) :
    lookupVendor vid typ as =
      ((as.filter (isVendorAttr vid)).flatMap
        (fun a => ((vsaParse (a.val.drop 4)).1.filter (fun q => q.1 = typ)).map (·.2))).head? := by
  rw [lookupVendor, getsVendor_eq]; simp only [vsaGets_eq]

/-- the recogniser the model uses is the specification's -/
theorem vendorPayload_spec (vid : Nat) (a : AVP) :
    vendorPayload vid a = if isVendorAttr vid a then some (a.val.drop 4) else none :=
  vendorPayload_eq vid a

/-! ### 3. Del inside one payload -/

/-- the removal loop keeps every other pair and the residue, and reports whether it removed one -/
theorem del_spec (typ : UInt8) (p : Bytes) :
    (vsaDel typ p).1 = vsaRender ((vsaParse p).1.filter (fun q => q.1 ≠ typ)) ++ (vsaParse p).2 ∧
    ((vsaDel typ p).2 = true ↔ ∃ q ∈ (vsaParse p).1, q.1 = typ) := by
  rw [vsaDel_eq]; simp

/-! ### 4. Add -/

/-- Add succeeds iff the value has 1..247 bytes (independently of the packet); otherwise it
    reports an error; it never panics -/
theorem add_ok_iff (vid : Nat) (typ : UInt8) (attr : Bytes) (as : Attrs) :
    (∃ as', addVendor vid typ attr as = .ok as') ↔ (1 ≤ attr.length ∧ attr.length ≤ 247) := by
  rw [addVendor_eq]; split <;> simp [*]

theorem add_err_iff (vid : Nat) (typ : UInt8) (attr : Bytes) (as : Attrs) :
    addVendor vid typ attr as = .err ↔ ¬ (1 ≤ attr.length ∧ attr.length ≤ 247) := by
  rw [addVendor_eq]; split <;> simp [*]

/-- Add appends exactly one attribute; it has type 26, at most 253 bytes, carries the vendor id,
    and its payload parses to exactly the one sub-attribute (typ, attr) with empty residue -/
theorem add_appends_wellformed (vid : Nat) (typ : UInt8) (attr : Bytes) (as as' : Attrs)
    (h : addVendor vid typ attr as = .ok as') :
    ∃ v, as' = as ++ [⟨26, v⟩] ∧ 5 ≤ v.length ∧ v.length ≤ 253 ∧ v.take 4 = beBytes 4 vid ∧
      v.drop 4 = vsaRender [(typ, attr)] ∧ vsaParse (v.drop 4) = ([(typ, attr)], []) ∧
      (vid < 2 ^ 32 → isVendorAttr vid ⟨26, v⟩ = true) := by
  rw [addVendor_eq] at h
  split at h
  · next hl =>
    cases h
    obtain ⟨h1, h2, h3, h4, h5, h6⟩ := newVsa_props vid typ attr hl
    refine ⟨_, rfl, h2, h1, h3, h4, h5, fun hv => ?_⟩
    rw [h6]; simp [Nat.mod_eq_of_lt hv]
  · cases h

/-- after Add, Gets returns the former values followed by the new one; the reads of every other
    (vendor, type) are unchanged -/
theorem add_then_gets (vid : Nat) (typ : UInt8) (attr : Bytes) (as as' : Attrs) (hvid : vid < 2 ^ 32)
    (h : addVendor vid typ attr as = .ok as') :
    getsVendor vid typ as' = getsVendor vid typ as ++ [attr] ∧
    ∀ vid' typ', (vid', typ') ≠ (vid, typ) → getsVendor vid' typ' as' = getsVendor vid' typ' as := by
  refine ⟨?_, fun vid' typ' hne => ?_⟩
  · rw [getsVendor_addVendor _ _ _ _ _ _ _ hvid h, if_pos ⟨rfl, rfl⟩]
  · rw [getsVendor_addVendor _ _ _ _ _ _ _ hvid h, if_neg (fun e => hne (Prod.ext e.1 e.2)), List.append_nil]

/-! ### 5. Set / Del: effect on the reads -/

/-- Set succeeds iff the value has 1..247 bytes — independently of the packet.  (The pure `setVendor`
    returns `.err` without a packet; what the packet holds after a refused Set is the subject of
    `failure_leaves_unchanged` below, about the imperative mirror.) -/
theorem set_ok_iff (vid : Nat) (typ : UInt8) (attr : Bytes) (as : Attrs) :
    (∃ as', setVendor vid typ attr as = .ok as') ↔ (1 ≤ attr.length ∧ attr.length ≤ 247) := by
  rw [setVendor_eq]; split <;> simp [*]

theorem set_err_iff (vid : Nat) (typ : UInt8) (attr : Bytes) (as : Attrs) :
    setVendor vid typ attr as = .err ↔ ¬ (1 ≤ attr.length ∧ attr.length ≤ 247) := by
  rw [setVendor_eq]; split <;> simp [*]

/-! #### "on failure leave the packet unchanged" — imperative mirror (RV/Model/HelperImp.lean)

    `Imp.setVendorImp` / `Imp.addVendorImp` / `Imp.delVendorS` are state-passing mirrors of
    `_V_SetVendor` / `_V_AddVendor` / `_V_DelVendor` in the Go statement order; they return the result
    AND the packet's attribute list afterwards, also on error. -/

/-- refinement: on success the imperative mirror ends in exactly the pure model's list -/
theorem setImp_ok_iff (vid : Nat) (typ : UInt8) (attr : Bytes) (as as' : Attrs) :
    Imp.setVendorImp vid typ attr as = (.ok (), as') ↔ setVendor vid typ attr as = .ok as' := by
  rw [Imp.setVendorImp_eq]; exact Imp.outcome_ok_iff _ _ _

theorem addImp_ok_iff (vid : Nat) (typ : UInt8) (attr : Bytes) (as as' : Attrs) :
    Imp.addVendorImp vid typ attr as = (.ok (), as') ↔ addVendor vid typ attr as = .ok as' := by
  rw [Imp.addVendorImp_eq]; exact Imp.outcome_ok_iff _ _ _

theorem delImp_eq (vid : Nat) (typ : UInt8) (as : Attrs) :
    Imp.delVendorS vid typ as = (.ok (), delVendor vid typ as) := rfl

/-- refinement, outcome classes -/
theorem setImp_err_iff (vid : Nat) (typ : UInt8) (attr : Bytes) (as : Attrs) :
    ((Imp.setVendorImp vid typ attr as).1 = .err ↔ setVendor vid typ attr as = .err) ∧
    ((Imp.setVendorImp vid typ attr as).1 = .fault ↔ setVendor vid typ attr as = .fault) := by
  rw [Imp.setVendorImp_eq]; exact ⟨Imp.outcome_err_iff _ _, Imp.outcome_fault_iff _ _⟩

theorem addImp_err_iff (vid : Nat) (typ : UInt8) (attr : Bytes) (as : Attrs) :
    ((Imp.addVendorImp vid typ attr as).1 = .err ↔ addVendor vid typ attr as = .err) ∧
    ((Imp.addVendorImp vid typ attr as).1 = .fault ↔ addVendor vid typ attr as = .fault) := by
  rw [Imp.addVendorImp_eq]; exact ⟨Imp.outcome_err_iff _ _, Imp.outcome_fault_iff _ _⟩

/-- "… and on failure leave the packet unchanged": for every vendor, type, value and prior packet,
    Set and Add either refuse (value not of 1..247 bytes) and the attribute list after the call IS
    the list before the call, or succeed and end in the pure model's list; whenever the result is
    not success the state is the initial state -/
theorem failure_leaves_unchanged (vid : Nat) (typ : UInt8) (attr : Bytes) (as : Attrs) :
    ((Imp.setVendorImp vid typ attr as = (.err, as) ∧ ¬ (1 ≤ attr.length ∧ attr.length ≤ 247)) ∨
      (∃ as', Imp.setVendorImp vid typ attr as = (.ok (), as') ∧ setVendor vid typ attr as = .ok as' ∧
        (1 ≤ attr.length ∧ attr.length ≤ 247))) ∧
    ((Imp.addVendorImp vid typ attr as = (.err, as) ∧ ¬ (1 ≤ attr.length ∧ attr.length ≤ 247)) ∨
      (∃ as', Imp.addVendorImp vid typ attr as = (.ok (), as') ∧ addVendor vid typ attr as = .ok as' ∧
        (1 ≤ attr.length ∧ attr.length ≤ 247))) ∧
    ((Imp.setVendorImp vid typ attr as).1 ≠ .ok () → (Imp.setVendorImp vid typ attr as).2 = as) ∧
    ((Imp.addVendorImp vid typ attr as).1 ≠ .ok () → (Imp.addVendorImp vid typ attr as).2 = as) := by
  refine ⟨?_, ?_, ?_, ?_⟩
  · rw [Imp.setVendorImp_eq, setVendor_eq]
    by_cases h : 1 ≤ attr.length ∧ attr.length ≤ 247
    · simp only [if_pos h]; exact Or.inr ⟨_, rfl, rfl, h⟩
    · simp only [if_neg h]; exact Or.inl ⟨rfl, h⟩
  · rw [Imp.addVendorImp_eq, addVendor_eq]
    by_cases h : 1 ≤ attr.length ∧ attr.length ≤ 247
    · simp only [if_pos h]; exact Or.inr ⟨_, rfl, rfl, h⟩
    · simp only [if_neg h]; exact Or.inl ⟨rfl, h⟩
  · rw [Imp.setVendorImp_eq]; exact Imp.outcome_unchanged _ _
  · rw [Imp.addVendorImp_eq]; exact Imp.outcome_unchanged _ _

/-- negative control: `_V_SetVendor` in the statement order it had before commit db9cf48 (removal first,
    then `_V_AddVendor`, whose encoding can fail).  After ANY refused Set the packet is the packet
    with the type's sub-attributes removed — so it differs from the initial one exactly when there
    was something to remove -/
theorem old_set_order_state_after_failure (vid : Nat) (typ : UInt8) (attr : Bytes) (as : Attrs)
    (h : ¬ (1 ≤ attr.length ∧ attr.length ≤ 247)) :
    Imp.setVendorOldImp vid typ attr as = (.err, delVendor vid typ as) := by
  rw [Imp.setVendorOldImp_eq, vendorAttr_eq, if_neg h]

/-- … concretely: one Vendor-Specific attribute holding the type, Set with an empty value -/
theorem old_set_order_changes_packet_on_failure :
    ∃ (vid : Nat) (typ : UInt8) (attr : Bytes) (as : Attrs),
      (Imp.setVendorOldImp vid typ attr as).1 = .err ∧ (Imp.setVendorOldImp vid typ attr as).2 ≠ as ∧
      Imp.setVendorImp vid typ attr as = (.err, as) :=
  ⟨9, 1, [], [⟨26, [0, 0, 0, 9, 1, 3, 0xAA, 2, 3, 0xBB]⟩],
    by decide +kernel, by decide +kernel, by decide +kernel⟩

/-- a successful Set is Del followed by Add of the same (already validated) attribute -/
theorem set_eq_del_add (vid : Nat) (typ : UInt8) (attr : Bytes) (as as' : Attrs)
    (h : setVendor vid typ attr as = .ok as') :
    addVendor vid typ attr (delVendor vid typ as) = .ok as' :=
  h

/-- neither Add nor Set ever panics -/
theorem never_faults (vid : Nat) (typ : UInt8) (attr : Bytes) (as : Attrs) :
    addVendor vid typ attr as ≠ .fault ∧ setVendor vid typ attr as ≠ .fault := by
  rw [addVendor_eq, setVendor_eq]; split <;> simp

/-- Del removes every occurrence -/
theorem del_none_left (vid : Nat) (typ : UInt8) (as : Attrs) :
    getsVendor vid typ (delVendor vid typ as) = [] ∧ lookupVendor vid typ (delVendor vid typ as) = none := by
  have : getsVendor vid typ (delVendor vid typ as) = [] := by rw [getsVendor_delVendor, if_pos ⟨rfl, rfl⟩]
  exact ⟨this, by rw [lookupVendor, this]; rfl⟩

/-- Set leaves exactly one occurrence, holding the new value, whatever the packet held before -/
theorem set_exactly_one (vid : Nat) (typ : UInt8) (attr : Bytes) (as as' : Attrs) (hvid : vid < 2 ^ 32)
    (h : setVendor vid typ attr as = .ok as') :
    getsVendor vid typ as' = [attr] ∧ lookupVendor vid typ as' = some attr := by
  have h1 : getsVendor vid typ as' = [attr] := by
    rw [getsVendor_setVendor _ _ _ _ _ _ _ hvid h, if_pos ⟨rfl, rfl⟩]
  exact ⟨h1, by rw [lookupVendor, h1]; rfl⟩

/-! ### 6. Set / Del preserve everything else, byte for byte and in order -/

/-- reads of every other (vendor, type) — same vendor and another type (sub-attributes sharing a
    Vendor-Specific attribute with a removed one), or another vendor — are unchanged by Del -/
theorem others_preserved_del (vid vid' : Nat) (typ typ' : UInt8) (as : Attrs)
    (hne : (vid', typ') ≠ (vid, typ)) :
    getsVendor vid' typ' (delVendor vid typ as) = getsVendor vid' typ' as := by
  rw [getsVendor_delVendor, if_neg (fun e => hne (Prod.ext e.1 e.2))]

/-- … and by Set -/
theorem others_preserved_set (vid vid' : Nat) (typ typ' : UInt8) (attr : Bytes) (as as' : Attrs)
    (hvid : vid < 2 ^ 32) (hne : (vid', typ') ≠ (vid, typ))
    (h : setVendor vid typ attr as = .ok as') :
    getsVendor vid' typ' as' = getsVendor vid' typ' as := by
  rw [getsVendor_setVendor _ _ _ _ _ _ _ hvid h, if_neg (fun e => hne (Prod.ext e.1 e.2))]

/-- the whole preserved view (foreign attributes verbatim; this vendor's payloads with only the
    type's sub-attributes taken out, malformed residues included; relative order of all of them)
    is unchanged by Del -/
theorem view_preserved_del (vid : Nat) (typ : UInt8) (as : Attrs) :
    othersView vid typ (delVendor vid typ as) = othersView vid typ as :=
  othersView_delVendor vid typ as

/-- … and by Set -/
theorem view_preserved_set (vid : Nat) (typ : UInt8) (attr : Bytes) (as as' : Attrs)
    (hvid : vid < 2 ^ 32) (h : setVendor vid typ attr as = .ok as') :
    othersView vid typ as' = othersView vid typ as :=
  othersView_setVendor vid typ attr as as' hvid h

/-- corollary: every attribute that is not a Vendor-Specific attribute of this vendor is kept
    unchanged and in order -/
theorem foreign_attrs_kept_del (vid : Nat) (typ : UInt8) (as : Attrs) :
    (delVendor vid typ as).filter (fun a => (vendorPayload vid a).isNone) =
      as.filter (fun a => (vendorPayload vid a).isNone) := by
  rw [vendorPayload_isNone]; exact foreign_of_othersView (othersView_delVendor vid typ as)

theorem foreign_attrs_kept_set (vid : Nat) (typ : UInt8) (attr : Bytes) (as as' : Attrs)
    (hvid : vid < 2 ^ 32) (h : setVendor vid typ attr as = .ok as') :
    as'.filter (fun a => (vendorPayload vid a).isNone) =
      as.filter (fun a => (vendorPayload vid a).isNone) := by
  rw [vendorPayload_isNone]; exact foreign_of_othersView (othersView_setVendor vid typ attr as as' hvid h)

/-- corollary: inside this vendor's attributes, the payloads with the type's sub-attributes
    removed (empty ones dropped) are the same list before and after -/
theorem vendor_payloads_kept_del (vid : Nat) (typ : UInt8) (as : Attrs) :
    (((delVendor vid typ as).filter (isVendorAttr vid)).map (fun a => vsaWithout typ (a.val.drop 4))).filter
        (fun k => k ≠ []) =
      ((as.filter (isVendorAttr vid)).map (fun a => vsaWithout typ (a.val.drop 4))).filter
        (fun k => k ≠ []) :=
  payloads_of_othersView (othersView_delVendor vid typ as)

theorem vendor_payloads_kept_set (vid : Nat) (typ : UInt8) (attr : Bytes) (as as' : Attrs)
    (hvid : vid < 2 ^ 32) (h : setVendor vid typ attr as = .ok as') :
    ((as'.filter (isVendorAttr vid)).map (fun a => vsaWithout typ (a.val.drop 4))).filter
        (fun k => k ≠ []) =
      ((as.filter (isVendorAttr vid)).map (fun a => vsaWithout typ (a.val.drop 4))).filter
        (fun k => k ≠ []) :=
  payloads_of_othersView (othersView_setVendor vid typ attr as as' hvid h)

/-! ### 7. nothing stale or empty is left behind -/

/-- every attribute in the result of Del is either an attribute of the input kept verbatim — and
    then, if it is this vendor's, it held no sub-attribute of the type — or a rebuilt attribute of
    this vendor: type 26, same vendor-id bytes, at least 5 bytes (non-empty payload), payload =
    the original's without the type.  (That no empty payload arises is `no_stale_left` and
    `short_vsa_not_created`.) -/
theorem no_empty_left (vid : Nat) (typ : UInt8) (as : Attrs) (a : AVP) (h : a ∈ delVendor vid typ as) :
    (a ∈ as ∧ (isVendorAttr vid a = true → ∀ q ∈ (vsaParse (a.val.drop 4)).1, q.1 ≠ typ)) ∨
    (a.typ = 26 ∧ 5 ≤ a.val.length ∧ isVendorAttr vid a = true ∧
      ∃ b ∈ as, isVendorAttr vid b = true ∧ a.val.take 4 = b.val.take 4 ∧
        a.val.drop 4 = vsaWithout typ (b.val.drop 4)) := by
  rcases delVendor_mem vid typ as a h with ⟨h1, h2⟩ | h2
  · refine Or.inl ⟨h1, fun hv q hq => ?_⟩
    have := List.any_eq_false.1 (h2 hv) q hq
    simpa using this
  · exact Or.inr h2

/-- no attribute of this vendor in the result holds a sub-attribute of the deleted type in its
    well-formed prefix, and none has an empty payload -/
theorem no_stale_left (vid : Nat) (typ : UInt8) (as : Attrs) (a : AVP) (h : a ∈ delVendor vid typ as)
    (hv : isVendorAttr vid a = true) :
    (∀ q ∈ (vsaParse (a.val.drop 4)).1, q.1 ≠ typ) ∧ a.val.drop 4 ≠ [] := by
  refine ⟨?_, ?_⟩
  · rcases no_empty_left vid typ as a h with ⟨_, h2⟩ | ⟨_, _, _, b, _, _, _, hd⟩
    · exact h2 hv
    · rw [hd, vsaParse_without]
      intro q hq
      have := (List.mem_filter.1 hq).2
      simpa using this
  · simp only [isVendorAttr, Bool.and_eq_true, decide_eq_true_eq] at hv
    intro he
    have := congrArg List.length he
    simp only [List.length_drop, List.length_nil] at this
    omega

/-- an attribute of type 26 that is shorter than 5 bytes in the result was already in the input:
    Del never creates a Vendor-Specific attribute with an empty payload -/
theorem short_vsa_not_created (vid : Nat) (typ : UInt8) (as : Attrs) (a : AVP)
    (h : a ∈ delVendor vid typ as) (hs : a.val.length < 5) : a ∈ as := by
  rcases no_empty_left vid typ as a h with ⟨h1, _⟩ | ⟨_, h2, _⟩
  · exact h1
  · omega

/-! ### Non-vacuity: failure leaves the packet unchanged -/

/-- a refused Set (249-octet value) on a packet that holds the attribute: error, list unchanged -/
example : Imp.setVendorImp 9 1 (zeros 249) [⟨26, [0, 0, 0, 9, 1, 3, 0xAA]⟩] =
    (.err, [⟨26, [0, 0, 0, 9, 1, 3, 0xAA]⟩]) :=
  ((failure_leaves_unchanged 9 1 (zeros 249) [⟨26, [0, 0, 0, 9, 1, 3, 0xAA]⟩]).1.resolve_right
    (by rintro ⟨_, _, _, h⟩; rw [zeros_length] at h; omega)).1
example : ¬ (1 ≤ ([] : Bytes).length ∧ ([] : Bytes).length ≤ 247) := by decide

/-! ### Non-vacuity (tests): hostile payloads -/

/-- two sub-attributes, then a malformed length octet: residue kept -/
example : vsaParse [1, 3, 0xAA, 2, 4, 0xBB, 0xCC, 1, 9, 0] = ([(1, [0xAA]), (2, [0xBB, 0xCC])], [1, 9, 0]) := by
  simp [vsaParse_cons]
example : ∃ as', setVendor 9 1 [7] [⟨26, [0, 0, 0, 9, 1, 3, 0xAA, 2, 3, 0xBB]⟩, ⟨26, [0, 0]⟩] = .ok as' :=
  (set_ok_iff _ _ _ _).2 (by decide)
example : isVendorAttr 9 ⟨26, [0, 0, 0, 9, 1, 3, 0xAA]⟩ = true := by decide
example : addVendor 9 1 [] [] = .err := (add_err_iff _ _ _ _).2 (by decide)

end RV.C14
