/-
  C09 — the attribute list behaves as an ordered multimap and encodes in list order.
  The model functions (`Attrs.del`, `Attrs.set`, …) are the Go loops of attributes.go (index walk
  with in-place removal); the `Spec.*` functions are the ordered-multimap reading of the statement.
-/
import RV.Model.Wire
import RV.Proofs.Wire
namespace RV.C09
open RV

/-- operations of the list API -/
inductive Op where
  | add (k : Int) (v : Bytes)
  | del (k : Int)
  | set (k : Int) (v : Bytes)

def Op.key : Op → Int
  | .add k _ => k
  | .del k => k
  | .set k _ => k

def stepModel (as : Attrs) : Op → Attrs
  | .add k v => as.add k v
  | .del k => as.del k
  | .set k v => as.set k v

def stepSpec (as : Attrs) : Op → Attrs
  | .add k v => as ++ [⟨k, v⟩]
  | .del k => Spec.del as k
  | .set k v => Spec.set as k v

/-- `Add` validates nothing: a type outside 0-255 is dropped, and an over-long value refused, only
    at encoding (`wire_form`, `C01.marshal_ok_iff`). -/
theorem add_spec (as : Attrs) (k : Int) (v : Bytes) : as.add k v = as ++ [⟨k, v⟩] := by
  rfl

theorem del_spec (as : Attrs) (k : Int) : as.del k = as.filter (fun a => a.typ ≠ k) := by
  exact del_eq_filter as k

/-- `Spec.set`: the first attribute of the type is overwritten where it stands, the later ones are
    removed, and the pair is appended when there was none. -/
theorem set_spec (as : Attrs) (k : Int) (v : Bytes) : as.set k v = Spec.set as k v := by
  exact set_eq_spec as k v

/-- Lookup / Get return the first attribute of the type, or report absence. -/
theorem lookup_spec (as : Attrs) (k : Int) :
    as.lookup k = (as.find? (fun a => a.typ = k)).map (·.val) := by
  rw [← List.head?_filter]; exact lookup_of_filter as k

/-- `Get` drops `Lookup`'s flag: an absent attribute and one with an empty value both read as `[]`. -/
theorem get_spec (as : Attrs) (k : Int) :
    as.get k = ((as.find? (fun a => a.typ = k)).map (·.val)).getD [] := by
  rw [Attrs.get, lookup_spec]

/-- Set leaves exactly one attribute of the type, carrying the new value. -/
theorem set_exactly_one (as : Attrs) (k : Int) (v : Bytes) :
    (as.set k v).filter (fun a => a.typ = k) = [⟨k, v⟩] := by
  rw [set_eq_spec]; exact specSet_filter_eq as k v

theorem set_then_lookup (as : Attrs) (k : Int) (v : Bytes) : (as.set k v).lookup k = some v := by
  rw [lookup_of_filter, set_eq_spec, specSet_filter_eq]; rfl

theorem del_none_left (as : Attrs) (k : Int) : (as.del k).lookup k = none := by
  rw [lookup_of_filter, del_eq_filter, List.filter_filter]; simp

/-- None of the operations changes the value or relative order of attributes of other types. -/
theorem others_untouched (as : Attrs) (o : Op) :
    (stepModel as o).filter (fun a => a.typ ≠ o.key) = as.filter (fun a => a.typ ≠ o.key) := by
  cases o with
  | add k v => simp [stepModel, Op.key, Attrs.add]
  | del k => simp only [stepModel, Op.key, del_eq_filter]; exact filter_ne_idem as k
  | set k v => simp only [stepModel, Op.key, set_eq_spec]; exact specSet_filter_ne as k v

/-- Any operation sequence: the Go loops and the ordered-multimap specification agree. -/
theorem ops_refine_spec (as : Attrs) (ops : List Op) :
    ops.foldl stepModel as = ops.foldl stepSpec as := by
  induction ops generalizing as with
  | nil => rfl
  | cons o ops ih =>
    have h : stepModel as o = stepSpec as o := by
      cases o <;> simp [stepModel, stepSpec, Attrs.add, del_eq_filter, set_eq_spec, Spec.del]
    simp only [List.foldl_cons, h, ih]

/-- The wire form lists, in list order, exactly the attributes whose type is within 0-255, and the
    reported length equals the bytes written. -/
theorem wire_form (as : Attrs) (n : Nat) (h : encodedLen as = .ok n) :
    encodeTo as (zeros n) = .ok (((as.filter validType).map avpBytes).flatten) ∧
      (((as.filter validType).map avpBytes).flatten).length = n := by
  rw [← encodeBytes_eq_flatten]; exact encodeTo_of_encodedLen as n h

theorem del_idem (as : Attrs) (k : Int) : (as.del k).del k = as.del k := by
  simp only [del_eq_filter]; exact filter_ne_idem as k

theorem del_comm (as : Attrs) (j k : Int) : (as.del j).del k = (as.del k).del j := by
  simp only [del_eq_filter, List.filter_filter]
  congr 1; funext a; exact Bool.and_comm _ _

theorem add_then_del (as : Attrs) (k : Int) (v : Bytes) : (as.add k v).del k = as.del k := by
  simp [del_eq_filter, Attrs.add]

/-- `Del` then `Set` puts the attribute at the end; a bare `Set` keeps the place of the first one
    (`set_spec`). -/
theorem set_after_del (as : Attrs) (k : Int) (v : Bytes) :
    (as.del k).set k v = as.del k ++ [⟨k, v⟩] := by
  rw [set_eq_spec, del_eq_filter]; unfold Spec.set
  have : (as.filter (fun a => a.typ ≠ k)).any (fun a => a.typ = k) = false := by
    simp [List.any_filter]
  rw [this]; simp

theorem del_after_set (as : Attrs) (k : Int) (v : Bytes) : (as.set k v).del k = as.del k := by
  rw [del_eq_filter, del_eq_filter, set_eq_spec]; exact specSet_filter_ne as k v

theorem del_length_le (as : Attrs) (k : Int) : (as.del k).length ≤ as.length := by
  rw [del_eq_filter]; exact List.length_filter_le _ _

/-- Set twice: the second value wins and the position is the same as a single Set. -/
theorem set_set (as : Attrs) (k : Int) (v w : Bytes) : (as.set k v).set k w = as.set k w := by
  simp only [set_eq_spec]
  induction as with
  | nil => simp [specSet_nil, specSet_cons]
  | cons a as ih => by_cases hk : a.typ = k <;> simp [specSet_cons, hk, ih]

theorem set_idem (as : Attrs) (k : Int) (v : Bytes) : (as.set k v).set k v = as.set k v :=
  set_set as k v v

/-- Set and Del of one type leave every other type's first value as it was. -/
theorem lookup_other (as : Attrs) (o : Op) (j : Int) (hj : j ≠ o.key) :
    (stepModel as o).lookup j = as.lookup j := by
  rw [lookup_of_filter, lookup_of_filter,
    attrsFilter_eq_of_filter_ne as _ j o.key hj (others_untouched as o)]

/-- Add never shadows a value that is already there: the first value of the type stays the first. -/
theorem add_keeps_first (as : Attrs) (k : Int) (v x : Bytes) (h : as.lookup k = some x) :
    (as.add k v).lookup k = some x := by
  rw [lookup_spec] at h ⊢
  simp only [Attrs.add, List.find?_append]
  cases hf : as.find? (fun a => a.typ = k) with
  | none => rw [hf] at h; cases h
  | some a => rw [hf] at h; simpa using h

/-- Any operation sequence that never names type `j` leaves the attributes of type `j` — their
    values, their number and their order — exactly as they were. -/
theorem untouched_by_sequence (as : Attrs) (ops : List Op) (j : Int) (h : ∀ o ∈ ops, o.key ≠ j) :
    (ops.foldl stepModel as).filter (fun a => a.typ = j) = as.filter (fun a => a.typ = j) := by
  induction ops generalizing as with
  | nil => rfl
  | cons o ops ih =>
    rw [List.foldl_cons, ih _ (fun o' ho' => h o' (List.mem_cons_of_mem _ ho'))]
    exact attrsFilter_eq_of_filter_ne as (stepModel as o) j o.key
      (fun e => h o List.mem_cons_self e.symm) (others_untouched as o)

/-- When the LAST operation of a sequence is `Set k v`, `Lookup k` afterwards reports `v`, whatever the
    earlier operations did.  Only the case where the `Set` ends the sequence (`ops ++ [Set k v]`) is
    covered; operations after it are not. -/
theorem last_set_wins (as : Attrs) (ops : List Op) (k : Int) (v : Bytes) :
    ((ops ++ [Op.set k v]).foldl stepModel as).lookup k = some v := by
  rw [List.foldl_append]; exact set_then_lookup _ k v

/-- When the LAST operation of a sequence is `Del k`, `Lookup k` afterwards reports absence.  Same
    scope as `last_set_wins`: the `Del` ends the sequence. -/
theorem last_del_wins (as : Attrs) (ops : List Op) (k : Int) :
    ((ops ++ [Op.del k]).foldl stepModel as).lookup k = none := by
  rw [List.foldl_append]; exact del_none_left _ k

/-! Non-vacuity (tests) -/
example : Attrs.del [⟨1, [1]⟩, ⟨2, []⟩, ⟨1, [2]⟩, ⟨1, [3]⟩] 1 = [⟨2, []⟩] := by
  simp [del_eq_filter]
example : Attrs.set [⟨1, [1]⟩, ⟨2, []⟩, ⟨1, [2]⟩] 1 [9] = [⟨1, [9]⟩, ⟨2, []⟩] := by
  rw [set_eq_spec]; simp [Spec.set, Spec.setAux]

example : Attrs.set (Attrs.set [⟨1, [1]⟩, ⟨2, []⟩, ⟨1, [2]⟩] 1 [9]) 1 [7] = [⟨1, [7]⟩, ⟨2, []⟩] := by
  rw [set_set, set_eq_spec]; simp [Spec.set, Spec.setAux]

end RV.C09
