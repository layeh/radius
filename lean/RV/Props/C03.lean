/-
  C03 — Authenticators are generated and verified exactly per RFC 2865 / 2866 / 5176.
  All theorems hold for an arbitrary hash `H` (the driver instantiates MD5); no cryptographic
  strength is assumed: "a tampered datagram is rejected" is stated as what the code guarantees —
  acceptance ⇔ the carried authenticator equals `H` of the covered bytes, and two datagrams that
  differ in a covered byte have different hash inputs.

  There are two "RFC sides".  `Rfc.replyAuth`, `Rfc.encClass`, `Rfc.reqClass` (in RV/Model/Auth.lean, next to
  the Go model) are the RFC formulas over byte offsets and the RFC code tables.  RV/Spec/Authenticator.lean is
  the independent specification over the fields Code, Identifier, Length, Authenticator, Attributes.
  In this order: the code tables and when `Encode` succeeds; the authenticator `Encode` writes, the two
  predicates, and that what is encoded verifies (all against the first side); `covered_injective`,
  `new_uses_entropy`; the same against the field-level specification (from `parse_fields`), with the
  deviation on padding; tampering with replies; `New` on an entropy source, successive calls on one stream,
  short reads; examples evaluated with MD5; tampering with requests.
-/
import RV.Model.Auth
import RV.Proofs.Auth
import RV.Proofs.AuthRfc
import RV.Model.MD5
namespace RV.C03
open RV

/-- The per-code switch of `Encode` / `IsAuthenticRequest` is the RFC table, for every code
    (all Go ints, not only 0..255). -/
theorem encodeClass_rfc (c : Int) : encodeClass c = Rfc.encClass c := by
  unfold Rfc.encClass
  -- one goal per literal code of the RFC table: the Go switch gives it the same class, by evaluation
  split <;> try rfl
  -- the default arm: `c` is none of the thirteen literals, so every test of the Go switch fails too
  simp_all [encodeClass]

theorem requestClass_rfc (c : Nat) : requestClass c = Rfc.reqClass c := by
  unfold Rfc.reqClass
  split <;> try rfl
  simp_all [requestClass]

/-- Unknown codes are refused (whatever the attributes). -/
theorem encode_refuses_unknown (H : Hash) (p : Packet) (h : Rfc.encClass p.code = .refused) :
    ∀ w, encode H p ≠ .ok w := by
  intro w he
  obtain ⟨b, _, hc⟩ := (encode_ok_iff_cases H p w).1 he
  rw [encodeClass_rfc, h] at hc
  exact hc

/-- Encode succeeds iff the code is known and MarshalBinary succeeds; it never panics. -/
theorem encode_ok_iff (H : Hash) (p : Packet) :
    (∃ w, encode H p = .ok w) ↔ (Rfc.encClass p.code ≠ .refused ∧ ∃ b, marshal p = .ok b) := by
  rw [← encodeClass_rfc]
  constructor
  · rintro ⟨w, h⟩
    obtain ⟨b, hm, hc⟩ := (encode_ok_iff_cases H p w).1 h
    exact ⟨fun hr => by rw [hr] at hc; exact hc, b, hm⟩
  · rintro ⟨hc, b, hm⟩
    unfold encode
    rw [hm]
    cases hcl : encodeClass p.code
    · exact ⟨_, rfl⟩
    · exact ⟨_, rfl⟩
    · exact ⟨_, rfl⟩
    · exact absurd hcl hc

theorem encode_never_faults (H : Hash) (p : Packet) : encode H p ≠ .fault := by
  unfold encode
  cases hm : marshal p with
  | ok b => cases encodeClass p.code <;> simp
  | err => simp
  | fault => exact absurd hm (marshal_ne_fault p)

/-- The authenticator field of an encoded packet is the RFC formula over the emitted datagram:
    the packet's own authenticator for Access-Request / Status-Server, the hash over sixteen zero
    octets for Accounting, Disconnect and CoA requests, the hash over the request authenticator for
    every reply code; every other octet is MarshalBinary's. -/
theorem encode_auth (H : Hash) (hH : ∀ x, (H x).length = 16) (p : Packet) (w : Bytes)
    (ha : p.auth.length = 16) (h : encode H p = .ok w) :
    (w.drop 4).take 16 =
      (match Rfc.encClass p.code with
       | .verbatim => p.auth
       | .hashZero => Rfc.replyAuth H w (zeros 16) p.secret
       | .hashReqAuth => Rfc.replyAuth H w p.auth p.secret
       | .refused => []) ∧
    ∃ b, marshal p = .ok b ∧ w.take 4 = b.take 4 ∧ w.drop 20 = b.drop 20 ∧ w.length = b.length := by
  obtain ⟨_, hm, A, hA, rfl, hc⟩ := encode_ok_shape H hH p w ha h
  rw [← encodeClass_rfc]
  refine ⟨?_, _, hm, rfl, ?_, ?_⟩
  · rw [hdr_auth _ _ _ _ _ hA]
    cases hcl : encodeClass p.code <;> rw [hcl] at hc
    · exact hc
    · exact hc
    · exact hc
    · exact hc.elim
  · rw [hdr_drop20 _ _ _ _ _ hA, hdr_drop20 _ _ _ _ _ ha]
  · rw [hdr_length _ _ _ _ _ hA, hdr_length _ _ _ _ _ ha]

/-- The response predicate is true iff both datagrams have at least 20 bytes, the secret is
    non-empty and the response authenticator equals the formula over the given request. -/
theorem isAuthenticResponse_iff (H : Hash) (r q s : Bytes) :
    isAuthenticResponse H r q s = true ↔
      20 ≤ r.length ∧ 20 ≤ q.length ∧ s ≠ [] ∧
      (r.drop 4).take 16 = Rfc.replyAuth H r ((q.drop 4).take 16) s :=
  isAuthenticResponse_eq_true_iff H r q s

/-- The request predicate: Access-Request / Status-Server always, Accounting, Disconnect and CoA requests
    iff the zero-authenticator formula holds, any other code never. -/
theorem isAuthenticRequest_iff (H : Hash) (q s : Bytes) :
    isAuthenticRequest H q s = true ↔
      20 ≤ q.length ∧ s ≠ [] ∧
      (match Rfc.reqClass (q.getD 0 0).toNat with
       | .always => True
       | .hashZero => (q.drop 4).take 16 = Rfc.replyAuth H q (zeros 16) s
       | .never => False) := by
  rw [← requestClass_rfc, isAuthenticRequest_eq_true_iff]
  cases requestClass (q.getD 0 0).toNat <;> simp [Rfc.replyAuth, authInput]

/-- Encode and the predicates are mutually consistent: a reply built from a request
    (`Response`, any attributes) and encoded verifies against that request's datagram … -/
theorem response_verifies (H : Hash) (hH : ∀ x, (H x).length = 16)
    (req : Packet) (reqWire : Bytes) (code : Int) (attrs : Attrs) (w : Bytes)
    (hq : 20 ≤ reqWire.length) (hqa : (reqWire.drop 4).take 16 = req.auth) (ha : req.auth.length = 16)
    (hs : req.secret ≠ [])
    (hc : Rfc.encClass code = .hashReqAuth)
    (h : encode H { response req code with attrs := attrs } = .ok w) :
    isAuthenticResponse H w reqWire req.secret = true := by
  obtain ⟨hauth, b, hm, _, _, hlen⟩ := encode_auth H hH _ w (by exact ha) h
  obtain ⟨_, rfl⟩ := (marshal_eq_ok_iff _ b).1 hm
  rw [hdr_length _ _ _ _ _ (by exact ha)] at hlen
  simp only [response] at hauth
  rw [hc] at hauth
  rw [isAuthenticResponse_iff, hqa]
  exact ⟨by omega, hq, hs, hauth⟩

/-- … and an encoded Accounting, Disconnect and CoA requests, Access-Request or Status-Server verifies
    as a request. -/
theorem request_verifies (H : Hash) (hH : ∀ x, (H x).length = 16) (p : Packet) (w : Bytes)
    (ha : p.auth.length = 16) (hs : p.secret ≠ [])
    (hc : Rfc.encClass p.code = .hashZero ∨ Rfc.encClass p.code = .verbatim)
    (hcode : 0 ≤ p.code ∧ p.code ≤ 255)
    (h : encode H p = .ok w) :
    isAuthenticRequest H w p.secret = true := by
  obtain ⟨hauth, b, hm, ht4, _, hlen⟩ := encode_auth H hH p w ha h
  obtain ⟨_, rfl⟩ := (marshal_eq_ok_iff p b).1 hm
  rw [hdr_length _ _ _ _ _ ha] at hlen
  have hcb : w.getD 0 0 = codeByte p.code := getD_of_take4 w _ ht4 0 (by omega)
  have hnat : (w.getD 0 0).toNat = p.code.toNat := by
    rw [hcb]
    have := codeByte_cast hcode.1 hcode.2
    omega
  rw [isAuthenticRequest_eq_true_iff, hnat]
  refine ⟨by omega, hs, ?_⟩
  rw [← encodeClass_rfc] at hc hauth
  rcases hc with hc | hc
  · rw [hc] at hauth
    exact .inr ⟨requestClass_of_encodeClass p.code .overZeroOctets hc, hauth⟩
  · exact .inl (requestClass_of_encodeClass p.code .unpredictable hc)

/-- Tampering: the bytes covered by the response authenticator determine the hash input
    injectively — two (response, request authenticator, secret) triples with 16-byte request
    authenticators and equal-length secrets that differ anywhere outside the response's own
    authenticator field have different hash inputs, so acceptance of an altered datagram is
    exactly a collision of `H` on distinct inputs. -/
theorem covered_injective (r r' a a' s s' : Bytes)
    (hr : 20 ≤ r.length) (hr' : 20 ≤ r'.length) (ha : a.length = 16) (ha' : a'.length = 16)
    (hs : s.length = s'.length)
    (h : authInput r a s = authInput r' a' s') :
    r.take 4 = r'.take 4 ∧ a = a' ∧ r.drop 20 = r'.drop 20 ∧ s = s' := by
  obtain ⟨e1, e2, e3⟩ := authInput_inj r r' a a' s s' (by omega) (by omega) (by omega) h
  obtain ⟨e3, e4⟩ := List.append_inj' e3 hs
  exact ⟨e1, e2, e3, e4⟩

/-- `New` takes the identifier and the authenticator from the 17 random bytes. -/
theorem new_uses_entropy (rnd : Bytes) (c : Int) (s : Bytes) (h : rnd.length = 17) :
    (newPacket rnd c s).id = rnd.getD 0 0 ∧ (newPacket rnd c s).auth = rnd.drop 1 ∧
    (newPacket rnd c s).auth.length = 16 ∧ (newPacket rnd c s).code = c ∧
    (newPacket rnd c s).secret = s ∧ (newPacket rnd c s).attrs = [] := by
  match rnd, h with
  | x :: xs, h =>
    have h : xs.length = 16 := Nat.succ.inj h
    rw [newPacket_cons x xs c s h]
    exact ⟨rfl, rfl, h, rfl, rfl, rfl⟩

/-!
  The theorems above compare the model with `Rfc.replyAuth`, which is the model's own `authInput`
  over byte offsets.  Below the comparison is with the INDEPENDENT field-level specification
  RV/Spec/Authenticator.lean (`RV.Rfc2865`, `RV.Rfc2866`, `RV.Rfc5176`, `RV.RfcAuth`), written from the
  RFC texts over the fields Code, Identifier, Length, Authenticator, Attributes.  The link "byte
  offsets ↔ fields" is `wireFields`, justified three ways: it is what `parse` reads (`parse_fields`),
  it inverts the RFC's layout `Rfc2865.serialize` (`wireFields_serialize`, `serialize_wireFields`),
  and it is what `Encode` emits (`encode_fields`).
-/
open RfcAuth

/-- `parse` returns exactly the fields `wireFields` names: code, identifier, authenticator, and the
    attribute region (which parses to the packet's attributes and is their encoding); the region is
    delimited by the Length field. -/
theorem parse_fields (w s : Bytes) (p : Packet) (h : parse w s = .ok p) :
    p.code = ((wireFields w).code.toNat : Int) ∧ p.id = (wireFields w).identifier ∧
      p.auth = (wireFields w).authenticator ∧
      parseAttrs (wireFields w).attributes = .ok p.attrs ∧
      encodeBytes p.attrs = (wireFields w).attributes ∧
      (wireFields w).length = lengthField w := by
  obtain ⟨h1, h2, h3, h4, as, hp, rfl⟩ := (parse_ok_iff w s p).1 h
  exact ⟨rfl, rfl, rfl, hp, (encode_parseAttrs _ _ hp).1, wireFields_length w h2 h4⟩

/-- `wireFields` is the inverse of the RFC's packet layout: laying fields out and reading them back
    gives the same fields, and the Length field transmitted is the RFC's Length … -/
theorem wireFields_serialize (f : Rfc2865.Fields) (ha : f.authenticator.length = 16)
    (hl : f.length < 65536) :
    wireFields (Rfc2865.serialize f) = f ∧ lengthField (Rfc2865.serialize f) = f.length ∧
      (Rfc2865.serialize f).length = f.length := by
  rw [serialize_eq_header]
  exact ⟨by rw [wireFields_header _ _ f.length _ _ ha rfl hl, codeByte_toNat],
    lengthField_header _ _ _ _ _ hl, hdr_length _ _ _ _ _ ha⟩

/-- … and a datagram without padding is the layout of its fields. -/
theorem serialize_wireFields (w : Bytes) (h0 : 20 ≤ w.length) (h : lengthField w = w.length) :
    Rfc2865.serialize (wireFields w) = w := by
  rw [serialize_eq_header, wireFields_length w (by omega) (by omega)]
  have := take20_eq_header w h0
  simp only [wireFields]
  rw [← this, h, List.take_length, List.take_append_drop]

/-- `Encode` sends the authenticator verbatim / hashes over the request authenticator / hashes over
    sixteen zero octets exactly for the codes of the packet types to which the RFCs give that rule;
    it refuses exactly the codes that are no packet type's. -/
theorem encodeClass_per_rfc (c : Int) :
    (encodeClass c = .verbatim ↔ ∃ k : Kind, (k.code : Int) = c ∧ Rule k .unpredictable) ∧
    (encodeClass c = .hashReqAuth ↔ ∃ k : Kind, (k.code : Int) = c ∧ Rule k .overRequestAuthenticator) ∧
    (encodeClass c = .hashZero ↔ ∃ k : Kind, (k.code : Int) = c ∧ Rule k .overZeroOctets) ∧
    (encodeClass c = .refused ↔ ∀ k : Kind, (k.code : Int) ≠ c) :=
  ⟨encodeClass_eq_classOf_iff c .unpredictable, encodeClass_eq_classOf_iff c .overRequestAuthenticator,
    encodeClass_eq_classOf_iff c .overZeroOctets, encodeClass_refused_iff c⟩

/-- `IsAuthenticRequest`'s switch: always for the unpredictable-authenticator requests, the hash
    test for the zero-octet requests, never for replies and unassigned codes. -/
theorem requestClass_per_rfc (n : Nat) :
    (requestClass n = .always ↔ ∃ k : Kind, k.code = n ∧ Rule k .unpredictable) ∧
    (requestClass n = .hashZero ↔ ∃ k : Kind, k.code = n ∧ Rule k .overZeroOctets) ∧
    (requestClass n = .never ↔ ∀ k : Kind, k.code = n → IsReply k) :=
  ⟨requestClass_iff n .unpredictable (by simp), requestClass_iff n .overZeroOctets (by simp),
    requestClass_never_iff n⟩

/-- the classification is a function on packet types, total, and the codes are distinct — so the
    three cases above are exclusive and exhaustive over the assigned codes -/
theorem rule_is_a_function :
    (∀ k r r', Rule k r → Rule k r' → r = r') ∧ (∀ k, ∃ r, Rule k r) ∧
    (∀ k k' : Kind, k.code = k'.code → k = k') ∧ (∀ k : Kind, 1 ≤ k.code ∧ k.code ≤ 45) :=
  ⟨rule_functional, rule_total, kind_code_injective, kind_code_range⟩

/-- the two RFCs that define a hashed Request Authenticator give the same formula, and the three
    that define a Response Authenticator give the same formula -/
theorem rfc_formulas_agree (H : Hash) (f : Rfc2865.Fields) (a s : Bytes) :
    Rfc5176.requestAuth H f s = Rfc2866.requestAuth H f s ∧
    Rfc2866.responseAuth H f a s = Rfc2865.responseAuth H f a s ∧
    Rfc5176.responseAuth H f a s = Rfc2865.responseAuth H f a s :=
  ⟨rfl, rfl, rfl⟩

/-- A datagram `Encode` emits is, for the packet type `k` whose code the packet carries, the RFC
    layout (`Rfc2865.serialize`, no padding) of the fields: Code = `k`'s code, Identifier = the
    packet's, Length = 20 + the attribute region, Attributes = the encoding of the packet's
    attributes (`encodeBytes`: C01), Authenticator = what the RFC prescribes for `k` — the packet's own
    sixteen octets (Access-Request, Status-Server), `Rfc2865.responseAuth` over these fields and the
    packet's authenticator as Request Authenticator (every reply type), `Rfc2866.requestAuth` over
    these fields (Accounting-, Disconnect-, CoA-Request). -/
theorem encode_fields (H : Hash) (hH : ∀ x, (H x).length = 16) (p : Packet) (w : Bytes)
    (ha : p.auth.length = 16) (h : encode H p = .ok w) :
    ∃ k r, (k.code : Int) = p.code ∧ Rule k r ∧
      lengthField w = w.length ∧ w.length = 20 + (encodeBytes p.attrs).length ∧
      (wireFields w).code = UInt8.ofNat k.code ∧
      (wireFields w).identifier = p.id ∧
      (wireFields w).length = 20 + (encodeBytes p.attrs).length ∧
      (wireFields w).authenticator = authenticatorFor H r (wireFields w) p.auth p.secret ∧
      (wireFields w).attributes = encodeBytes p.attrs ∧
      w = Rfc2865.serialize (wireFields w) := by
  obtain ⟨hle, _, A, hA, rfl, hc⟩ := encode_ok_shape H hH p w ha h
  obtain ⟨k, r, hk, hr⟩ := kind_of_encodeClass p.code fun e => by rw [e] at hc; exact hc
  have hcls := (class_of_rule k r hr).1
  rw [hk] at hcls
  have hwf := wireFields_header p.code p.id _ A (encodeBytes p.attrs) hA rfl (by omega)
  have hlen := hdr_length p.code p.id (20 + (encodeBytes p.attrs).length) A (encodeBytes p.attrs) hA
  have hlf := (lengthField_header p.code p.id _ A (encodeBytes p.attrs) (by omega)).trans hlen.symm
  refine ⟨k, r, hk, hr, hlf, hlen, by rw [hwf, ← hk, codeByte_kind], by rw [hwf], (by rw [hwf]; rfl), ?_,
    by rw [hwf], (serialize_wireFields _ (by omega) hlf).symm⟩
  · rw [hcls] at hc
    have hA' : (wireFields _).authenticator = A := congrArg (·.authenticator) hwf
    rw [hA']
    cases r
    · exact hc
    · exact hc.trans (hash_authInput_response H _ _ _ (by omega) hlf)
    · exact hc.trans (hash_authInput_request H _ _ (by omega) hlf)

/-- `IsAuthenticResponse` on a datagram without padding tests the Authenticator field against the RFC's
    Response Authenticator over the datagram's fields and the request's Authenticator field. -/
theorem isAuthenticResponse_iff_fields (H : Hash) (w req s : Bytes) (hpad : lengthField w = w.length) :
    isAuthenticResponse H w req s = true ↔
      s ≠ [] ∧ 20 ≤ w.length ∧ 20 ≤ req.length ∧
      (wireFields w).authenticator =
        Rfc2865.responseAuth H (wireFields w) (wireFields req).authenticator s := by
  rw [isAuthenticResponse_eq_true_iff]
  exact ⟨fun ⟨hw, hq, hs, he⟩ => ⟨hs, hw, hq, he.trans (hash_authInput_response H w _ s hw hpad)⟩,
    fun ⟨hs, hw, hq, he⟩ => ⟨hw, hq, hs, he.trans (hash_authInput_response H w _ s hw hpad).symm⟩⟩

/-- the same, stated on fields: for every reply laid out per RFC -/
theorem isAuthenticResponse_serialize (H : Hash) (f : Rfc2865.Fields) (req s : Bytes)
    (ha : f.authenticator.length = 16) (hl : f.length < 65536) :
    isAuthenticResponse H (Rfc2865.serialize f) req s = true ↔
      s ≠ [] ∧ 20 ≤ req.length ∧
      f.authenticator = Rfc2865.responseAuth H f (wireFields req).authenticator s := by
  obtain ⟨hwf, hlf, hlen⟩ := wireFields_serialize f ha hl
  rw [isAuthenticResponse_iff_fields H _ req s (hlf.trans hlen.symm), hwf, hlen]
  exact ⟨fun ⟨h1, _, h2, h3⟩ => ⟨h1, h2, h3⟩,
    fun ⟨h1, h2, h3⟩ => ⟨h1, by simp [Rfc2865.Fields.length], h2, h3⟩⟩

/-- DEVIATION FROM THE RFC TEXT, kept visible: RFC 2865 §3 computes the Response Authenticator over
    the packet, i.e. `Length` octets, and says octets outside the range of the Length field MUST be
    treated as padding and ignored.  `IsAuthenticResponse` hashes `response[20:]`, the WHOLE rest of
    the datagram: the attribute region FOLLOWED BY THE PADDING (and the Length octets as transmitted).
    Stated for every datagram whose Length field is in range (20 ≤ Length ≤ size). -/
theorem padding_is_hashed (H : Hash) (w req s : Bytes)
    (h1 : 20 ≤ lengthField w) (h2 : lengthField w ≤ w.length) :
    isAuthenticResponse H w req s = true ↔
      s ≠ [] ∧ 20 ≤ req.length ∧
      (wireFields w).authenticator =
        H ([(wireFields w).code] ++ [(wireFields w).identifier] ++
            Rfc2865.lengthOctets (wireFields w).length ++ (wireFields req).authenticator ++
            ((wireFields w).attributes ++ padding w) ++ s) := by
  rw [isAuthenticResponse_eq_true_iff, authInput_fields w _ s h1 h2]
  exact ⟨fun ⟨_, hq, hs, he⟩ => ⟨hs, hq, he⟩, fun ⟨hs, hq, he⟩ => ⟨by omega, hq, hs, he⟩⟩

/-- Consequence: appending padding to a reply leaves its fields (and its `parse`, C01
    `parse_ignores_padding`) unchanged, but the padded datagram is accepted iff its Authenticator is the
    hash of the input WITH the padding — so a reply that is authentic per RFC stops verifying once
    padded unless `H` collides on the two inputs, and `Client.Exchange` counts it as non-authentic. -/
theorem padded_reply (H : Hash) (w pad req s : Bytes) (hw : 20 ≤ w.length)
    (hpad : lengthField w = w.length) :
    wireFields (w ++ pad) = wireFields w ∧ padding (w ++ pad) = pad ∧
    (isAuthenticResponse H (w ++ pad) req s = true ↔
      s ≠ [] ∧ 20 ≤ req.length ∧
      (wireFields w).authenticator =
        H ([(wireFields w).code] ++ [(wireFields w).identifier] ++
            Rfc2865.lengthOctets (wireFields w).length ++ (wireFields req).authenticator ++
            ((wireFields w).attributes ++ pad) ++ s)) := by
  obtain ⟨e1, e2, e3⟩ := wireFields_append w pad (by omega) (by omega)
  have e2' : padding (w ++ pad) = pad := by rw [e2, padding_nil w hpad, List.nil_append]
  refine ⟨e1, e2', ?_⟩
  rw [padding_is_hashed H (w ++ pad) req s (by omega) (by rw [e3, List.length_append]; omega), e1, e2']

/-- For a datagram without padding, `IsAuthenticRequest` is true iff the secret is non-empty, the
    datagram has at least 20 octets and its Code is that of a packet type whose Request Authenticator
    is unpredictable (Access-Request, Status-Server: nothing to check), or of one whose Request
    Authenticator is the hash over sixteen zero octets (Accounting-, Disconnect-, CoA-Request) and the
    Authenticator field equals `Rfc2866.requestAuth` (= `Rfc5176.requestAuth`) over the fields.
    Reply codes and unassigned codes are never authentic requests. -/
theorem isAuthenticRequest_iff_fields (H : Hash) (q s : Bytes) (hpad : lengthField q = q.length) :
    isAuthenticRequest H q s = true ↔
      s ≠ [] ∧ 20 ≤ q.length ∧
      ∃ k : Kind, k.code = (wireFields q).code.toNat ∧
        (Rule k .unpredictable ∨
         (Rule k .overZeroOctets ∧
          (wireFields q).authenticator = Rfc2866.requestAuth H (wireFields q) s)) := by
  rw [isAuthenticRequest_kind, and_left_comm]
  exact and_congr_right fun _ => and_congr_right fun hq => by
    rw [hash_authInput_request H q s hq hpad]; exact Iff.rfl

/-- … and with padding: hashed too, as in `padding_is_hashed`. -/
theorem request_padding_is_hashed (H : Hash) (q s : Bytes)
    (h1 : 20 ≤ lengthField q) (h2 : lengthField q ≤ q.length) :
    isAuthenticRequest H q s = true ↔
      s ≠ [] ∧
      ∃ k : Kind, k.code = (wireFields q).code.toNat ∧
        (Rule k .unpredictable ∨
         (Rule k .overZeroOctets ∧
          (wireFields q).authenticator =
            H ([(wireFields q).code] ++ [(wireFields q).identifier] ++
                Rfc2865.lengthOctets (wireFields q).length ++
                [0, 0, 0, 0, 0, 0, 0, 0, 0, 0, 0, 0, 0, 0, 0, 0] ++
                ((wireFields q).attributes ++ padding q) ++ s))) := by
  rw [isAuthenticRequest_kind, authInput_fields q _ s h1 h2]
  exact ⟨fun h => h.2, fun h => ⟨by omega, h⟩⟩

/-! Tampering: what is rejected, and under which hypothesis on `H`.

  Nothing can be proved for an arbitrary `H` beyond the following: a constant `H` verifies everything
  (`hash_hypothesis_needed` below).  So each theorem says (i) the hash INPUT of the altered triple
  differs from the original's, and (ii) if `H` does not collide on exactly THAT pair of inputs, the
  altered triple is rejected.  Alterations of the authenticator field itself, and truncations below
  20 octets, are rejected without any hypothesis on `H`. -/

/-- the authenticator field altered (anything in octets 4..19; the rest kept): rejected outright -/
theorem tamper_authenticator_field (H : Hash) (r r' q s : Bytes)
    (hok : isAuthenticResponse H r q s = true)
    (h4 : r'.take 4 = r.take 4) (h20 : r'.drop 20 = r.drop 20)
    (hne : (r'.drop 4).take 16 ≠ (r.drop 4).take 16) :
    isAuthenticResponse H r' q s = false :=
  Bool.eq_false_iff.2 fun hok' => hne ((accepted_auth_eq_iff H r r' q q s s hok hok').2
    (congrArg H (authInput_congr r' r _ s h4 h20)))

/-- one octet of the authenticator field altered: rejected outright -/
theorem tamper_authenticator_octet (H : Hash) (r q s : Bytes) (i : Nat) (b : UInt8)
    (hok : isAuthenticResponse H r q s = true) (hi : i < r.length) (h4 : 4 ≤ i) (h20 : i < 20)
    (hb : b ≠ r[i]) :
    isAuthenticResponse H (r.set i b) q s = false := by
  have e4 : (r.set i b).take 4 = r.take 4 := List.take_set_of_le h4
  have e20 : (r.set i b).drop 20 = r.drop 20 := List.drop_set_of_lt h20
  exact tamper_authenticator_field H r _ q s hok e4 e20 fun e =>
    set_ne r i b hi hb (by rw [← parts_eq (r.set i b), e4, e, e20, parts_eq])

/-- covered octets altered in any way (authenticator field kept; sizes may differ: corruptions,
    truncations to ≥ 20 octets, extensions): the hash input differs, and the altered datagram is
    rejected unless `H` collides on the two inputs -/
theorem tamper_covered (H : Hash) (r r' q s : Bytes)
    (hok : isAuthenticResponse H r q s = true) (hr' : 20 ≤ r'.length)
    (hauth : (r'.drop 4).take 16 = (r.drop 4).take 16)
    (hne : r'.take 4 ≠ r.take 4 ∨ r'.drop 20 ≠ r.drop 20) :
    authInput r' ((q.drop 4).take 16) s ≠ authInput r ((q.drop 4).take 16) s ∧
    (H (authInput r' ((q.drop 4).take 16) s) ≠ H (authInput r ((q.drop 4).take 16) s) →
      isAuthenticResponse H r' q s = false) :=
  reject_altered H r r' q q s s hok (by omega) ((isAuthenticResponse_eq_true_iff H r q s).1 hok).2.1 hauth
    (hne.imp_right fun h => .inr fun e => h (List.append_cancel_right e))

/-- one covered octet altered (Code, Identifier, Length, any attribute or padding octet) -/
theorem tamper_covered_octet (H : Hash) (r q s : Bytes) (i : Nat) (b : UInt8)
    (hok : isAuthenticResponse H r q s = true) (hi : i < r.length) (hcov : i < 4 ∨ 20 ≤ i)
    (hb : b ≠ r[i]) :
    authInput (r.set i b) ((q.drop 4).take 16) s ≠ authInput r ((q.drop 4).take 16) s ∧
    (H (authInput (r.set i b) ((q.drop 4).take 16) s) ≠ H (authInput r ((q.drop 4).take 16) s) →
      isAuthenticResponse H (r.set i b) q s = false) := by
  have hlen : 20 ≤ (r.set i b).length := by
    rw [List.length_set]
    exact ((isAuthenticResponse_eq_true_iff H r q s).1 hok).1
  have hauth : ((r.set i b).drop 4).take 16 = (r.drop 4).take 16 := by
    rcases hcov with h | h
    · rw [List.drop_set_of_lt h]
    · rw [List.drop_set, if_neg (by omega), List.take_set_of_le (by omega)]
  exact tamper_covered H r _ q s hok hlen hauth <| Decidable.not_and_iff_not_or_not.1 fun ⟨e4, e20⟩ =>
    set_ne r i b hi hb (by rw [← parts_eq (r.set i b), e4, hauth, e20, parts_eq])

/-- truncation: below 20 octets rejected outright; otherwise the input differs (shorter) -/
theorem tamper_truncation (H : Hash) (r q s : Bytes) (n : Nat)
    (hok : isAuthenticResponse H r q s = true) (hn : n < r.length) :
    (n < 20 → isAuthenticResponse H (r.take n) q s = false) ∧
    (20 ≤ n →
      authInput (r.take n) ((q.drop 4).take 16) s ≠ authInput r ((q.drop 4).take 16) s ∧
      (H (authInput (r.take n) ((q.drop 4).take 16) s) ≠ H (authInput r ((q.drop 4).take 16) s) →
        isAuthenticResponse H (r.take n) q s = false)) := by
  refine ⟨fun h => isAuthenticResponse_short H _ q s (.inl (by rw [List.length_take]; omega)), fun h => ?_⟩
  refine tamper_covered H r _ q s hok (by rw [List.length_take]; omega) (auth_take r n h)
    (.inr fun heq => ?_)
  have := congrArg List.length heq
  rw [List.length_drop, List.length_drop, List.length_take] at this
  omega

/-- extension by any non-empty suffix -/
theorem tamper_extension (H : Hash) (r q s ext : Bytes)
    (hok : isAuthenticResponse H r q s = true) (hne : ext ≠ []) :
    authInput (r ++ ext) ((q.drop 4).take 16) s ≠ authInput r ((q.drop 4).take 16) s ∧
    (H (authInput (r ++ ext) ((q.drop 4).take 16) s) ≠ H (authInput r ((q.drop 4).take 16) s) →
      isAuthenticResponse H (r ++ ext) q s = false) := by
  have hr := ((isAuthenticResponse_eq_true_iff H r q s).1 hok).1
  refine tamper_covered H r _ q s hok (by rw [List.length_append]; omega) (auth_append r ext hr)
    (.inr fun heq => ?_)
  have := congrArg List.length heq
  have hl : 0 < ext.length := List.length_pos_iff.2 hne
  rw [List.length_drop, List.length_drop, List.length_append] at this
  omega

/-- another secret — ANY other secret, of the same or of another length (the secret is the last
    component of the hash input); the empty secret is rejected outright -/
theorem tamper_secret (H : Hash) (r q s s' : Bytes)
    (hok : isAuthenticResponse H r q s = true) (hne : s' ≠ s) :
    authInput r ((q.drop 4).take 16) s' ≠ authInput r ((q.drop 4).take 16) s ∧
    (H (authInput r ((q.drop 4).take 16) s') ≠ H (authInput r ((q.drop 4).take 16) s) →
      isAuthenticResponse H r q s' = false) ∧
    (s' = [] → isAuthenticResponse H r q s' = false) :=
  ⟨fun heq => hne (List.append_cancel_left heq), reject_of_hash_ne H r r q q s s' hok rfl,
    fun h => isAuthenticResponse_short H r q s' (.inr (.inr h))⟩

/-- another request authenticator (a reply to another request); a request shorter than 20 octets is
    rejected outright -/
theorem tamper_request_authenticator (H : Hash) (r q q' s : Bytes)
    (hok : isAuthenticResponse H r q s = true)
    (hne : (q'.drop 4).take 16 ≠ (q.drop 4).take 16) :
    (q'.length < 20 → isAuthenticResponse H r q' s = false) ∧
    (20 ≤ q'.length →
      authInput r ((q'.drop 4).take 16) s ≠ authInput r ((q.drop 4).take 16) s ∧
      (H (authInput r ((q'.drop 4).take 16) s) ≠ H (authInput r ((q.drop 4).take 16) s) →
        isAuthenticResponse H r q' s = false)) := by
  have hr := ((isAuthenticResponse_eq_true_iff H r q s).1 hok).1
  exact ⟨fun h => isAuthenticResponse_short H r q' s (.inr (.inl h)),
    fun h => reject_altered H r r q q' s s hok (by omega) h rfl (.inr (.inl hne))⟩

/-- What is NOT covered: of the request only octets 4..19 are looked at — its code, identifier,
    length and attributes do not influence the verdict. -/
theorem request_only_authenticator_covered (H : Hash) (r q q' s : Bytes)
    (hq : 20 ≤ q.length) (hq' : 20 ≤ q'.length)
    (he : (q'.drop 4).take 16 = (q.drop 4).take 16) :
    isAuthenticResponse H r q' s = isAuthenticResponse H r q s := by
  rw [Bool.eq_iff_iff, isAuthenticResponse_eq_true_iff, isAuthenticResponse_eq_true_iff, he]
  exact ⟨fun ⟨a, _, c, d⟩ => ⟨a, hq, c, d⟩, fun ⟨a, _, c, d⟩ => ⟨a, hq', c, d⟩⟩

/-- `covered_injective` without the equal-length hypothesis on the secrets, for datagrams without
    padding: the Length field (covered) delimits the attributes, so the boundary between attributes
    and secret is determined and the covered data determine the hash input injectively.  (With
    padding the boundary is ambiguous: `covered_boundary_ambiguous`.) -/
theorem covered_injective_nopad (r r' a a' s s' : Bytes)
    (hr : 20 ≤ r.length) (hr' : 20 ≤ r'.length) (ha : a.length = 16) (ha' : a'.length = 16)
    (hp : lengthField r = r.length) (hp' : lengthField r' = r'.length)
    (h : authInput r a s = authInput r' a' s') :
    r.take 4 = r'.take 4 ∧ a = a' ∧ r.drop 20 = r'.drop 20 ∧ s = s' := by
  obtain ⟨e1, e2, e3⟩ := authInput_inj r r' a a' s s' (by omega) (by omega) (by omega) h
  have hl : r.length = r'.length := by rw [← hp, ← hp', lengthField_of_take4 r r' e1]
  obtain ⟨e3, e4⟩ := List.append_inj e3 (by rw [List.length_drop, List.length_drop, hl])
  exact ⟨e1, e2, e3, e4⟩

/-- with padding and secrets of different lengths the hypothesis `s.length = s'.length` of
    `covered_injective` cannot be dropped: a padding octet and a secret octet are interchangeable -/
theorem covered_boundary_ambiguous :
    authInput ([2, 7, 0, 20] ++ zeros 16 ++ [9]) (zeros 16) [5] =
      authInput ([2, 7, 0, 20] ++ zeros 16) (zeros 16) [9, 5] := by
  decide

/-- Why the hypothesis `H inp' ≠ H inp` is there: for the constant hash every alteration of covered
    octets, of the secret and of the request authenticator is accepted. -/
theorem hash_hypothesis_needed :
    let H : Hash := fun _ => zeros 16
    let r : Bytes := [2, 7, 0, 20] ++ zeros 16
    let q : Bytes := [1, 7, 0, 20] ++ zeros 16
    isAuthenticResponse H r q [115] = true ∧
    isAuthenticResponse H (r.set 0 3) q [115] = true ∧          -- Code altered
    isAuthenticResponse H (r ++ [1, 3, 97]) q [115] = true ∧   -- extended
    isAuthenticResponse H r q [116, 1] = true ∧                 -- another secret
    isAuthenticResponse H r (q.set 5 1) [115] = true ∧          -- another request authenticator
    isAuthenticResponse H (r.set 4 1) q [115] = false := by     -- authenticator field: rejected anyway
  decide

/-! `New` and the entropy source: `newFrom src` is `New` on a `crypto/rand.Reader` that can still yield the
  octets `src`.  The harness checks the same statements against a scripted `crypto/rand.Reader`. -/

/-- `New` consumes exactly 17 octets of the source and uses all of them and nothing else:
    the consumed prefix is Identifier :: Authenticator. -/
theorem new_consumes_exactly_17 (src : Bytes) (c : Int) (s : Bytes) (p : Packet) (rest : Bytes) :
    newFrom src c s = .ok (p, rest) ↔
      src = (p.id :: p.auth) ++ rest ∧ p.auth.length = 16 ∧ p.code = c ∧ p.secret = s ∧
        p.attrs = [] := by
  rw [newFrom_ok_iff]
  constructor
  · rintro ⟨hl, rfl, rfl⟩
    match src, hl with
    | x :: xs, hl =>
      rw [List.length_cons] at hl
      rw [List.take_succ_cons, newPacket_cons _ _ _ _ (List.length_take_of_le (by omega))]
      exact ⟨(List.take_append_drop 17 (x :: xs)).symm, List.length_take_of_le (by omega), rfl, rfl, rfl⟩
  · rintro ⟨rfl, ha, rfl, rfl, hat⟩
    have hl : (p.id :: p.auth).length = 17 := by rw [List.length_cons, ha]
    rw [List.take_left' hl, List.drop_left' hl, newPacket_cons _ _ _ _ ha, ← hat]
    exact ⟨by rw [List.length_append, hl]; omega, rfl, rfl⟩

/-- the result does not depend on anything beyond the first 17 octets, and leaves them unread -/
theorem new_ignores_rest (src more : Bytes) (c : Int) (s : Bytes) (p : Packet) (rest : Bytes)
    (h : newFrom src c s = .ok (p, rest)) :
    newFrom (src.take 17 ++ more) c s = .ok (p, more) := by
  obtain ⟨hl, rfl, rfl⟩ := (newFrom_ok_iff _ _ _ _ _).1 h
  have hl' : (src.take 17).length = 17 := List.length_take_of_le hl
  rw [newFrom_ok_iff, List.take_left' hl', List.drop_left' hl']
  exact ⟨by rw [List.length_append, hl']; omega, rfl, rfl⟩

/-- if the source yields fewer than 17 octets `New` panics (and only then); it never returns an error -/
theorem new_panics_iff_short (src : Bytes) (c : Int) (s : Bytes) :
    (newFrom src c s = .fault ↔ src.length < 17) ∧ newFrom src c s ≠ .err := by
  unfold newFrom
  split <;> simp_all

/-- on exactly 17 octets this is the `newPacket` of `new_uses_entropy` -/
theorem new_eq_newPacket (rnd : Bytes) (c : Int) (s : Bytes) (h : rnd.length = 17) :
    newFrom rnd c s = .ok (newPacket rnd c s, []) := by
  rw [newFrom_ok_iff, List.take_of_length_le (Nat.le_of_eq h), List.drop_eq_nil_of_le (Nat.le_of_eq h)]
  exact ⟨Nat.le_of_eq h.symm, rfl, rfl⟩

/-- Successive calls on one source: call number `k` gets the window of stream positions
    `17 k … 17 k + 16` (`newStream`), the source is advanced by 17 octets per call, and all calls
    succeed only if the source yields 17 octets for each. -/
theorem new_calls_take_successive_windows (calls : List (Int × Bytes)) (src : Bytes)
    (ps : List Packet) (rest : Bytes) (h : newMany calls src = .ok (ps, rest)) :
    ps.length = calls.length ∧ rest = src.drop (17 * calls.length) ∧
      17 * calls.length ≤ src.length ∧
      ∀ k (hk : k < calls.length), ∃ p, ps[k]? = some p ∧
        newStream src k calls[k].1 calls[k].2 = .ok p := by
  induction calls generalizing src ps rest with
  | nil =>
    cases h
    exact ⟨rfl, rfl, Nat.zero_le _, nofun⟩
  | cons cs calls ih =>
    rw [newMany] at h
    split at h
    · next p r hp =>
      obtain ⟨hl, rfl, rfl⟩ := (newFrom_ok_iff _ _ _ _ _).1 hp
      split at h <;> cases h
      next hm =>
      obtain ⟨hlen, hrest, hle, hwin⟩ := ih _ _ _ hm
      rw [List.length_drop] at hle
      refine ⟨congrArg (· + 1) hlen, ?_, by rw [List.length_cons]; omega, fun k hk => ?_⟩
      · rw [hrest, List.drop_drop, List.length_cons, Nat.mul_succ, Nat.add_comm]
      · cases k with
        | zero => exact ⟨_, rfl, by rw [newStream_eq, if_neg (by omega)]; rfl⟩
        | succ k =>
          rw [newStream_succ]
          exact hwin k (Nat.lt_of_succ_lt_succ hk)
    · cases h
    · cases h

/-- packet `k`'s Identifier is stream octet `17 k` and octet `j` of its Authenticator is stream
    octet `17 k + 1 + j` … -/
theorem newStream_window (src : Bytes) (k : Nat) (c : Int) (s : Bytes) (p : Packet)
    (h : newStream src k c s = .ok p) :
    17 * k + 17 ≤ src.length ∧
    p.id = src.getD (17 * k) 0 ∧ p.auth = (src.drop (17 * k + 1)).take 16 ∧
      (∀ j, j < 16 → p.auth.getD j 0 = src.getD (17 * k + 1 + j) 0) ∧
      p.auth.length = 16 ∧ p.code = c ∧ p.secret = s ∧ p.attrs = [] := by
  rw [newStream_eq] at h
  split at h <;> cases h
  obtain ⟨hid, hau, hlen, hc, hs, hat⟩ := new_uses_entropy ((src.drop (17 * k)).take 17) c s
    (by rw [List.length_take, List.length_drop]; omega)
  rw [List.drop_take, List.drop_drop] at hau
  refine ⟨by omega, ?_, hau, fun j hj => ?_, hlen, hc, hs, hat⟩
  · rw [hid, getD_take _ 0 17 (by omega), List.getD_eq_getElem?_getD, List.getElem?_drop,
      List.getD_eq_getElem?_getD]; rfl
  · rw [hau]
    simp only [List.getD_eq_getElem?_getD, List.getElem?_take, hj, if_true, List.getElem?_drop]

/-- … and call `k` panics iff the source ends before position `17 k + 17`. -/
theorem newStream_panics_iff (src : Bytes) (k : Nat) (c : Int) (s : Bytes) :
    newStream src k c s = .fault ↔ src.length < 17 * k + 17 := by
  rw [newStream_eq]
  split
  · exact ⟨fun _ => ‹_›, fun _ => rfl⟩
  · exact ⟨nofun, fun h => absurd h ‹_›⟩

/-- The arithmetic behind "no stream octet is reused" (no term of the model occurs): a stream position
    `17 k + a` with `a < 17` determines both the call `k` and the offset `a`.  So the 17-octet windows of two
    different calls (`newStream_window`) do not overlap, and within a window each octet goes to one field
    position (offset 0 = Identifier, offset 1 + j = Authenticator octet j). -/
theorem windows_disjoint (j k a b : Nat) (ha : a < 17) (hb : b < 17)
    (h : 17 * j + a = 17 * k + b) : j = k ∧ a = b := by
  omega

/-- SHORT READS.  The entropy source is an `io.Reader`: one `Read` may deliver fewer octets than asked for, without
    an error.  `newFromReader lims` is `New` on a source whose successive `Read` calls deliver at most `lims[0]`,
    `lims[1]`, … octets (at least one each), read until the 17 are complete (`io.ReadFull`, which is what
    `crypto/rand.Read` does with a replaced `Reader`).  However the source cuts its answers, the packet and the
    unread rest are those of `newFrom`: every theorem of this section holds for every such source, and no octet of
    the 17 is ever left at its zero value because a `Read` came back short.  (`17 ≤ lims.length`: `lims` describes
    enough calls - at most 17 are made.)  The harness replays this with a source that delivers 1, 5, 16 or 17 octets
    per `Read` (op `newstream` with a negative second argument). -/
theorem new_reads_until_complete (lims : List Nat) (src : Bytes) (c : Int) (s : Bytes) (hl : 17 ≤ lims.length) :
    newFromReader lims src c s = newFrom src c s := by
  unfold newFromReader newFrom
  rw [readFull_eq lims 17 src hl]
  by_cases hs : src.length < 17 <;> simp only [hs, ↓reduceIte]

/-- what `readFull` returns, when it returns, is the prefix of the source and the rest, whatever the limits.
    (When it returns: `readFull_eq` in RV/Proofs/Auth.lean, used for `new_reads_until_complete`.) -/
theorem readFull_is_the_prefix (lims : List Nat) (need : Nat) (src got rest : Bytes)
    (h : readFull lims need src = some (got, rest)) : got = src.take need ∧ rest = src.drop need :=
  (readFull_some lims need src got rest h).2

/-- non-vacuity: a source that answers 5, 5, 5, 2 octets; one that delivers a single octet per call -/
example : newFromReader [5, 5, 5, 5] ((List.range 20).map UInt8.ofNat) 1 [0x73] =
    .ok (newPacket ((List.range 17).map UInt8.ofNat) 1 [0x73], [17, 18, 19]) := by decide
example : (readFull (List.replicate 17 1) 17 ((List.range 17).map UInt8.ofNat)).isSome = true := by decide
/-- a reader model that stopped after the first short answer (the mutant) would differ: only 5 octets read -/
example : readFull [5] 17 ((List.range 20).map UInt8.ofNat) = none := by decide

/-! Non-vacuity: tests evaluated by the kernel with the MD5 model `RV.MD5.md5`. -/
section examples
open RV.MD5 (md5)

/-- Access-Request id 7, authenticator 1..16, secret "s", User-Name "a" -/
def exReq : Packet := ⟨1, 7, [1, 2, 3, 4, 5, 6, 7, 8, 9, 10, 11, 12, 13, 14, 15, 16], [115], [⟨1, [97]⟩]⟩
def exReqWire : Bytes := [1, 7, 0, 23, 1, 2, 3, 4, 5, 6, 7, 8, 9, 10, 11, 12, 13, 14, 15, 16, 1, 3, 97]
/-- the Access-Accept to it, with Reply-Message "hi" -/
def exReplyWire : Bytes :=
  [2, 7, 0, 24, 96, 32, 227, 248, 207, 183, 56, 123, 91, 19, 117, 218, 171, 156, 167, 112, 18, 4, 104, 105]
/-- Accounting-Request id 9, secret "s", Acct-Status-Type 1 -/
def exAcct : Packet := ⟨4, 9, zeros 16, [115], [⟨40, [0, 0, 0, 1]⟩]⟩
def exAcctWire : Bytes :=
  [4, 9, 0, 26, 186, 40, 13, 247, 133, 243, 229, 131, 157, 179, 91, 9, 14, 124, 32, 27, 40, 6, 0, 0, 0, 1]

example : encode md5 exReq = .ok exReqWire := by decide +kernel
/-- every hypothesis of `response_verifies` holds of a concrete reply (with MD5) … -/
example :
    20 ≤ exReqWire.length ∧ (exReqWire.drop 4).take 16 = exReq.auth ∧ exReq.auth.length = 16 ∧
    exReq.secret ≠ [] ∧ Rfc.encClass 2 = .hashReqAuth ∧
    encode md5 { response exReq 2 with attrs := [⟨18, [104, 105]⟩] } = .ok exReplyWire := by
  decide +kernel
/-- … and so does its conclusion, evaluated directly -/
example : isAuthenticResponse md5 exReplyWire exReqWire [115] = true := by decide +kernel
/-- `request_verifies`: hypotheses and conclusion on an Accounting-Request and on the Access-Request -/
example :
    exAcct.auth.length = 16 ∧ exAcct.secret ≠ [] ∧ Rfc.encClass exAcct.code = .hashZero ∧
    (0 ≤ exAcct.code ∧ exAcct.code ≤ 255) ∧ encode md5 exAcct = .ok exAcctWire ∧
    isAuthenticRequest md5 exAcctWire [115] = true := by
  decide +kernel
example : Rfc.encClass exReq.code = .verbatim ∧ isAuthenticRequest md5 exReqWire [115] = true := by
  decide +kernel
/-- `isAuthenticResponse_iff_fields`: the hypothesis and every conjunct of the right-hand side -/
example :
    lengthField exReplyWire = exReplyWire.length ∧ ([115] : Bytes) ≠ [] ∧ 20 ≤ exReplyWire.length ∧
    20 ≤ exReqWire.length ∧
    (wireFields exReplyWire).authenticator =
      Rfc2865.responseAuth md5 (wireFields exReplyWire) (wireFields exReqWire).authenticator [115] := by
  decide +kernel
/-- `isAuthenticRequest_iff_fields`: hypothesis and right-hand side, with the witness packet type -/
example :
    lengthField exAcctWire = exAcctWire.length ∧ 20 ≤ exAcctWire.length ∧
    Kind.accountingRequest.code = (wireFields exAcctWire).code.toNat ∧
    (wireFields exAcctWire).authenticator = Rfc2866.requestAuth md5 (wireFields exAcctWire) [115] := by
  decide +kernel
/-- `encode_fields`: the emitted datagram is the RFC layout of the fields -/
example :
    exReplyWire = Rfc2865.serialize ⟨2, 7, Rfc2865.responseAuth md5 ⟨2, 7, [], [18, 4, 104, 105]⟩ exReq.auth [115],
      [18, 4, 104, 105]⟩ := by
  decide +kernel
/-- `padding_is_hashed` is not vacuous and the deviation is real: the padded reply still parses to the
    same packet but no longer verifies; a reply whose sender hashed the padding too does verify -/
example :
    parse (exReplyWire ++ [0, 0]) [115] = parse exReplyWire [115] ∧
    (parse exReplyWire [115]).isOk = true ∧
    20 ≤ lengthField (exReplyWire ++ [0, 0]) ∧ lengthField (exReplyWire ++ [0, 0]) ≤ (exReplyWire ++ [0, 0]).length ∧
    padding (exReplyWire ++ [0, 0]) = [0, 0] ∧
    isAuthenticResponse md5 (exReplyWire ++ [0, 0]) exReqWire [115] = false ∧
    isAuthenticResponse md5
      (putAuth (exReplyWire ++ [0, 0]) (md5 (authInput (exReplyWire ++ [0, 0]) exReq.auth [115])))
      exReqWire [115] = true := by
  decide +kernel
/-- the tamper theorems' hypotheses hold with MD5 on concrete alterations, and so do their conclusions -/
example :
    md5 (authInput (exReplyWire.set 22 72) ((exReqWire.drop 4).take 16) [115]) ≠
      md5 (authInput exReplyWire ((exReqWire.drop 4).take 16) [115]) ∧
    isAuthenticResponse md5 (exReplyWire.set 22 72) exReqWire [115] = false ∧
    isAuthenticResponse md5 (exReplyWire.set 1 8) exReqWire [115] = false ∧
    isAuthenticResponse md5 (exReplyWire.set 4 97) exReqWire [115] = false ∧
    isAuthenticResponse md5 exReplyWire exReqWire [115, 1] = false ∧
    isAuthenticResponse md5 exReplyWire exReqWire [116] = false ∧
    isAuthenticResponse md5 exReplyWire (exReqWire.set 4 2) [115] = false ∧
    isAuthenticResponse md5 exReplyWire (exReqWire.set 1 8) [115] = true ∧
    isAuthenticResponse md5 (exReplyWire.take 22) exReqWire [115] = false := by
  decide +kernel
/-- entropy: two calls on a 34-octet stream take octets 0..16 and 17..33; a 33-octet stream makes
    the second call panic -/
example :
    newMany [(1, [115]), (4, [116])] ((List.range 34).map UInt8.ofNat) =
      .ok ([⟨1, 0, (List.range 16).map (fun i => UInt8.ofNat (i + 1)), [115], []⟩,
            ⟨4, 17, (List.range 16).map (fun i => UInt8.ofNat (i + 18)), [116], []⟩], []) ∧
    newMany [(1, [115]), (4, [116])] ((List.range 33).map UInt8.ofNat) = .fault ∧
    newFrom (zeros 16) 1 [115] = .fault := by
  decide +kernel

end examples

example : Rfc.encClass 2 = .hashReqAuth ∧ Rfc.encClass 4 = .hashZero ∧ Rfc.encClass 13 = .refused :=
  ⟨rfl, rfl, rfl⟩

/-! Tampering with requests.  For Accounting-, Disconnect- and CoA-Request the request predicate is the response
predicate against sixteen zero octets (`hashed_request_is_a_reply_to_zeros`), so the tamper theorems for replies
transfer; the Code octet is treated separately because it selects the rule. -/

/-- for the hashed request codes the request predicate IS the response predicate against a request whose
    authenticator is sixteen zero octets.  `zeros 20` is that request: the response predicate wants a request
    datagram of 20 octets and reads its octets 4..19 only (`request_only_authenticator_covered`). -/
theorem hashed_request_is_a_reply_to_zeros (H : Hash) (q s : Bytes) (hc : Rfc.reqClass (q.getD 0 0).toNat = .hashZero) :
    isAuthenticRequest H q s = isAuthenticResponse H q (zeros 20) s := by
  rw [Bool.eq_iff_iff, isAuthenticRequest_eq_true_iff, isAuthenticResponse_eq_true_iff, requestClass_rfc, hc]
  exact ⟨fun ⟨a, b, c⟩ => ⟨a, Nat.le_refl _, b, c.elim nofun (·.2)⟩, fun ⟨a, _, b, c⟩ => ⟨a, b, .inr ⟨rfl, c⟩⟩⟩

theorem getD0_set (q : Bytes) (i : Nat) (b : UInt8) (hi : 1 ≤ i) : (q.set i b).getD 0 0 = q.getD 0 0 := by
  rw [List.getD_eq_getElem?_getD, List.getD_eq_getElem?_getD, List.getElem?_set_ne (by omega)]

/-- a hashed request (Accounting-, Disconnect-, CoA-Request) with one octet of its authenticator field altered is
    rejected outright -/
theorem tamper_request_authenticator_octet (H : Hash) (q s : Bytes) (i : Nat) (b : UInt8)
    (hc : Rfc.reqClass (q.getD 0 0).toNat = .hashZero)
    (hok : isAuthenticRequest H q s = true) (hi : i < q.length) (h4 : 4 ≤ i) (h20 : i < 20) (hb : b ≠ q[i]) :
    isAuthenticRequest H (q.set i b) s = false := by
  rw [hashed_request_is_a_reply_to_zeros H q s hc] at hok
  rw [hashed_request_is_a_reply_to_zeros H _ s (by rw [getD0_set q i b (by omega)]; exact hc)]
  exact tamper_authenticator_octet H q (zeros 20) s i b hok hi h4 h20 hb

/-- … with any other octet but the Code altered (Identifier, Length, an attribute or padding octet): the hash input
    differs, rejected unless `H` collides on the two inputs -/
theorem tamper_request_covered_octet (H : Hash) (q s : Bytes) (i : Nat) (b : UInt8)
    (hc : Rfc.reqClass (q.getD 0 0).toNat = .hashZero)
    (hok : isAuthenticRequest H q s = true) (hi : i < q.length) (hcov : (1 ≤ i ∧ i < 4) ∨ 20 ≤ i) (hb : b ≠ q[i]) :
    authInput (q.set i b) (zeros 16) s ≠ authInput q (zeros 16) s ∧
    (H (authInput (q.set i b) (zeros 16) s) ≠ H (authInput q (zeros 16) s) →
      isAuthenticRequest H (q.set i b) s = false) := by
  rw [hashed_request_is_a_reply_to_zeros H q s hc] at hok
  rw [hashed_request_is_a_reply_to_zeros H _ s (by rw [getD0_set q i b (by omega)]; exact hc)]
  exact tamper_covered_octet H q (zeros 20) s i b hok hi (by omega) hb

/-- … checked under any other secret -/
theorem tamper_request_secret (H : Hash) (q s s' : Bytes)
    (hc : Rfc.reqClass (q.getD 0 0).toNat = .hashZero)
    (hok : isAuthenticRequest H q s = true) (hne : s' ≠ s) :
    authInput q (zeros 16) s' ≠ authInput q (zeros 16) s ∧
    (H (authInput q (zeros 16) s') ≠ H (authInput q (zeros 16) s) → isAuthenticRequest H q s' = false) ∧
    (s' = [] → isAuthenticRequest H q s' = false) := by
  rw [hashed_request_is_a_reply_to_zeros H q s hc] at hok
  rw [hashed_request_is_a_reply_to_zeros H q s' hc]
  exact tamper_secret H q (zeros 20) s s' hok hne

/-- where a Code octet altered into a code of another class leads; stated of any datagram of 20 octets or more
    and a non-empty secret, no original datagram occurs: under the Access-Request / Status-Server codes it is
    accepted whatever the authenticator (nothing protects them at this layer - Message-Authenticator is not
    implemented), under every code that is not a request it is rejected.  A Code altered into another hashed
    request code is not treated here. -/
theorem tamper_request_code (H : Hash) (q s : Bytes) (hq : 20 ≤ q.length) (hs : s ≠ []) :
    (Rfc.reqClass (q.getD 0 0).toNat = .always → isAuthenticRequest H q s = true) ∧
    (Rfc.reqClass (q.getD 0 0).toNat = .never → isAuthenticRequest H q s = false) := by
  rw [← requestClass_rfc]
  refine ⟨fun h => (isAuthenticRequest_eq_true_iff H q s).2 ⟨hq, hs, .inl h⟩,
    fun h => Bool.eq_false_iff.2 fun hr => ?_⟩
  obtain ⟨_, _, h' | ⟨h', _⟩⟩ := (isAuthenticRequest_eq_true_iff H q s).1 hr <;> rw [h] at h' <;> cases h'

end RV.C03
