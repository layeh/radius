/-
  C10 — Typed value codecs round-trip, reject the unrepresentable, stay in bounds.
  One block of theorems per codec of attribute.go, as far as each applies: `*_roundtrip` (decode ∘ encode =
  canonical value, with the size bound of the emitted value), `*_enc_ok_iff` (the encoder errs iff the value is
  unrepresentable; the integer encoders take uintN and cannot err), `*_dec_ok_iff` (the decoder accepts exactly
  the wire format; `String`/`Bytes` decode by identity), for the integers `*_enc_dec` (decoding is injective).
  `prefix_nil_refused`: a nil `*net.IPNet` is refused.  `never_faults`: no decoder panics.
-/
import RV.Model.Codec
import RV.Proofs.Codec
namespace RV.C10
open RV

/-- `NewShort`/`NewInteger`/`NewInteger64`: N/8 octets big-endian; the Go encoders take uintN, so the domain
    is `v < 2^N` -/
theorem short_roundtrip (v : Nat) (h : v < 2 ^ 16) : (newShort v).length = 2 ∧ short (newShort v) = .ok v := by
  exact ⟨beBytes_length _ _, beDec_beBytes 2 v h⟩

theorem integer_roundtrip (v : Nat) (h : v < 2 ^ 32) : (newInteger v).length = 4 ∧ integer (newInteger v) = .ok v := by
  exact ⟨beBytes_length _ _, beDec_beBytes 4 v h⟩

theorem integer64_roundtrip (v : Nat) (h : v < 2 ^ 64) : (newInteger64 v).length = 8 ∧ integer64 (newInteger64 v) = .ok v := by
  exact ⟨beBytes_length _ _, beDec_beBytes 8 v h⟩

theorem short_dec_ok_iff (a : Bytes) : (∃ v, short a = .ok v) ↔ a.length = 2 := by
  exact guard_ok_iff.trans Decidable.not_not

theorem integer_dec_ok_iff (a : Bytes) : (∃ v, integer a = .ok v) ↔ a.length = 4 := by
  exact guard_ok_iff.trans Decidable.not_not

theorem integer64_dec_ok_iff (a : Bytes) : (∃ v, integer64 a = .ok v) ↔ a.length = 8 := by
  exact guard_ok_iff.trans Decidable.not_not

/-- the decoders are injective on their wire format: re-encoding the decoded value gives the bytes back -/
theorem integer_enc_dec (a : Bytes) (v : Nat) (h : integer a = .ok v) : v < 2 ^ 32 ∧ newInteger v = a := by
  exact beBytes_of_beDec 4 a v h

theorem short_enc_dec (a : Bytes) (v : Nat) (h : short a = .ok v) : v < 2 ^ 16 ∧ newShort v = a := by
  exact beBytes_of_beDec 2 a v h

theorem integer64_enc_dec (a : Bytes) (v : Nat) (h : integer64 a = .ok v) : v < 2 ^ 64 ∧ newInteger64 v = a := by
  exact beBytes_of_beDec 8 a v h

/-- `NewString`/`NewBytes`: at most 253 octets, stored as they are -/
theorem string_enc_ok_iff (s : Bytes) : (∃ a, newString s = .ok a) ↔ s.length ≤ 253 := by
  exact guard_ok_iff.trans Nat.not_lt

theorem string_roundtrip (s a : Bytes) (h : newString s = .ok a) : a.length ≤ 253 ∧ stringOf a = s := by
  obtain ⟨hl, rfl⟩ := guard_eq_ok.1 h
  exact ⟨Nat.not_lt.mp hl, rfl⟩

theorem bytes_enc_ok_iff (s : Bytes) : (∃ a, newBytes s = .ok a) ↔ s.length ≤ 253 := by
  exact guard_ok_iff.trans Nat.not_lt

theorem bytes_roundtrip (s a : Bytes) (h : newBytes s = .ok a) : a.length ≤ 253 ∧ bytesOf a = s := by
  obtain ⟨hl, rfl⟩ := guard_eq_ok.1 h
  exact ⟨Nat.not_lt.mp hl, rfl⟩

/-- `NewIPAddr`/`NewIPv6Addr` store `To4()` / `To16()`; equality of addresses is Go's `IP.Equal`: a 4-byte
    address equals its v4-mapped form -/
theorem ipaddr_enc_ok_iff (ip : Bytes) :
    (∃ a, newIPAddr ip = .ok a) ↔ (ip.length = 4 ∨ (ip.length = 16 ∧ ip.take 12 = v4InV6Prefix)) := by
  unfold newIPAddr to4
  by_cases h4 : ip.length = 4 <;> by_cases h16 : (ip.length = 16 ∧ ip.take 12 = v4InV6Prefix) <;> simp [h4, h16]

theorem ipaddr_roundtrip (ip a : Bytes) (h : newIPAddr ip = .ok a) :
    a.length = 4 ∧ ∃ d, ipAddr a = .ok d ∧ ipEqual d ip = true := by
  unfold newIPAddr to4 at h
  split at h
  · rename_i b hb
    cases h
    split at hb
    · rename_i h4
      cases hb
      exact ⟨h4, ip, by simp [ipAddr, h4], by simp [ipEqual, to16, h4]⟩
    · split at hb
      · rename_i h16
        cases hb
        have hl : (ip.drop 12).length = 4 := by simp [h16.1]
        refine ⟨hl, ip.drop 12, by simp [ipAddr, h16.1], ?_⟩
        have : v4InV6Prefix ++ ip.drop 12 = ip := by
          rw [← h16.2]; exact List.take_append_drop 12 ip
        simp [ipEqual, to16, h16.1, this]
      · cases hb
  · cases h

theorem ipaddr_dec_ok_iff (a : Bytes) : (∃ d, ipAddr a = .ok d) ↔ a.length = 4 := by
  exact guard_ok_iff.trans Decidable.not_not

theorem ipv6addr_enc_ok_iff (ip : Bytes) : (∃ a, newIPv6Addr ip = .ok a) ↔ (ip.length = 4 ∨ ip.length = 16) := by
  unfold newIPv6Addr to16
  by_cases h4 : ip.length = 4 <;> by_cases h16 : ip.length = 16 <;> simp [h4, h16]

theorem ipv6addr_roundtrip (ip a : Bytes) (h : newIPv6Addr ip = .ok a) :
    a.length = 16 ∧ ∃ d, ipv6Addr a = .ok d ∧ ipEqual d ip = true := by
  unfold newIPv6Addr to16 at h
  split at h
  · rename_i b hb
    cases h
    split at hb
    · rename_i h4
      cases hb
      have hl : (v4InV6Prefix ++ ip).length = 16 := by simp [v4InV6Prefix, h4]
      refine ⟨hl, v4InV6Prefix ++ ip, by simp [ipv6Addr, hl], ?_⟩
      simp only [ipEqual, to16, hl, h4]
      simp
    · split at hb
      · rename_i h16
        cases hb
        exact ⟨h16, ip, by simp [ipv6Addr, h16], by simp [ipEqual, to16, h16]⟩
      · cases hb
  · cases h

theorem ipv6addr_dec_ok_iff (a : Bytes) : (∃ d, ipv6Addr a = .ok d) ↔ a.length = 16 := by
  exact guard_ok_iff.trans Decidable.not_not

/-- `NewIFID`: exactly 8 octets -/
theorem ifid_enc_ok_iff (x : Bytes) : (∃ a, newIFID x = .ok a) ↔ x.length = 8 := by
  exact guard_ok_iff.trans Decidable.not_not

theorem ifid_roundtrip (x a : Bytes) (h : newIFID x = .ok a) : a.length = 8 ∧ ifid a = .ok x := by
  obtain ⟨hl, rfl⟩ := guard_eq_ok.1 h
  exact ⟨Decidable.not_not.mp hl, if_neg hl⟩

theorem ifid_dec_ok_iff (a : Bytes) : (∃ d, ifid a = .ok d) ↔ a.length = 8 := by
  exact guard_ok_iff.trans Decidable.not_not

/-- `NewDate`: seconds since 1970 as an unsigned 32-bit number -/
theorem date_enc_ok_iff (u : Int) : (∃ a, newDate u = .ok a) ↔ (0 ≤ u ∧ u < 2 ^ 32) := by
  rw [newDate, err_else_ok, err_else_okIf, okIf_isOk]
  omega

theorem date_roundtrip (u : Int) (a : Bytes) (h : newDate u = .ok a) : a.length = 4 ∧ date a = .ok u := by
  exact date_roundtrip' u a h

theorem date_dec_ok_iff (a : Bytes) : (∃ d, date a = .ok d) ↔ a.length = 4 := by
  exact guard_ok_iff.trans Decidable.not_not

/-- `NewVendorSpecific`: 4-octet vendor id, then 1..249 octets of value -/
theorem vsa_enc_ok_iff (id : Nat) (v : Bytes) :
    (∃ a, newVendorSpecific id v = .ok a) ↔ (1 ≤ v.length ∧ v.length ≤ 249) := by
  rw [newVendorSpecific, err_else_ok, err_else_okIf, okIf_isOk]
  omega

theorem vsa_roundtrip (id : Nat) (v a : Bytes) (hid : id < 2 ^ 32) (h : newVendorSpecific id v = .ok a) :
    a.length ≤ 253 ∧ vendorSpecific a = .ok (id, v) := by
  rw [newVendorSpecific, err_else_ok, err_else_okIf, okIf_eq_ok] at h
  obtain ⟨hv, rfl⟩ := h
  have hl := beBytes_length 4 id
  refine ⟨by simp [hl]; omega, ?_⟩
  rw [vendorSpecific, if_neg (by simp [hl]; omega), List.take_left' hl, List.drop_left' hl, beNat_beBytes 4 id hid]

theorem vsa_dec_ok_iff (a : Bytes) : (∃ r, vendorSpecific a = .ok r) ↔ 5 ≤ a.length := by
  exact guard_ok_iff.trans Nat.not_lt

/-- `NewTLV`: type, length `2 + |v|`, then 1..253 octets of value -/
theorem tlv_enc_ok_iff (t : UInt8) (v : Bytes) :
    (∃ a, newTLV t v = .ok a) ↔ (1 ≤ v.length ∧ v.length ≤ 253) := by
  exact guard_ok_iff.trans (by omega)

theorem tlv_roundtrip (t : UInt8) (v a : Bytes) (h : newTLV t v = .ok a) :
    a.length ≤ 255 ∧ tlv a = .ok (t, v) := by
  obtain ⟨hv, rfl⟩ := guard_eq_ok.1 h
  have hb : (UInt8.ofNat (2 + v.length)).toNat = 2 + v.length := by
    rw [UInt8.toNat_ofNat']; show (2 + v.length) % 256 = _; omega
  refine ⟨by simp; omega, ?_⟩
  rw [tlv, if_neg (by simp; omega)]
  simp

theorem tlv_dec_ok_iff (a : Bytes) :
    (∃ r, tlv a = .ok r) ↔ (3 ≤ a.length ∧ a.length ≤ 255 ∧ (a.getD 1 0).toNat = a.length) := by
  exact guard_ok_iff.trans (by omega)

/-- `ip` with every bit beyond the first `n` cleared -/
def maskIP (ip : Bytes) (n : Nat) : Bytes :=
  (List.range ip.length).map fun i =>
    if (i + 1) * 8 ≤ n then ip.getD i 0
    else if i * 8 ≥ n then 0
    else clearFrom (ip.getD i 0) (n - i * 8)

theorem prefix_nil_refused : newIPv6Prefix none = .err := by
  rfl

/-- representable ⇔ a 16-byte address with a 16-byte ones-then-zeros mask -/
theorem prefix_enc_ok_iff (ip mask : Bytes) :
    (∃ a, newIPv6Prefix (some (ip, mask)) = .ok a) ↔
      (ip.length = 16 ∧ mask.length = 16 ∧ (maskOnes mask).isSome = true) := by
  exact prefix_enc_ok_iff' ip mask

/-- round trip: the address comes back with its host bits cleared, under the same mask; the emitted
    value is at most 18 bytes -/
theorem prefix_roundtrip (ip mask a : Bytes) (n : Nat) (hn : maskOnes mask = some n)
    (h : newIPv6Prefix (some (ip, mask)) = .ok a) :
    a.length ≤ 18 ∧ ipv6Prefix a = .ok (maskIP ip n, mask) := by
  exact prefix_roundtrip' ip mask a n hn h

/-- the decoder accepts exactly: 2..18 bytes, prefix length ≤ 128, every bit beyond the prefix
    length zero (the reserved first octet is not inspected) -/
theorem prefix_dec_ok_iff (a : Bytes) :
    (∃ r, ipv6Prefix a = .ok r) ↔
      (2 ≤ a.length ∧ a.length ≤ 18 ∧ (a.getD 1 0).toNat ≤ 128 ∧
       hostBitsZero (a.drop 2 ++ zeros (16 - (a.length - 2))) (a.getD 1 0).toNat = true) := by
  simp only [ipv6Prefix, err_else_ok, err_else_okIf, okIf_isOk, Bool.not_eq_true', Bool.not_eq_false, not_or,
    Nat.not_lt, gt_iff_lt, and_assoc]

theorem never_faults (a : Bytes) :
    short a ≠ .fault ∧ integer a ≠ .fault ∧ integer64 a ≠ .fault ∧ ipAddr a ≠ .fault ∧ ipv6Addr a ≠ .fault ∧
    ifid a ≠ .fault ∧ date a ≠ .fault ∧ vendorSpecific a ≠ .fault ∧ tlv a ≠ .fault ∧ ipv6Prefix a ≠ .fault := by
  exact never_faults' a

example : newDate 1700000000 = .ok [0x65, 0x53, 0xf1, 0x00] := by
  decide

example : ∃ a, newIPv6Prefix (some (List.replicate 16 0xff, cidrMask 61)) = .ok a := by
  exact (prefix_enc_ok_iff _ _).2 ⟨by decide, by decide, by decide⟩

end RV.C10
