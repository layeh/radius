/-
  C13 over the heap model of RV/Model/Prov.lean.  In this order: the `slices_*` equations; `In`, `Ext`, `Obs` and
  the frame rules (`obs_pure`, `obs_bind`, `obs_ite`, the primitives); one lemma `obs_X : Obs n k X (In n)` per
  observer, from the typed decoders up to the generated getters, Parse, Encode and the dumper; from these
  `PureObs` / `FreshObs` for one call (`Obs.pureObs`, `Obs.freshObs`, `Obs.bound`); then what the caller reads
  through results (`bind_apply` …, `viewRes`, the decoders that copy, the tagged-integer getter); the same getter
  before its repair on a concrete packet (`histHeap`); Parse against `RV.parse`.
-/
import RV.Model.Prov
namespace RV
namespace Prov


@[simp] theorem slices_slice (s : Slice) : slices s = [s] := rfl
@[simp] theorem slices_nat (n : Nat) : slices n = [] := rfl
@[simp] theorem slices_int (n : Int) : slices n = [] := rfl
@[simp] theorem slices_u8 (n : UInt8) : slices n = [] := rfl
@[simp] theorem slices_bool (n : Bool) : slices n = [] := rfl
@[simp] theorem slices_unit (n : Unit) : slices n = [] := rfl
@[simp] theorem slices_pair {α β} [HasSlices α] [HasSlices β] (a : α) (b : β) :
    slices (a, b) = slices a ++ slices b := rfl
@[simp] theorem slices_some {α} [HasSlices α] (a : α) : slices (some a) = slices a := rfl
@[simp] theorem slices_none {α} [HasSlices α] : slices (none : Option α) = [] := rfl
@[simp] theorem slices_nil {α} [HasSlices α] : slices ([] : List α) = [] := rfl
@[simp] theorem slices_cons {α} [HasSlices α] (a : α) (l : List α) : slices (a :: l) = slices a ++ slices l := rfl
@[simp] theorem slices_append {α} [HasSlices α] (l₁ l₂ : List α) : slices (l₁ ++ l₂) = slices l₁ ++ slices l₂ :=
  List.flatMap_append
@[simp] theorem slices_ok {α} [HasSlices α] (a : α) : slices (Res.ok a) = slices a := rfl
@[simp] theorem slices_err {α} [HasSlices α] : slices (Res.err : Res α) = [] := rfl
@[simp] theorem slices_fault {α} [HasSlices α] : slices (Res.fault : Res α) = [] := rfl
@[simp] theorem slices_gbytes (s : Slice) : slices (GValH.bytes s) = [s] := rfl
@[simp] theorem slices_gnat (n : Nat) : slices (GValH.nat n) = [] := rfl
@[simp] theorem slices_gtime (n : Int) : slices (GValH.time n) = [] := rfl
@[simp] theorem slices_gpfx (a b : Slice) : slices (GValH.pfx a b) = [a, b] := rfl
@[simp] theorem slices_lnoAttr : slices LookupResH.noAttr = [] := rfl
@[simp] theorem slices_lerr : slices LookupResH.err = [] := rfl
@[simp] theorem slices_lval (t : UInt8) (v : GValH) : slices (LookupResH.val t v) = slices v := rfl

/-- every slice contained in `a` points into a buffer numbered `n ≤ · < j`: allocated since the heap had `n`
    buffers, and existing in a heap of `j` buffers -/
def In {α} [HasSlices α] (n j : Nat) (a : α) : Prop := ∀ s ∈ slices a, n ≤ s.buf ∧ s.buf < j

theorem In.mono {α} [HasSlices α] {n j j' : Nat} {a : α} (h : In n j a) (hj : j ≤ j') : In n j' a :=
  fun s hs => ⟨(h s hs).1, Nat.lt_of_lt_of_le (h s hs).2 hj⟩

theorem In.of_nil {α} [HasSlices α] {n j : Nat} {a : α} (e : slices a = []) : In n j a := by
  intro s hs; rw [e] at hs; cases hs

theorem In.of_append {α β γ} [HasSlices α] [HasSlices β] [HasSlices γ] {n j : Nat} {a : α} {b : β} {c : γ}
    (e : slices c = slices a ++ slices b) (ha : In n j a) (hb : In n j b) : In n j c := by
  intro s hs; rw [e] at hs
  exact (List.mem_append.1 hs).elim (ha s) (hb s)

theorem In.left {α β γ} [HasSlices α] [HasSlices β] [HasSlices γ] {n j : Nat} {a : α} {b : β} {c : γ}
    (e : slices c = slices a ++ slices b) (hc : In n j c) : In n j a :=
  fun s hs => hc s (by rw [e]; exact List.mem_append_left _ hs)

theorem In.right {α β γ} [HasSlices α] [HasSlices β] [HasSlices γ] {n j : Nat} {a : α} {b : β} {c : γ}
    (e : slices c = slices a ++ slices b) (hc : In n j c) : In n j b :=
  fun s hs => hc s (by rw [e]; exact List.mem_append_right _ hs)

theorem In.of_buf {n j : Nat} {s : Slice} (h1 : n ≤ s.buf) (h2 : s.buf < j) : In n j s := by
  intro x hx; cases List.mem_singleton.1 hx; exact ⟨h1, h2⟩

theorem In.buf {n j : Nat} {s : Slice} (h : In n j s) : n ≤ s.buf ∧ s.buf < j := h s List.mem_cons_self

theorem In.sub {n j : Nat} {s : Slice} (h : In n j s) (i k : Nat) : In n j (s.sub i k) :=
  In.of_buf h.buf.1 h.buf.2

theorem fr_sub {n : Nat} {s : Slice} (hs : n ≤ s.buf) (i j : Nat) : n ≤ (s.sub i j).buf := hs


/-- `h'` is `h` after allocations, and after stores that did not touch a buffer below `n` -/
def Ext (n : Nat) (h h' : Heap) : Prop := h.length ≤ h'.length ∧ ∀ k, k < n → h'.buffer k = h.buffer k

theorem Ext.refl (n : Nat) (h : Heap) : Ext n h h := ⟨Nat.le_refl _, fun _ _ => rfl⟩

theorem Ext.trans {n : Nat} {h₁ h₂ h₃ : Heap} (a : Ext n h₁ h₂) (b : Ext n h₂ h₃) : Ext n h₁ h₃ :=
  ⟨Nat.le_trans a.1 b.1, fun k hk => (b.2 k hk).trans (a.2 k hk)⟩

theorem Ext.read {n : Nat} {h h' : Heap} (e : Ext n h h') (s : Slice) (hs : s.buf < n) :
    h'.read s = h.read s := by
  unfold Heap.read; rw [e.2 _ hs]

theorem Ext.view {n : Nat} {h h' : Heap} (e : Ext n h h') (p : HPacket) (hp : p.below n) :
    p.view h' = p.view h := by
  unfold HPacket.view
  rw [e.read _ hp.1]
  congr 1
  apply List.map_congr_left
  intro ts hts
  rw [e.read _ (hp.2 ts hts)]

theorem buffer_append_left (h e : Heap) (k : Nat) (hk : k < h.length) : (h ++ e).buffer k = h.buffer k := by
  unfold Heap.buffer
  simp [List.getD_eq_getElem?_getD, List.getElem?_append_left hk]

theorem buffer_set_ne (h : Heap) (j k : Nat) (b : Bytes) (hne : k ≠ j) : Heap.buffer (h.set j b) k = h.buffer k := by
  unfold Heap.buffer
  simp [List.getD_eq_getElem?_getD, List.getElem?_set_ne hne.symm]

theorem ext_append (n : Nat) (h e : Heap) (hn : n ≤ h.length) : Ext n h (h ++ e) :=
  ⟨by simp, fun k hk => buffer_append_left h e k (by omega)⟩

theorem ext_set (n : Nat) (h : Heap) (j : Nat) (b : Bytes) (hj : n ≤ j) : Ext n h (h.set j b) :=
  ⟨by simp, fun k hk => buffer_set_ne h j k b (by omega)⟩

theorem length_write (h : Heap) (s : Slice) (i : Nat) (v : UInt8) : (h.write s i v).length = h.length := by
  unfold Heap.write
  split <;> simp

theorem write_fresh_ext (n : Nat) (h : Heap) (s : Slice) (i : Nat) (v : UInt8) (hs : n ≤ s.buf) :
    Ext n h (h.write s i v) := by
  unfold Heap.write
  split
  · exact ext_set n h _ _ hs
  · exact Ext.refl n h


/-- Started in any heap with at least `n` and at least `k` buffers, `m` leaves the buffers below `n` as they are
    and its result satisfies `Q` at the size of the heap it leaves.  `n` is fixed through a computation (the heap
    at the call), `k` grows with it: what a step allocated is known to exist in every later step. -/
def Obs {α} (n k : Nat) (m : M α) (Q : Nat → α → Prop) : Prop :=
  ∀ h, n ≤ h.length → k ≤ h.length → Ext n h (m h).2 ∧ Q (m h).2.length (m h).1

theorem obs_pure {α} {n k : Nat} {a : α} {Q : Nat → α → Prop} (hq : ∀ j, k ≤ j → Q j a) :
    Obs n k (pure a : M α) Q :=
  fun h _ hk => ⟨Ext.refl n h, hq _ hk⟩

theorem obs_skip {α} {n k : Nat} {a : α} : Obs n k (pure a : M α) (fun _ _ => True) :=
  obs_pure (fun _ _ => trivial)

theorem obs_nil {α} [HasSlices α] {n k : Nat} {a : α} (e : slices a = []) : Obs n k (pure a : M α) (In n) :=
  obs_pure (fun _ _ => In.of_nil e)

theorem obs_ret {α} [HasSlices α] {n k : Nat} {a : α} (h : In n k a) : Obs n k (pure a : M α) (In n) :=
  obs_pure (fun _ hj => h.mono hj)

/-- `hf a j hj q`: the rest runs on the result `a` in a heap of at least `j ≥ k` buffers, where `q : Q j a` holds;
    facts `In n j' x` from earlier steps are carried along by `In.mono` -/
theorem obs_bind {α β} {n k : Nat} {m : M α} {f : α → M β} {Q : Nat → α → Prop} {R : Nat → β → Prop}
    (hm : Obs n k m Q) (hf : ∀ a j, k ≤ j → Q j a → Obs n j (f a) R) : Obs n k (m >>= f) R := by
  intro h hn hk
  obtain ⟨e1, q⟩ := hm h hn hk
  obtain ⟨e2, r⟩ := hf (m h).1 _ (Nat.le_trans hk e1.1) q (m h).2 (Nat.le_trans hn e1.1) (Nat.le_refl _)
  exact ⟨e1.trans e2, r⟩

theorem obs_ite {α} {n k : Nat} {c : Prop} [Decidable c] {m₁ m₂ : M α} {Q : Nat → α → Prop}
    (h₁ : Obs n k m₁ Q) (h₂ : Obs n k m₂ Q) : Obs n k (if c then m₁ else m₂) Q := by
  split <;> assumption

theorem Obs.true {α} {n k : Nat} {m : M α} {Q : Nat → α → Prop} (hm : Obs n k m Q) :
    Obs n k m (fun _ _ => True) :=
  fun h hn hk => ⟨(hm h hn hk).1, trivial⟩

theorem obs_readS {n k : Nat} (s : Slice) : Obs n k (readS s) (fun _ _ => True) :=
  fun h _ _ => ⟨Ext.refl n h, trivial⟩

theorem obs_copyNew {n k : Nat} (d : Bytes) : Obs n k (copyNew d) (In n) :=
  fun h hn _ => ⟨ext_append n h [d] hn, In.of_buf hn (by simp [copyNew])⟩

theorem obs_writeRange {n : Nat} {s : Slice} (hs : n ≤ s.buf) (data : Bytes) :
    ∀ {k : Nat} (base : Nat), Obs n k (writeRange s base data) (fun _ _ => True) := by
  induction data with
  | nil => exact fun _ => obs_skip
  | cons b bs ih =>
    exact fun base => obs_bind (Q := fun _ _ => True) (fun h _ _ => ⟨write_fresh_ext n h s base b hs, trivial⟩)
      (fun _ _ _ _ => ih (base + 1))

theorem obs_appendS {n k : Nat} {s : Slice} (hs : In n k s) (d : Bytes) : Obs n k (appendS s d) (In n) :=
  fun h _ hk => ⟨ext_set n h _ _ hs.buf.1,
    In.of_buf hs.buf.1 (by show s.buf < (h.set _ _).length; rw [List.length_set]; exact Nat.lt_of_lt_of_le hs.buf.2 hk)⟩


theorem obs_bytesH {n k : Nat} (a : Slice) : Obs n k (bytesH a) (In n) :=
  obs_bind (obs_readS a) (fun av _ _ _ => obs_copyNew av)

theorem obs_stringH {n k : Nat} (a : Slice) : Obs n k (stringH a) (In n) := obs_bytesH a

theorem obs_scalar {β} {n k : Nat} (a : Slice) (f : Bytes → β) :
    Obs n k (do let av ← readS a; pure (f av) : M β) (fun _ _ => True) :=
  obs_bind (obs_readS a) (fun _ _ _ _ => obs_skip)

theorem obs_copyDecH {n k : Nat} (dec : Bytes → Res Bytes) (a : Slice) : Obs n k (copyDecH dec a) (In n) := by
  unfold copyDecH
  refine obs_bind (obs_readS a) (fun av _ _ _ => ?_)
  split
  · exact obs_bind (obs_copyNew _) (fun s _ _ hs => obs_ret hs)
  · exact obs_nil rfl
  · exact obs_nil rfl

theorem obs_vendorSpecificH {n k : Nat} (a : Slice) : Obs n k (vendorSpecificH a) (In n) := by
  unfold vendorSpecificH
  refine obs_bind (obs_readS a) (fun av _ _ _ => ?_)
  split
  · exact obs_bind (obs_copyNew _) (fun s _ _ hs => obs_ret hs)
  · exact obs_nil rfl
  · exact obs_nil rfl

theorem obs_tlvH {n k : Nat} (a : Slice) : Obs n k (tlvH a) (In n) := by
  unfold tlvH
  refine obs_bind (obs_readS a) (fun av _ _ _ => ?_)
  split
  · exact obs_bind (obs_copyNew _) (fun s _ _ hs => obs_ret hs)
  · exact obs_nil rfl
  · exact obs_nil rfl

theorem obs_ipv6PrefixH {n k : Nat} (a : Slice) : Obs n k (ipv6PrefixH a) (In n) := by
  unfold ipv6PrefixH
  refine obs_bind (obs_readS a) (fun av _ _ _ => ?_)
  split
  · exact obs_bind (obs_copyNew _) (fun s _ _ hs => obs_bind (obs_copyNew _) (fun s' _ hj hs' =>
      obs_pure (fun _ hj' => In.of_append rfl ((hs.mono hj).mono hj') (hs'.mono hj'))))
  · exact obs_nil rfl
  · exact obs_nil rfl


theorem obs_upBlocksH {n : Nat} (H : Hash) (sv : Bytes) (blocks : List Bytes) :
    ∀ {k : Nat} (dec : Slice) (i : Nat) (prev : Bytes), In n k dec →
      Obs n k (upBlocksH H sv dec i prev blocks) (In n) := by
  induction blocks with
  | nil => intro k dec i prev hd; exact obs_ret hd
  | cons blk rest ih =>
    intro k dec i prev hd
    unfold upBlocksH
    refine obs_bind (obs_appendS hd _) (fun dec' _ _ hd' => ?_)
    refine obs_bind (obs_readS _) (fun cur _ h2 _ => ?_)
    refine obs_bind (obs_writeRange hd'.buf.1 _ i) (fun _ _ h3 _ => ?_)
    exact ih dec' (i + 16) blk ((hd'.mono h2).mono h3)

theorem obs_userPasswordH {n k : Nat} (H : Hash) (a secret : Slice) (ra : Bytes) :
    Obs n k (userPasswordH H a secret ra) (In n) := by
  unfold userPasswordH
  refine obs_bind (obs_readS a) (fun av _ _ _ => obs_bind (obs_readS secret) (fun sv _ _ _ => ?_))
  have herr : ∀ {j}, Obs n j (pure .err : M (Res Slice)) (In n) := obs_nil rfl
  refine obs_ite herr (obs_ite herr (obs_ite herr ?_))
  refine obs_bind (obs_copyNew []) (fun dec _ _ hd => ?_)
  refine obs_bind (obs_upBlocksH H sv _ dec 0 ra hd) (fun dec' _ _ hd' => ?_)
  exact obs_bind (obs_readS dec') (fun dv _ h1 _ => obs_pure (fun _ h2 => ((hd'.mono h1).mono h2).sub _ _))

theorem obs_tunnelPasswordH {n k : Nat} (H : Hash) (a secret : Slice) (ra : Bytes) :
    Obs n k (tunnelPasswordH H a secret ra) (In n) := by
  unfold tunnelPasswordH
  refine obs_bind (obs_readS a) (fun av _ _ _ => obs_bind (obs_readS secret) (fun sv _ _ _ => ?_))
  split
  · refine obs_bind (obs_copyNew _) (fun salt _ _ hs => obs_bind (obs_copyNew _) (fun pt _ h1 hp => ?_))
    refine obs_bind (obs_writeRange hp.buf.1 _ 0) (fun _ _ h2 _ => obs_pure (fun _ h3 => ?_))
    exact In.of_append rfl (((hp.mono h2).mono h3).sub _ _) (((hs.mono h1).mono h2).mono h3)
  · exact obs_nil rfl
  · exact obs_nil rfl

theorem obs_tpPlainH {n k : Nat} (H : Hash) (a secret : Slice) (ra : Bytes) :
    Obs n k (tpPlainH H a secret ra) (In n) := by
  unfold tpPlainH
  refine obs_bind (obs_tunnelPasswordH H a secret ra) (fun r _ _ hr => ?_)
  split
  · exact obs_ret (In.left rfl hr)
  · exact obs_nil rfl
  · exact obs_nil rfl


theorem vsaGetsH_buf (typ : UInt8) (vsa : Slice) (bytes : Bytes) :
    ∀ s ∈ vsaGetsH typ vsa bytes, s.buf = vsa.buf := by
  fun_induction vsaGetsH typ vsa bytes with
  | case1 => intro s hs; cases hs
  | case2 vsa bytes sub rest hh ih =>
    intro s hs
    rcases List.mem_cons.1 hs with rfl | hs
    · rfl
    · exact ih s hs
  | case3 vsa bytes t sub rest hh ht ih => exact ih

theorem in_vsaGetsH {n j : Nat} {vsa : Slice} (hv : In n j vsa) (typ : UInt8) (bytes : Bytes) :
    In n j (vsaGetsH typ vsa bytes) := by
  intro s hs
  obtain ⟨x, hx, hs⟩ := List.mem_flatMap.1 hs
  cases List.mem_singleton.1 hs
  rw [vsaGetsH_buf typ vsa bytes s hx]; exact hv.buf

theorem obs_getsVendorH {n : Nat} (vid : Nat) (typ : UInt8) (attrs : List (Int × Slice)) :
    ∀ {k : Nat}, Obs n k (getsVendorH vid typ attrs) (In n) := by
  induction attrs with
  | nil => exact obs_nil rfl
  | cons ts rest ih =>
    intro k
    unfold getsVendorH
    refine obs_ite ih (obs_bind (obs_vendorSpecificH ts.2) (fun r _ _ hr => ?_))
    split
    · rename_i id vsa
      refine obs_ite ih (obs_bind (obs_readS _) (fun bytes _ h1 _ => obs_bind ih (fun tl _ h2 htl => ?_)))
      exact obs_pure (fun _ h3 => In.of_append (slices_append _ _)
        (in_vsaGetsH (((In.right (a := id) (b := vsa) rfl hr).mono h1).mono h2) typ bytes) htl |>.mono h3)
    · exact ih

theorem obs_lookupVendorH {n k : Nat} (vid : Nat) (typ : UInt8) (attrs : List (Int × Slice)) :
    Obs n k (lookupVendorH vid typ attrs) (In n) := by
  unfold lookupVendorH
  refine obs_bind (obs_getsVendorH vid typ attrs) (fun vs _ _ hvs => obs_pure (fun _ hj => ?_))
  cases vs with
  | nil => exact In.of_nil rfl
  | cons v rest => exact (In.left (b := rest) rfl hvs).mono hj


theorem in_okBytes {n j : Nat} {r : Res Slice} (t : UInt8) (hr : In n j r) : In n j (okBytes t r) := by
  cases r with
  | ok s => exact hr
  | err => exact In.of_nil rfl
  | fault => exact In.of_nil rfl

/-- The decoding statement of a text getter, by `encrypt=`.  `decodeValueH` and `lookupResultsH` contain this
    `match` inline (Model/Prov.lean); the definition is reducible, so `obs_textDecH` and `textDecH_shows` apply to
    those bodies as they stand, after `unfold` / `simp only [decodeValueH, hk]`. -/
@[reducible] def textDecH (H : Hash) (d : Desc) (s secret : Slice) (auth : Bytes) : M (Res Slice) :=
  match d.encrypt with
  | 1 => userPasswordH H s secret auth
  | 2 => tpPlainH H s secret auth
  | _ => do let x ← bytesH s; pure (.ok x)

/-- the optional salt decryption in front of a non-text decoder; inline in `decodeValueH` and `lookupResultsH`,
    used there like `textDecH` -/
@[reducible] def saltFirstH (H : Hash) (d : Desc) (a secret : Slice) (auth : Bytes) : M (Res Slice) :=
  if d.usesSalt then tpPlainH H a secret auth else pure (.ok a)

theorem obs_textDecH {n k : Nat} (H : Hash) (d : Desc) (s secret : Slice) (auth : Bytes) :
    Obs n k (textDecH H d s secret auth) (In n) := by
  unfold textDecH
  split
  · exact obs_userPasswordH H s secret auth
  · exact obs_tpPlainH H s secret auth
  · exact obs_bind (obs_bytesH s) (fun x _ _ hx => obs_ret hx)

theorem obs_saltFirstH {n k : Nat} (H : Hash) (d : Desc) (a secret : Slice) (auth : Bytes) :
    Obs n k (saltFirstH H d a secret auth) (fun _ _ => True) :=
  obs_ite (obs_tpPlainH H a secret auth).true obs_skip

theorem obs_tagStripIntH {n k : Nat} (a : Slice) : Obs n k (tagStripIntH a) (fun _ _ => True) := by
  unfold tagStripIntH
  refine obs_bind (obs_readS a) (fun av _ _ _ => obs_ite ?_ obs_skip)
  exact obs_bind (obs_readS _) (fun rest _ _ _ => obs_bind (obs_copyNew _) (fun c _ _ _ =>
    obs_skip))

theorem obs_readIte {β} [HasSlices β] {n k : Nat} (a : Slice) (c : Bytes → Prop) [DecidablePred c] (x y : Bytes → β)
    (hx : ∀ av, slices (x av) = []) (hy : ∀ av, slices (y av) = []) :
    Obs n k (do let av ← readS a; if c av then pure (x av) else pure (y av) : M β) (In n) :=
  obs_bind (obs_readS a) (fun av _ _ _ =>
    obs_ite (obs_nil (hx av)) (obs_nil (hy av)))

theorem obs_decodeValueH {n k : Nat} (H : Hash) (d : Desc) (a secret : Slice) (auth : Bytes) :
    Obs n k (decodeValueH H d a secret auth) (In n) := by
  have herr : ∀ {j}, Obs n j (pure .err : M (Res (UInt8 × GValH))) (In n) := obs_nil rfl
  have hfault : ∀ {j}, Obs n j (pure .fault : M (Res (UInt8 × GValH))) (In n) := obs_nil rfl
  unfold decodeValueH
  cases hk : d.kind <;> simp only []
  case string | octets | concat =>
    refine obs_bind (obs_readS a) (fun av _ _ _ => obs_bind (obs_textDecH H d _ secret auth) (fun r _ _ hr => ?_))
    split
    · exact obs_ite herr (obs_ret hr)
    · exact herr
    · exact hfault
  case ipaddr | ipv6addr =>
    refine obs_bind (obs_saltFirstH H d a secret auth) (fun r _ _ _ => ?_)
    split
    · exact obs_bind (obs_ite (obs_copyDecH _ _) (obs_copyDecH _ _)) (fun ip _ _ hip =>
        obs_ret (in_okBytes 0 hip))
    · exact herr
    · exact hfault
  case ifid =>
    exact obs_bind (obs_copyDecH _ a) (fun x _ _ hx => obs_ret (in_okBytes 0 hx))
  case ipv6prefix =>
    refine obs_bind (obs_ipv6PrefixH a) (fun r _ _ hr => ?_)
    split
    · exact obs_ret hr
    · exact herr
    · exact hfault
  case date =>
    refine obs_bind (obs_scalar a date) (fun r _ _ _ => ?_)
    split
    · exact obs_nil rfl
    · exact herr
    · exact hfault
  case byte => exact obs_readIte a _ _ _ (fun _ => rfl) (fun _ => rfl)
  case integer | integer64 | short =>
    simp only [Kind.intBytes]
    refine obs_ite (obs_bind (obs_tagStripIntH a) (fun ta _ _ _ => obs_readIte ta.2 _ _ _ (fun _ => rfl) (fun _ => rfl)))
      (obs_bind (obs_saltFirstH H d a secret auth) (fun r _ _ _ => ?_))
    split
    · exact obs_readIte _ _ _ _ (fun _ => rfl) (fun _ => rfl)
    · exact herr
    · exact hfault

theorem obs_rawSlicesH {n k : Nat} (d : Desc) (p : HPacket) : Obs n k (rawSlicesH d p) (fun _ _ => True) :=
  obs_ite obs_skip (obs_getsVendorH _ _ _).true

theorem obs_concatLoopH {n : Nat} (raws : List Slice) :
    ∀ {k : Nat} (value : Slice), In n k value → Obs n k (concatLoopH raws value) (In n) := by
  induction raws with
  | nil => intro k value hv; exact obs_ret hv
  | cons a rest ih =>
    intro k value hv
    unfold concatLoopH
    exact obs_bind (obs_bytesH a) (fun i _ h1 _ => obs_bind (obs_readS i) (fun iv _ h2 _ =>
      obs_bind (obs_appendS ((hv.mono h1).mono h2) iv) (fun value' _ _ hv' => ih value' hv')))

theorem obs_concatStrLoopH {n : Nat} (raws : List Slice) :
    ∀ {k : Nat} (value : Slice), In n k value → Obs n k (concatStrLoopH raws value) (In n) := by
  induction raws with
  | nil => intro k value hv; exact obs_ret hv
  | cons a rest ih =>
    intro k value hv
    unfold concatStrLoopH
    exact obs_bind (obs_stringH a) (fun i _ _ _ => obs_bind (obs_readS i) (fun iv _ _ _ =>
      obs_bind (obs_readS value) (fun vv _ _ _ => obs_bind (obs_copyNew _) (fun value' _ _ hv' => ih value' hv'))))

/-- the common shape of `X_Lookup`, `X_Get`, `X_LookupString`, `X_GetString` once the stored slices are
    known: a concat attribute runs `loop` over all of them on a new buffer, any other kind runs `body`
    on the first one; `z` is returned when the attribute is absent.  `hLookupH`, `hGetH`, `hLookupStringH` and
    `hGetStringH` are `getterH` with their own `loop`, `z`, `c`, `body`, by `rfl` (`hLookupH_eq` …); their frame
    and agreement lemmas are `obs_getterH` and `getterH_seen` at these instances. -/
def pickH {α} (d : Desc) (loop : List Slice → Slice → M Slice) (z : α) (c : Slice → α) (body : Slice → M α)
    (raws : List Slice) : M α :=
  if d.kind = .concat then
    match raws with
    | [] => pure z
    | _ => do
      let value ← copyNew []
      let value ← loop raws value
      pure (c value)
  else
  match raws.head? with
  | none => pure z
  | some a => body a

def getterH {α} (d : Desc) (p : HPacket) (loop : List Slice → Slice → M Slice) (z : α) (c : Slice → α)
    (body : Slice → M α) : M α := do
  let raws ← rawSlicesH d p
  pickH d loop z c body raws

theorem hLookupH_eq (H : Hash) (d : Desc) (p : HPacket) (auth : Bytes) :
    hLookupH H d p auth = getterH d p concatLoopH .noAttr (fun v => .val 0 (.bytes v)) (fun a => do
      let r ← decodeValueH H d a p.secret auth
      match r with
      | .ok (t, v) => pure (.val t v)
      | _ => pure .err) := rfl

theorem hGetH_eq (H : Hash) (d : Desc) (p : HPacket) (auth : Bytes) :
    hGetH H d p auth = getterH d p concatLoopH (0, none) (fun v => (0, some (.bytes v)))
      (fun a => lookupResultsH H d a p.secret auth) := rfl

theorem hLookupStringH_eq (H : Hash) (d : Desc) (p : HPacket) (auth : Bytes) :
    hLookupStringH H d p auth = getterH d p concatStrLoopH .noAttr (fun v => .val 0 (.bytes v)) (fun a => do
      let r ← lookupStringBodyH H d a p.secret auth
      match r with
      | ((t, some v), false) => pure (.val t v)
      | _ => pure .err) := rfl

theorem hGetStringH_eq (H : Hash) (d : Desc) (p : HPacket) (auth : Bytes) :
    hGetStringH H d p auth = getterH d p concatStrLoopH (0, none) (fun v => (0, some (.bytes v))) (fun a => do
      let r ← lookupStringBodyH H d a p.secret auth
      pure r.1) := rfl

theorem obs_getterH {α} [HasSlices α] {n k : Nat} (d : Desc) (p : HPacket) {loop : List Slice → Slice → M Slice}
    {z : α} {c : Slice → α} {body : Slice → M α}
    (hloop : ∀ raws {j} value, In n j value → Obs n j (loop raws value) (In n))
    (hz : slices z = []) (hc : ∀ {j v}, In n j v → In n j (c v)) (hbody : ∀ a {j}, Obs n j (body a) (In n)) :
    Obs n k (getterH d p loop z c body) (In n) := by
  unfold getterH pickH
  refine obs_bind (obs_rawSlicesH d p) (fun raws _ _ _ => obs_ite ?_ ?_)
  · split
    · exact obs_nil hz
    · exact obs_bind (obs_copyNew []) (fun value _ _ hv => obs_bind (hloop raws value hv) (fun value' _ _ hv' =>
        obs_pure (fun _ hj => hc (hv'.mono hj))))
  · split
    · exact obs_nil hz
    · exact hbody _

theorem obs_hLookupH {n k : Nat} (H : Hash) (d : Desc) (p : HPacket) (auth : Bytes) :
    Obs n k (hLookupH H d p auth) (In n) := by
  refine obs_getterH d p obs_concatLoopH rfl (fun h => h) (fun a _ =>
    obs_bind (obs_decodeValueH H d a p.secret auth) (fun r _ _ hr => ?_))
  split
  · exact obs_ret hr
  · exact obs_nil rfl

theorem In.gets_cons {n j : Nat} {tv : UInt8 × GValH} {tl : List (UInt8 × GValH) × Bool}
    (hv : In n j tv) (htl : In n j tl) : In n j (tv :: tl.1, tl.2) :=
  In.of_append (a := tv :: tl.1) (b := tl.2) rfl
    (In.of_append (a := tv) (b := tl.1) rfl hv (In.left (b := tl.2) rfl htl)) (In.of_nil rfl)

theorem obs_hGetsGoH {n : Nat} (H : Hash) (d : Desc) (secret : Slice) (auth : Bytes) (raws : List Slice) :
    ∀ {k : Nat}, Obs n k (hGetsGoH H d secret auth raws) (In n) := by
  induction raws with
  | nil => exact obs_nil rfl
  | cons a rest ih =>
    intro k
    unfold hGetsGoH
    refine obs_bind (obs_decodeValueH H d a secret auth) (fun r _ _ hr => ?_)
    split
    · rename_i tv
      exact obs_bind ih (fun tl _ h1 htl => obs_pure (fun _ h2 => (In.gets_cons (tv := tv) (hr.mono h1) htl).mono h2))
    · exact obs_nil rfl

theorem obs_hGetsH {n k : Nat} (H : Hash) (d : Desc) (p : HPacket) (auth : Bytes) :
    Obs n k (hGetsH H d p auth) (In n) :=
  obs_bind (obs_rawSlicesH d p) (fun raws _ _ _ => obs_hGetsGoH H d p.secret auth raws)


theorem obs_lookupResultsH {n k : Nat} (H : Hash) (d : Desc) (a secret : Slice) (auth : Bytes) :
    Obs n k (lookupResultsH H d a secret auth) (In n) := by
  have hnone : ∀ {j} {t : UInt8}, Obs n j (pure (t, none) : M (UInt8 × Option GValH)) (In n) :=
    obs_nil rfl
  unfold lookupResultsH
  cases hk : d.kind <;> simp only []
  case string | octets | concat =>
    refine obs_bind (obs_readS a) (fun av _ _ _ => obs_bind (obs_textDecH H d _ secret auth) (fun r _ _ hr => ?_))
    split
    · exact obs_ret hr
    · exact hnone
    · exact hnone
  case ipaddr | ipv6addr =>
    refine obs_bind (obs_saltFirstH H d a secret auth) (fun r _ _ _ => ?_)
    split
    · refine obs_bind (obs_ite (obs_copyDecH _ _) (obs_copyDecH _ _)) (fun ip _ _ hip => ?_)
      split
      · exact obs_ret hip
      · exact hnone
      · exact hnone
    · exact hnone
    · exact hnone
  case ifid =>
    refine obs_bind (obs_copyDecH _ a) (fun x _ _ hx => ?_)
    split
    · exact obs_ret hx
    · exact hnone
    · exact hnone
  case ipv6prefix =>
    refine obs_bind (obs_ipv6PrefixH a) (fun r _ _ hr => ?_)
    split
    · exact obs_ret hr
    · exact hnone
    · exact hnone
  case date =>
    refine obs_bind (obs_scalar a date) (fun r _ _ _ => ?_)
    split
    · exact obs_nil rfl
    · exact hnone
    · exact hnone
  case byte => exact obs_readIte a _ _ _ (fun _ => rfl) (fun _ => rfl)
  case integer | integer64 | short =>
    simp only [Kind.intBytes]
    refine obs_ite (obs_bind (obs_tagStripIntH a) (fun ta _ _ _ => obs_readIte ta.2 _ _ _ (fun _ => rfl) (fun _ => rfl)))
      (obs_bind (obs_saltFirstH H d a secret auth) (fun r _ _ _ => ?_))
    split
    · exact obs_readIte _ _ _ _ (fun _ => rfl) (fun _ => rfl)
    · exact hnone
    · exact hnone

theorem obs_hGetH {n k : Nat} (H : Hash) (d : Desc) (p : HPacket) (auth : Bytes) :
    Obs n k (hGetH H d p auth) (In n) :=
  obs_getterH d p obs_concatLoopH rfl (fun h => h) (fun a _ => obs_lookupResultsH H d a p.secret auth)

theorem obs_strOfResH {n k : Nat} (r : Res Slice) : Obs n k (strOfResH r) (In n) := by
  unfold strOfResH
  split
  · exact obs_bind (obs_stringH _) (fun s _ _ hs => obs_ret hs)
  · exact obs_nil rfl
  · exact obs_nil rfl

/-- the decoding statement of `X_LookupString`, by `encrypt=`; inline in `lookupStringBodyH`, used there like
    `textDecH` -/
@[reducible] def textStrDecH (H : Hash) (d : Desc) (s secret : Slice) (auth : Bytes) : M (Res Slice) :=
  match d.encrypt with
  | 1 => do let b ← userPasswordH H s secret auth; strOfResH b
  | 2 => do let b ← tpPlainH H s secret auth; strOfResH b
  | _ => do let x ← stringH s; pure (.ok x)

theorem obs_textStrDecH {n k : Nat} (H : Hash) (d : Desc) (s secret : Slice) (auth : Bytes) :
    Obs n k (textStrDecH H d s secret auth) (In n) := by
  unfold textStrDecH
  split
  · exact obs_bind (obs_userPasswordH H s secret auth) (fun b _ _ _ => obs_strOfResH b)
  · exact obs_bind (obs_tpPlainH H s secret auth) (fun b _ _ _ => obs_strOfResH b)
  · exact obs_bind (obs_stringH s) (fun x _ _ hx => obs_ret hx)

theorem obs_lookupStringBodyH {n k : Nat} (H : Hash) (d : Desc) (a secret : Slice) (auth : Bytes) :
    Obs n k (lookupStringBodyH H d a secret auth) (In n) := by
  unfold lookupStringBodyH
  refine obs_bind (obs_readS a) (fun av _ _ _ => obs_bind (obs_textStrDecH H d _ secret auth) (fun r _ _ hr => ?_))
  split
  · exact obs_ret hr
  · exact obs_nil rfl
  · exact obs_nil rfl

theorem obs_hLookupStringH {n k : Nat} (H : Hash) (d : Desc) (p : HPacket) (auth : Bytes) :
    Obs n k (hLookupStringH H d p auth) (In n) := by
  refine obs_getterH d p obs_concatStrLoopH rfl (fun h => h) (fun a _ =>
    obs_bind (obs_lookupStringBodyH H d a p.secret auth) (fun r _ _ hr => ?_))
  split
  · rename_i t v
    exact obs_ret (In.left (a := (t, some v)) (b := false) rfl hr)
  · exact obs_nil rfl

theorem obs_hGetStringH {n k : Nat} (H : Hash) (d : Desc) (p : HPacket) (auth : Bytes) :
    Obs n k (hGetStringH H d p auth) (In n) :=
  obs_getterH d p obs_concatStrLoopH rfl (fun h => h) (fun a _ =>
    obs_bind (obs_lookupStringBodyH H d a p.secret auth) (fun r _ _ hr =>
      obs_ret (In.left (a := r.1) (b := r.2) rfl hr)))

theorem obs_hGetStringsGoH {n : Nat} (H : Hash) (d : Desc) (secret : Slice) (auth : Bytes) (raws : List Slice) :
    ∀ {k : Nat}, Obs n k (hGetStringsGoH H d secret auth raws) (In n) := by
  induction raws with
  | nil => exact obs_nil rfl
  | cons a rest ih =>
    intro k
    unfold hGetStringsGoH
    refine obs_bind (obs_lookupStringBodyH H d a secret auth) (fun r _ _ hr => ?_)
    split
    · rename_i t v
      exact obs_bind ih (fun tl _ h1 htl => obs_pure (fun _ h2 =>
        (In.gets_cons (tv := (t, v)) ((In.left (a := (t, some v)) (b := false) rfl hr).mono h1) htl).mono h2))
    · exact obs_nil rfl

theorem obs_hGetStringsH {n k : Nat} (H : Hash) (d : Desc) (p : HPacket) (auth : Bytes) :
    Obs n k (hGetStringsH H d p auth) (In n) :=
  obs_bind (obs_rawSlicesH d p) (fun raws _ _ _ => obs_hGetStringsGoH H d p.secret auth raws)


theorem obs_parseAttrsH {n k : Nat} (b : Slice) (acc : List (Int × Slice))
    (hacc : ∀ ts ∈ acc, n ≤ ts.2.buf) :
    Obs n k (parseAttrsH b acc) (fun _ r => ∀ attrs, r = .ok attrs → ∀ ts ∈ attrs, n ≤ ts.2.buf) := by
  intro h hn hk
  clear hk  -- the postcondition ignores the size; kept, `hk` would be carried through the induction
  fun_induction parseAttrsH b acc h with
  | case1 b acc h hz =>
    exact ⟨Ext.refl n h, by intro attrs e; cases e; exact hacc⟩
  | case2 b acc h hz h2 => exact ⟨Ext.refl n h, by intro attrs e; cases e⟩
  | case3 b acc h hz h2 hg => exact ⟨Ext.refl n h, by intro attrs e; cases e⟩
  | case4 b acc h hz h2 hg r ih =>
    have hc := obs_copyNew (k := n) (h.read (b.sub 2 ((h.read b).getD 1 0).toNat)) h hn hn
    have := ih (by
      intro ts hts
      rcases List.mem_append.1 hts with hts | hts
      · exact hacc ts hts
      · cases List.mem_singleton.1 hts; exact hc.2.buf.1) (Nat.le_trans hn hc.1.1)
    exact ⟨hc.1.trans this.1, this.2⟩

theorem obs_parseH {n k : Nat} (b secret : Slice) :
    Obs n k (parseH b secret)
      (fun _ r => ∀ p, r = .ok p → p.secret = secret ∧ ∀ ts ∈ p.attrs, n ≤ ts.2.buf) := by
  have herr : ∀ {j}, Obs n j (pure .err : M (Res HPacket))
      (fun _ r => ∀ p, r = .ok p → p.secret = secret ∧ ∀ ts ∈ p.attrs, n ≤ ts.2.buf) :=
    obs_pure (fun _ _ p e => by cases e)
  unfold parseH
  refine obs_bind (obs_readS b) (fun bv _ _ _ => obs_ite herr (obs_ite herr ?_))
  refine obs_bind (obs_parseAttrsH _ [] (fun ts hts => by cases hts)) (fun r _ _ hr => ?_)
  split
  · rename_i attrs
    refine obs_bind (obs_readS _) (fun auth _ _ _ => obs_pure (fun _ _ p e => ?_))
    cases e
    exact ⟨rfl, hr attrs rfl⟩
  · exact herr
  · exact obs_pure (fun _ _ p e => by cases e)

theorem obs_marshalH {n k : Nat} (p : HPacket) : Obs n k (marshalH p) (In n) := by
  intro h hn hk
  unfold marshalH
  split
  · exact obs_copyNew _ h hn hk
  · exact ⟨Ext.refl n h, In.of_nil rfl⟩
  · exact ⟨Ext.refl n h, In.of_nil rfl⟩

theorem obs_encodeH {n k : Nat} (H : Hash) (p : HPacket) : Obs n k (encodeH H p) (In n) := by
  unfold encodeH
  refine obs_bind (Q := fun _ _ => True) (fun h _ _ => ⟨Ext.refl n h, trivial⟩) (fun pv _ _ _ => ?_)
  refine obs_bind (obs_marshalH p) (fun r _ _ hr => ?_)
  split
  · rename_i b
    have hb : ∀ {j}, In n j b → Obs n j (pure (.ok b) : M (Res Slice)) (In n) :=
      fun hb => obs_ret hb
    refine obs_bind (obs_readS b) (fun bv _ h1 _ => ?_)
    split
    · exact hb (hr.mono h1)
    · exact obs_bind (obs_writeRange hr.buf.1 _ 4) (fun _ _ h2 _ => hb ((hr.mono h1).mono h2))
    · exact obs_bind (obs_writeRange hr.buf.1 _ 4) (fun _ _ h2 _ => hb ((hr.mono h1).mono h2))
    · exact obs_nil rfl
  · exact obs_nil rfl
  · exact obs_nil rfl

theorem obs_isAuthenticResponseH {n k : Nat} (H : Hash) (response request secret : Slice) :
    Obs n k (isAuthenticResponseH H response request secret) (fun _ _ => True) :=
  obs_bind (obs_readS _) (fun _ _ _ _ => obs_bind (obs_readS _) (fun _ _ _ _ => obs_scalar _ _))

theorem obs_isAuthenticRequestH {n k : Nat} (H : Hash) (request secret : Slice) :
    Obs n k (isAuthenticRequestH H request secret) (fun _ _ => True) :=
  obs_bind (obs_readS _) (fun _ _ _ _ => obs_scalar _ _)

theorem obs_dumpAttrsH {n : Nat} (H : Hash) (p : HPacket) (attrs : List (Int × Slice)) :
    ∀ {k : Nat}, Obs n k (dumpAttrsH H p attrs) (fun _ _ => True) := by
  induction attrs with
  | nil => exact obs_skip
  | cons ts rest ih =>
    intro k
    unfold dumpAttrsH
    exact obs_bind (obs_readS _) (fun av _ _ _ => obs_bind (obs_userPasswordH H _ _ _) (fun _ _ _ _ =>
      obs_bind ih (fun _ _ _ _ => obs_skip)))

theorem obs_taggedIntLookupH {n k : Nat} (typ : Int) (w : Nat) (p : HPacket) :
    Obs n k (taggedIntLookupH typ w p) (fun _ _ => True) := by
  unfold taggedIntLookupH
  cases lookupRaw p.attrs typ with
  | none => exact obs_skip
  | some a =>
    exact obs_bind (obs_tagStripIntH a) (fun ta _ _ _ => obs_bind (obs_readS _) (fun av _ _ _ =>
      obs_ite obs_skip obs_skip))


theorem Obs.call {α} {m : M α} {Q : Nat → α → Prop} (h : Heap) (hm : Obs h.length h.length m Q) :
    Ext h.length h (m h).2 ∧ Q (m h).2.length (m h).1 := hm h (Nat.le_refl _) (Nat.le_refl _)

/-- the frame rule without the upper bound -/
def Tr {α} (n : Nat) (m : M α) (Q : α → Prop) : Prop :=
  ∀ h, n ≤ h.length → Ext n h (m h).2 ∧ Q (m h).1

theorem Obs.tr {α} {n : Nat} {m : M α} {Q : α → Prop} (hm : Obs n n m (fun _ => Q)) : Tr n m Q :=
  fun h hn => hm h hn hn

theorem tr_call {α} {m : M α} {Q : α → Prop} (h : Heap) (hm : Tr h.length m Q) :
    Ext h.length h (m h).2 ∧ Q (m h).1 := hm h (Nat.le_refl _)


/-- the call leaves every buffer that existed before it unchanged -/
def PureObs {α} (m : M α) : Prop := ∀ h, Ext h.length h (m h).2

/-- every slice in the result points into a buffer allocated by the call -/
def FreshObs {α} [HasSlices α] (m : M α) : Prop := ∀ h, ∀ s ∈ slices (m h).1, h.length ≤ s.buf

theorem Obs.pureObs {α} {m : M α} {Q : Nat → Nat → α → Prop} (hm : ∀ {n}, Obs n n m (Q n)) : PureObs m :=
  fun h => (Obs.call h hm).1

theorem Obs.freshObs {α} [HasSlices α] {m : M α} (hm : ∀ {n}, Obs n n m (In n)) : FreshObs m :=
  fun h s hs => ((Obs.call h hm).2 s hs).1

theorem Obs.bound {α} [HasSlices α] {m : M α} (hm : ∀ {n}, Obs n n m (In n)) (h : Heap) :
    ∀ s ∈ slices (m h).1, s.buf < (m h).2.length :=
  fun s hs => ((Obs.call h hm).2 s hs).2

theorem PureObs.packet_unchanged {α} {m : M α} (hm : PureObs m) (h : Heap) (p : HPacket)
    (hp : p.below h.length) : p.view (m h).2 = p.view h := (hm h).view p hp

theorem PureObs.input_unchanged {α} {m : M α} (hm : PureObs m) (h : Heap) (s : Slice)
    (hs : s.buf < h.length) : (m h).2.read s = h.read s := (hm h).read s hs

theorem FreshObs.write_preserves {α} [HasSlices α] {m : M α} (hf : FreshObs m) (h : Heap)
    (s : Slice) (hs : s ∈ slices (m h).1) (i : Nat) (v : UInt8) (p : HPacket) (hp : p.below h.length)
    (old : Slice) (hold : old.buf < h.length) :
    p.view ((m h).2.write s i v) = p.view (m h).2 ∧ ((m h).2.write s i v).read old = (m h).2.read old := by
  have e := write_fresh_ext h.length (m h).2 s i v (hf h s hs)
  exact ⟨e.view p hp, e.read old hold⟩


@[simp] theorem bind_apply {α β} (m : M α) (f : α → M β) (h : Heap) : (m >>= f) h = f (m h).1 (m h).2 := rfl
@[simp] theorem pure_apply {α} (a : α) (h : Heap) : (pure a : M α) h = (a, h) := rfl
@[simp] theorem readS_apply (s : Slice) (h : Heap) : readS s h = (h.read s, h) := rfl
@[simp] theorem copyNew_apply (d : Bytes) (h : Heap) : copyNew d h = (⟨h.length, 0, d.length⟩, h ++ [d]) := rfl

theorem buffer_mid (g e : Heap) (B : Bytes) : (g ++ B :: e).buffer g.length = B := by
  simp [Heap.buffer, List.getD_eq_getElem?_getD]

theorem read_mid (g e : Heap) (B : Bytes) (off len : Nat) :
    (g ++ B :: e).read ⟨g.length, off, len⟩ = (B.drop off).take len := by
  unfold Heap.read; rw [buffer_mid]

theorem read_new (h : Heap) (d : Bytes) (e : Heap) : Heap.read (h ++ d :: e) ⟨h.length, 0, d.length⟩ = d := by
  rw [read_mid, List.drop_zero, List.take_length]

@[simp] theorem read_new1 (h : Heap) (d : Bytes) : Heap.read (h ++ [d]) ⟨h.length, 0, d.length⟩ = d :=
  read_new h d []

@[simp] theorem read_new2 (h : Heap) (d e : Bytes) : Heap.read (h ++ [d] ++ [e]) ⟨h.length, 0, d.length⟩ = d := by
  rw [List.append_assoc]; exact read_new h d [e]

@[simp] theorem read_new2' (h : Heap) (d e : Bytes) :
    Heap.read (h ++ [d] ++ [e]) ⟨(h ++ [d]).length, 0, e.length⟩ = e := read_new (h ++ [d]) e []

theorem read_sub_from (h : Heap) (s : Slice) (i : Nat) : h.read (s.sub i s.len) = (h.read s).drop i := by
  simp [Heap.read, Slice.sub, List.drop_take, List.drop_drop, Nat.add_comm]

def viewRes (h : Heap) : Res Slice → Res Bytes
  | .ok s => .ok (h.read s)
  | .err => .err
  | .fault => .fault

/-- `radius.Bytes` returns a copy holding the bytes of `a` -/
theorem bytesH_view (a : Slice) (h : Heap) : (bytesH a h).2.read (bytesH a h).1 = bytesOf (h.read a) := by
  simp [bytesH, bytesOf]

theorem copyDecH_view (dec : Bytes → Res Bytes) (a : Slice) (h : Heap) :
    viewRes (copyDecH dec a h).2 (copyDecH dec a h).1 = dec (h.read a) := by
  simp only [copyDecH, bind_apply, readS_apply]
  cases hd : dec (h.read a) <;> simp [viewRes]

theorem ipAddrH_view (a : Slice) (h : Heap) : viewRes (ipAddrH a h).2 (ipAddrH a h).1 = ipAddr (h.read a) :=
  copyDecH_view _ a h

/-- tag stripping is a re-slice of the same buffer showing the bytes after the tag -/
theorem tagStripH_view (a : Slice) (h : Heap) :
    (tagStripH (h.read a) a).2.buf = a.buf ∧
    ((tagStripH (h.read a) a).1, h.read (tagStripH (h.read a) a).2) =
      (if (h.read a).length ≥ 1 ∧ ((h.read a).getD 0 0).toNat ≤ 0x1F then ((h.read a).getD 0 0, (h.read a).drop 1)
       else (0, h.read a)) := by
  unfold tagStripH
  split
  · exact ⟨rfl, by rw [read_sub_from]⟩
  · exact ⟨rfl, rfl⟩

theorem tagStripIntH_apply (a : Slice) (h : Heap) :
    tagStripIntH a h =
      if (h.read a).length ≥ 1 ∧ ((h.read a).getD 0 0).toNat ≤ 0x1F then
        (((h.read a).getD 0 0, ⟨h.length, 0, ((0 : UInt8) :: (h.read a).drop 1).length⟩),
         h ++ [(0 : UInt8) :: (h.read a).drop 1])
      else ((0, a), h) := by
  by_cases hc : (h.read a).length ≥ 1 ∧ ((h.read a).getD 0 0).toNat ≤ 0x1F
  · rw [if_pos hc]
    show (if (h.read a).length ≥ 1 ∧ ((h.read a).getD 0 0).toNat ≤ 0x1F then _ else _ : M (UInt8 × Slice)) h = _
    rw [if_pos hc]
    simp only [bind_apply, readS_apply, copyNew_apply, pure_apply, read_sub_from]
  · rw [if_neg hc]
    show (if (h.read a).length ≥ 1 ∧ ((h.read a).getD 0 0).toNat ≤ 0x1F then _ else _ : M (UInt8 × Slice)) h = _
    rw [if_neg hc]; rfl

theorem readIte_apply {β} (a : Slice) (c : Bytes → Prop) [DecidablePred c] (x y : Bytes → β) (h : Heap) :
    (do let av ← readS a
        if c av then pure (x av) else pure (y av) : M β) h =
      (if c (h.read a) then x (h.read a) else y (h.read a), h) := by
  show (if c (h.read a) then _ else _ : M β) h = _
  split <;> rfl

theorem taggedIntLookupH_view (typ : Int) (w : Nat) (p : HPacket) (h : Heap) :
    (taggedIntLookupH typ w p h).1 =
      match lookupRaw p.attrs typ with
      | none => .err
      | some a =>
        let av := h.read a
        let ta := if av.length ≥ 1 ∧ (av.getD 0 0).toNat ≤ 0x1F then (av.getD 0 0, (0 : UInt8) :: av.drop 1) else (0, av)
        if ta.2.length ≠ w then .err else .ok (ta.1, beNat ta.2) := by
  unfold taggedIntLookupH
  cases lookupRaw p.attrs typ with
  | none => rfl
  | some a =>
    simp only []
    rw [bind_apply, tagStripIntH_apply]
    split
    · rw [readIte_apply]
      simp only [read_new1]
    · rw [readIte_apply]

/-- list `Lookup` returns the packet's own slice (a view), showing the model's bytes -/
theorem lookupRaw_view (p : HPacket) (h : Heap) (k : Int) :
    (lookupRaw p.attrs k).map h.read = (p.view h).attrs.lookup k := by
  unfold HPacket.view
  simp only
  induction p.attrs with
  | nil => rfl
  | cons ts rest ih =>
    simp only [lookupRaw, List.map_cons, Attrs.lookup]
    split
    · rfl
    · exact ih

theorem lookupRaw_mem (attrs : List (Int × Slice)) (k : Int) (s : Slice) (h : lookupRaw attrs k = some s) :
    (k, s) ∈ attrs := by
  induction attrs with
  | nil => cases h
  | cons ts rest ih =>
    unfold lookupRaw at h
    split at h
    · rename_i hk; cases h; subst hk; exact List.mem_cons_self
    · exact List.mem_cons_of_mem _ (ih h)



theorem read_write_other (h : Heap) (s t : Slice) (i : Nat) (v : UInt8) (hne : s.buf ≠ t.buf) :
    (h.write t i v).read s = h.read s := by
  unfold Heap.write
  split
  · unfold Heap.read; rw [buffer_set_ne _ _ _ _ hne]
  · rfl

theorem parseH_fresh (b secret : Slice) (h : Heap) (p : HPacket) (hp : (parseH b secret h).1 = .ok p) :
    p.secret = secret ∧ ∀ ts ∈ p.attrs, h.length ≤ ts.2.buf :=
  (Obs.call h (obs_parseH b secret)).2 p hp

/-- the parsed attribute slices are in buffers allocated by the call, hence overwriting the datagram buffer
    afterwards does not change any parsed attribute -/
theorem parseH_no_alias (b secret : Slice) (h : Heap) (hb : b.buf < h.length) (p : HPacket)
    (hp : (parseH b secret h).1 = .ok p) (i : Nat) (v : UInt8) :
    ∀ ts ∈ p.attrs, ts.2.buf ≠ b.buf ∧
      ((parseH b secret h).2.write b i v).read ts.2 = (parseH b secret h).2.read ts.2 := by
  intro ts hts
  have := (parseH_fresh b secret h p hp).2 ts hts
  have hne : ts.2.buf ≠ b.buf := by omega
  exact ⟨hne, read_write_other _ _ _ _ _ hne⟩

theorem taggedIntLookupH_pure (typ : Int) (w : Nat) (p : HPacket) : PureObs (taggedIntLookupH typ w p) :=
  Obs.pureObs (obs_taggedIntLookupH typ w p)

theorem taggedIntLookupH_repeat (typ : Int) (w : Nat) (p : HPacket) (h : Heap) (hp : p.below h.length) :
    (taggedIntLookupH typ w p (taggedIntLookupH typ w p h).2).1 = (taggedIntLookupH typ w p h).1 := by
  have hpure : Ext h.length h (taggedIntLookupH typ w p h).2 := taggedIntLookupH_pure typ w p h
  rw [taggedIntLookupH_view, taggedIntLookupH_view]
  cases hl : lookupRaw p.attrs typ with
  | none => rfl
  | some a =>
    have ha : a.buf < h.length := hp.2 _ (lookupRaw_mem _ _ _ hl)
    simp only [hpure.read a ha]

theorem bytesH_repeat (a : Slice) (h : Heap) (ha : a.buf < h.length) :
    let r₁ := bytesH a h
    let r₂ := bytesH a r₁.2
    r₂.2.read r₂.1 = r₁.2.read r₁.1 ∧ r₂.1.buf ≠ r₁.1.buf := by
  intro r₁ r₂
  have hp : Ext h.length h r₁.2 := (Obs.call h (obs_bytesH a)).1
  refine ⟨?_, ?_⟩
  · show (bytesH a r₁.2).2.read (bytesH a r₁.2).1 = (bytesH a h).2.read (bytesH a h).1
    rw [bytesH_view, bytesH_view, hp.read a ha]
  · show (bytesH a (bytesH a h).2).1.buf ≠ (bytesH a h).1.buf
    simp [bytesH]


/-- a packet with one attribute 64 = `05 00 00 07` (tag 5, value 7); buffer 0 is the secret -/
def histHeap : Heap := [[0x73], [0x05, 0x00, 0x00, 0x07]]
def histPacket : HPacket := ⟨2, 1, zeros 16, ⟨0, 0, 1⟩, [(64, ⟨1, 0, 4⟩)]⟩

theorem histPacket_below : histPacket.below histHeap.length := by
  refine ⟨by decide, ?_⟩
  intro ts hts
  simp [histPacket] at hts
  subst hts
  decide

/-- the tagged-integer getter before its repair cleared the tag octet in the packet's own buffer -/
theorem old_lookup_heap :
    (oldTaggedIntLookupH 64 4 histPacket histHeap).2 = [[0x73], [0x00, 0x00, 0x00, 0x07]] := by decide

theorem old_lookup_changes_view :
    histPacket.view (oldTaggedIntLookupH 64 4 histPacket histHeap).2 ≠ histPacket.view histHeap := by decide

theorem new_lookup_on_hist :
    (taggedIntLookupH 64 4 histPacket histHeap).1 = .ok (5, 7) ∧
    histPacket.view (taggedIntLookupH 64 4 histPacket histHeap).2 = histPacket.view histHeap ∧
    (taggedIntLookupH 64 4 histPacket (taggedIntLookupH 64 4 histPacket histHeap).2).1 = .ok (5, 7) := by decide

/-- list `Get`/`Lookup` hands out a view: storing through it changes the packet (allowed by the
    property, which demands copies only from typed decoders and generated getters) -/
theorem raw_lookup_is_view :
    lookupRaw histPacket.attrs 64 = some ⟨1, 0, 4⟩ ∧
    histPacket.view (histHeap.write ⟨1, 0, 4⟩ 3 9) ≠ histPacket.view histHeap := by decide


theorem read_append (h e : Heap) (s : Slice) (hs : s.buf < h.length) : (h ++ e).read s = h.read s := by
  unfold Heap.read; rw [buffer_append_left h e _ hs]

theorem valid_read_length (h : Heap) (s : Slice) (hv : s.valid h) : (h.read s).length = s.len := by
  unfold Heap.read
  simp only [List.length_take, List.length_drop]
  have := hv.2
  omega

theorem read_sub (h : Heap) (s : Slice) (i j : Nat) (hj : j ≤ s.len) :
    h.read (s.sub i j) = ((h.read s).drop i).take (j - i) := by
  simp only [Heap.read, Slice.sub, List.drop_take, List.drop_drop, List.take_take]
  congr 1
  omega

def viewAttrs (h : Heap) (l : List (Int × Slice)) : Attrs := l.map fun ts => ⟨ts.1, h.read ts.2⟩

theorem viewAttrs_append_heap (h e : Heap) (l : List (Int × Slice)) (hl : ∀ ts ∈ l, ts.2.buf < h.length) :
    viewAttrs (h ++ e) l = viewAttrs h l := by
  unfold viewAttrs
  apply List.map_congr_left
  intro ts hts
  rw [read_append h e _ (hl ts hts)]

theorem read_two {h : Heap} {b : Slice} (hl : (h.read b).length = b.len) (h2 : ¬ b.len < 2) :
    ∃ t l rest, h.read b = t :: l :: rest ∧ rest.length + 2 = b.len := by
  match hb : h.read b with
  | [] => rw [hb] at hl; exact absurd (hl ▸ Nat.zero_lt_two) h2
  | [_] => rw [hb] at hl; exact absurd (hl ▸ Nat.one_lt_two) h2
  | t :: l :: rest => rw [hb] at hl; exact ⟨t, l, rest, rfl, hl⟩

theorem parseAttrsH_view (b : Slice) (acc : List (Int × Slice)) (h : Heap) :
    b.buf < h.length → (h.read b).length = b.len →
    ∃ ext, (parseAttrsH b acc h).2 = h ++ ext ∧
      (match (parseAttrsH b acc h).1 with
       | .ok attrs => ∃ new, attrs = acc ++ new ∧ RV.parseAttrs (h.read b) = .ok (viewAttrs (h ++ ext) new)
       | .err => RV.parseAttrs (h.read b) = .err
       | .fault => False) := by
  fun_induction parseAttrsH b acc h with
  | case1 b acc h hz =>
    intro _ hl
    rw [List.eq_nil_of_length_eq_zero (hl.trans hz)]
    exact ⟨[], (List.append_nil h).symm, [], (List.append_nil acc).symm, by rw [RV.parseAttrs]; rfl⟩
  | case2 b acc h hz h2 =>
    intro _ hl
    refine ⟨[], (List.append_nil h).symm, ?_⟩
    show RV.parseAttrs (h.read b) = .err
    match hb : h.read b with
    | [] => rw [hb] at hl; exact absurd hl.symm hz
    | [_] => rw [RV.parseAttrs]
    | _ :: _ :: _ => rw [hb] at hl; simp only [List.length_cons] at hl; omega
  | case3 b acc h hz h2 hg =>
    intro _ hl
    refine ⟨[], (List.append_nil h).symm, ?_⟩
    obtain ⟨t, l, rest, hb, hl⟩ := read_two hl h2
    show RV.parseAttrs (h.read b) = .err
    rw [hb] at hg ⊢
    rw [RV.parseAttrs, if_pos (by simp only [minAttrLength]; change l.toNat > b.len ∨ l.toNat < 2 at hg; omega)]
  | case4 b acc h hz h2 hg r ih =>
    intro hbuf hl
    obtain ⟨t, l, rest, hb, hl⟩ := read_two hl h2
    have hr2 : r.2 = h ++ [h.read (b.sub 2 ((h.read b).getD 1 0).toNat)] := rfl
    have hr1 : r.1 = ⟨h.length, 0, (h.read (b.sub 2 ((h.read b).getD 1 0).toNat)).length⟩ := rfl
    simp only [hb, show (t :: l :: rest).getD 1 0 = l from rfl, show (t :: l :: rest).getD 0 0 = t from rfl]
      at hr1 hr2 ih hg ⊢
    have hval : h.read (b.sub 2 l.toNat) = rest.take (l.toNat - 2) := by
      rw [read_sub h b 2 l.toNat (by omega), hb]; rfl
    have hrest : r.2.read (b.sub l.toNat b.len) = rest.drop (l.toNat - 2) := by
      rw [hr2, read_append h _ (b.sub l.toNat b.len) hbuf, read_sub_from, hb]
      have : l.toNat = (l.toNat - 2) + 1 + 1 := by omega
      rw [this]; rfl
    obtain ⟨ext, hext, hres⟩ := ih (by rw [hr2, List.length_append]; exact Nat.lt_succ_of_lt hbuf)
      (by rw [hrest, List.length_drop]; show _ = b.len - l.toNat; omega)
    refine ⟨[h.read (b.sub 2 l.toNat)] ++ ext, by rw [hext, hr2, List.append_assoc], ?_⟩
    rw [hrest] at hres
    rw [RV.parseAttrs, if_neg (by simp only [minAttrLength]; omega)]
    split at hres
    · obtain ⟨new, hnew, has⟩ := hres
      refine ⟨(t.toNat, r.1) :: new, by rw [hnew, List.append_assoc]; rfl, ?_⟩
      rw [has, ← List.append_assoc, ← hr2]
      show _ = Res.ok (⟨t.toNat, (r.2 ++ ext).read r.1⟩ :: viewAttrs (r.2 ++ ext) new)
      rw [hr1, hr2, List.append_assoc, List.singleton_append, read_new, hval]
    · rw [hres]
    · exact hres.elim
theorem parseH_view (b secret : Slice) (h : Heap) (hv : b.valid h) (hs : secret.buf < h.length) :
    match (parseH b secret h).1 with
    | .ok p => RV.parse (h.read b) (h.read secret) = .ok (p.view (parseH b secret h).2)
    | .err => RV.parse (h.read b) (h.read secret) = .err
    | .fault => False := by
  have hl := valid_read_length h b hv
  unfold parseH RV.parse
  rw [bind_apply, readS_apply, hl]
  simp only [minPacketLength]
  by_cases h20 : b.len < 20
  · rw [if_pos h20, if_pos h20]; rfl
  rw [if_neg h20, if_neg h20]
  by_cases hg : lengthField (h.read b) < 20 ∨ lengthField (h.read b) > maxPacketLength ∨ b.len < lengthField (h.read b)
  · rw [if_pos hg, if_pos hg]; rfl
  rw [if_neg hg, if_neg hg, bind_apply]
  have hsub : (b.sub 20 (lengthField (h.read b))).valid h :=
    ⟨hv.1, by have := hv.2; show b.off + 20 + (lengthField (h.read b) - 20) ≤ (h.buffer b.buf).length; omega⟩
  obtain ⟨ext, hext, hres⟩ := parseAttrsH_view (b.sub 20 (lengthField (h.read b))) [] h hsub.1
    (valid_read_length h _ hsub)
  rw [read_sub h b 20 _ (by omega), ← List.drop_take] at hres
  generalize parseAttrsH (b.sub 20 (lengthField (h.read b))) [] h = r at hext hres ⊢
  obtain ⟨r1, g⟩ := r
  cases r1 with
  | ok attrs =>
    obtain ⟨new, rfl, has⟩ := hres
    simp only [] at hext
    subst hext
    simp only [bind_apply, readS_apply, pure_apply, has]
    congr 1
    unfold HPacket.view
    simp only [Packet.mk.injEq, true_and]
    exact ⟨by rw [read_append h ext (b.sub 4 20) hv.1, read_sub h b 4 20 (by omega)],
      by rw [read_append h ext secret hs], rfl⟩
  | err => simp only [pure_apply]; rw [show RV.parseAttrs _ = .err from hres]
  | fault => exact hres.elim
end Prov
end RV
