/- `Rfc2865.hide` is the chain c(i) = p(i) xor H(S + c(i-1)) with the first chaining value a parameter
   (the authenticator for User-Password, authenticator ++ salt for Tunnel-Password).  Both encoders are
   `hide` over the blocks of the padded plaintext and both decoders are `upDecLoop`, so the facts about
   the chain are stated once, for `hide` and `upDecLoop` over a list of whole blocks. -/
import RV.Model.Password
import RV.Proofs.Res
namespace RV

theorem xorBytes_comm (a b : Bytes) : xorBytes a b = xorBytes b a := by
  induction a generalizing b with
  | nil => simp
  | cons x xs ih =>
    cases b with
    | nil => simp
    | cons y ys => simp [ih, UInt8.xor_comm]

theorem xorBytes_cancel (a b : Bytes) (h : a.length ≤ b.length) :
    xorBytes (xorBytes a b) b = a := by
  induction a generalizing b with
  | nil => simp
  | cons x xs ih =>
    cases b with
    | nil => simp at h
    | cons y ys =>
      simp at h
      simp [ih ys h, UInt8.xor_assoc]

theorem xorBytes_zeros_left (h : Bytes) : xorBytes (zeros h.length) h = h := by
  induction h with
  | nil => rfl
  | cons y ys ih => simpa [zeros, List.replicate_succ] using ih

theorem zeros_length (n : Nat) : (zeros n).length = n := by simp [zeros]

theorem xorInto_eq (h p : Bytes) (hp : p.length ≤ h.length) :
    xorInto h p = xorBytes (p ++ zeros (h.length - p.length)) h := by
  induction p generalizing h with
  | nil => simp [xorInto, xorBytes_zeros_left]
  | cons x xs ih =>
    cases h with
    | nil => simp at hp
    | cons y ys =>
      simp at hp
      have := ih ys hp
      simp [xorInto] at this ⊢
      simp [this, UInt8.xor_comm]

theorem xorInto_length (h p : Bytes) (hp : p.length ≤ h.length) :
    (xorInto h p).length = h.length := by
  rw [xorInto_eq h p hp, xorBytes_length, List.length_append, zeros_length,
    Nat.add_sub_cancel' hp, Nat.min_self]

theorem xorInto_full (h p : Bytes) (hp : p.length = h.length) : xorInto h p = xorBytes p h := by
  rw [xorInto_eq h p (Nat.le_of_eq hp), hp, Nat.sub_self]
  exact congrArg (xorBytes · h) (List.append_nil p)

/- `0x80 = BitVec.twoPow 8 7`, and and-ing with a power of two tests that one bit; bit 7 is the msb, which
   is set iff `2 ^ 7 ≤ x`.  Go's salt test `salt[0]&0x80 != 0x80` becomes an inequality this way in the
   guards of `newTunnelPassword_eq` and `tunnelPassword_eq`. -/
theorem u8_hi (x : UInt8) : x &&& 0x80 = 0x80 ↔ 128 ≤ x.toNat := by
  rw [← UInt8.toBitVec_inj, UInt8.toBitVec_and]
  show x.toBitVec &&& BitVec.twoPow 8 7 = BitVec.twoPow 8 7 ↔ 2 ^ (8 - 1) ≤ x.toBitVec.toNat
  rw [BitVec.and_twoPow, ← decide_eq_true_iff (p := 2 ^ (8 - 1) ≤ _), ← BitVec.msb_eq_decide,
    BitVec.msb_eq_getLsbD_last]
  cases x.toBitVec.getLsbD (8 - 1) <;> decide

theorem upEncLoop_nil (H : Hash) (s prev : Bytes) : upEncLoop H s prev [] = [] := by
  rw [upEncLoop]; simp

theorem upEncLoop_ne (H : Hash) (s prev rest : Bytes) (h : rest ≠ []) :
    upEncLoop H s prev rest =
      xorInto (H (s ++ prev)) (rest.take 16) ++
        upEncLoop H s (xorInto (H (s ++ prev)) (rest.take 16)) (rest.drop 16) := by
  rw [upEncLoop]; simp [h]

theorem upDecLoop_nil (H : Hash) (s prev : Bytes) : upDecLoop H s prev [] = [] := by
  rw [upDecLoop]; simp

theorem upDecLoop_ne (H : Hash) (s prev rest : Bytes) (h : rest ≠ []) :
    upDecLoop H s prev rest =
      xorBytes (H (s ++ prev)) (rest.take 16) ++ upDecLoop H s (rest.take 16) (rest.drop 16) := by
  rw [upDecLoop]; simp [h]

theorem tpEncLoop_nil (H : Hash) (s iv : Bytes) : tpEncLoop H s iv [] = [] := by
  rw [tpEncLoop]; simp

theorem tpEncLoop_ne (H : Hash) (s iv rest : Bytes) (h : rest ≠ []) :
    tpEncLoop H s iv rest =
      xorBytes (rest.take 16) (H (s ++ iv)) ++
        tpEncLoop H s (xorBytes (rest.take 16) (H (s ++ iv))) (rest.drop 16) := by
  rw [tpEncLoop]; simp [h]

/- The two decoders differ only in the order of `xorBytes`'s arguments; the `tpDecLoop` facts are the
   `upDecLoop` ones read through this equation. -/
theorem tpDecLoop_eq_upDecLoop (H : Hash) (s iv rest : Bytes) :
    tpDecLoop H s iv rest = upDecLoop H s iv rest := by
  induction iv, rest using tpDecLoop.induct with
  | case1 iv => rw [tpDecLoop, upDecLoop_nil]; simp
  | case2 iv rest h ih => rw [tpDecLoop, upDecLoop_ne H s iv rest h, ← ih, xorBytes_comm]; simp [h]

theorem tpDecLoop_nil (H : Hash) (s iv : Bytes) : tpDecLoop H s iv [] = [] := by
  rw [tpDecLoop_eq_upDecLoop, upDecLoop_nil]

theorem tpDecLoop_ne (H : Hash) (s iv rest : Bytes) (h : rest ≠ []) :
    tpDecLoop H s iv rest =
      xorBytes (rest.take 16) (H (s ++ iv)) ++ tpDecLoop H s (rest.take 16) (rest.drop 16) := by
  rw [tpDecLoop_eq_upDecLoop, tpDecLoop_eq_upDecLoop, upDecLoop_ne H s iv rest h, xorBytes_comm]

theorem blocks_nil : Rfc2865.blocks [] = [] := by
  rw [Rfc2865.blocks]; simp

theorem blocks_ne (b : Bytes) (h : b ≠ []) :
    Rfc2865.blocks b = b.take 16 :: Rfc2865.blocks (b.drop 16) := by
  rw [Rfc2865.blocks]; simp [h]

/-- the padding length of `Rfc2865.pad16` and `Rfc2868.plaintext` -/
abbrev padLen (n : Nat) : Nat := (16 - n % 16) % 16

theorem padLen_spec (n : Nat) : n + padLen n = 16 * ((n + 15) / 16) := by
  unfold padLen
  omega

theorem pad_length (b : Bytes) :
    (b ++ zeros (padLen b.length)).length = 16 * ((b.length + 15) / 16) := by
  rw [List.length_append, zeros_length, padLen_spec]

theorem encrypt_eq_hide (H : Hash) (s iv : Bytes) (ps : List Bytes) :
    Rfc2868.encrypt H s iv ps = Rfc2865.hide H s iv ps := by
  induction ps generalizing iv with
  | nil => rfl
  | cons p ps ih => simp only [Rfc2868.encrypt, Rfc2865.hide, ih]

theorem tpEncLoop_eq_hide (H : Hash) (s iv rest : Bytes) :
    tpEncLoop H s iv rest = (Rfc2865.hide H s iv (Rfc2865.blocks rest)).flatten := by
  induction iv, rest using tpEncLoop.induct H s with
  | case1 iv => simp [tpEncLoop_nil, blocks_nil, Rfc2865.hide]
  | case2 iv rest h c ih =>
    rw [tpEncLoop_ne H s iv rest h, blocks_ne _ h]
    simp only [Rfc2865.hide, List.flatten_cons]
    rw [← ih]

theorem upEncLoop_eq_hide (H : Hash) (hH : ∀ x, (H x).length = 16) (s prev rest : Bytes) (k : Nat)
    (hk : k < 16) (hd : (rest.length + k) % 16 = 0) :
    upEncLoop H s prev rest =
      (Rfc2865.hide H s prev (Rfc2865.blocks (rest ++ zeros k))).flatten := by
  induction prev, rest using upEncLoop.induct H s with
  | case1 prev =>
    obtain rfl : k = 0 := by rw [List.length_nil] at hd; omega
    simp [upEncLoop_nil, zeros, blocks_nil, Rfc2865.hide]
  | case2 prev rest h c ih =>
    have hl : 0 < rest.length := List.length_pos_iff.mpr h
    rw [upEncLoop_ne H s prev rest h, blocks_ne _ (by simp [h])]
    simp only [Rfc2865.hide, List.flatten_cons]
    by_cases h16 : rest.length ≤ 16
    · -- the last block: `xorInto` pads it as the RFC does
      obtain rfl : k = 16 - rest.length := by omega
      have hp : (rest ++ zeros (16 - rest.length)).length ≤ 16 := by
        rw [List.length_append, zeros_length]; omega
      rw [List.take_of_length_le h16, List.drop_of_length_le h16, List.take_of_length_le hp,
        List.drop_of_length_le hp, upEncLoop_nil, blocks_nil, xorInto_eq _ _ (by rw [hH]; exact h16),
        hH]
      rfl
    · rw [List.take_append_of_le_length (by omega), List.drop_append_of_le_length (by omega),
        ← xorInto_full _ _ (by rw [hH, List.length_take]; omega)]
      exact congrArg _ (ih (by rw [List.length_drop]; omega))

theorem tpDecLoop_length (H : Hash) (hH : ∀ x, (H x).length = 16) (s iv rest : Bytes) :
    (tpDecLoop H s iv rest).length = rest.length := by
  induction iv, rest using tpDecLoop.induct with
  | case1 iv => simp [tpDecLoop_nil]
  | case2 iv rest h ih =>
    rw [tpDecLoop_ne H s iv rest h, List.length_append, ih, xorBytes_length, hH,
      Nat.min_eq_left (List.length_take_le 16 rest), ← List.length_append, List.take_append_drop]

/- Decrypting the chain gives the blocks back.  Both round trips (`userPassword_roundtrip`,
   `tunnelPassword_roundtrip`) and the ciphertext length (`hide_blocks_length`) rest on it. -/
theorem upDecLoop_hide_blocks (H : Hash) (hH : ∀ x, (H x).length = 16) (s prev b : Bytes)
    (hb : b.length % 16 = 0) :
    upDecLoop H s prev (Rfc2865.hide H s prev (Rfc2865.blocks b)).flatten = b := by
  induction b using Rfc2865.blocks.induct generalizing prev with
  | case1 => rw [blocks_nil]; exact upDecLoop_nil H s prev
  | case2 b h ih =>
    have hl : 0 < b.length := List.length_pos_iff.mpr h
    have hcl : (xorBytes (b.take 16) (H (s ++ prev))).length = 16 := by
      rw [xorBytes_length, hH, List.length_take]; omega
    rw [blocks_ne b h]
    simp only [Rfc2865.hide, List.flatten_cons]
    rw [upDecLoop_ne _ _ _ _ (List.append_ne_nil_of_left_ne_nil (List.ne_nil_of_length_pos (by omega)) _),
      List.take_left' hcl, List.drop_left' hcl, ih _ (by rw [List.length_drop]; omega), xorBytes_comm,
      xorBytes_cancel _ _ (by rw [hH]; exact List.length_take_le ..), List.take_append_drop]

theorem hide_blocks_length (H : Hash) (hH : ∀ x, (H x).length = 16) (s prev b : Bytes)
    (hb : b.length % 16 = 0) :
    (Rfc2865.hide H s prev (Rfc2865.blocks b)).flatten.length = b.length := by
  -- decryption keeps the length, and gives `b` back
  rw [← tpDecLoop_length H hH s prev, tpDecLoop_eq_upDecLoop, upDecLoop_hide_blocks H hH s prev b hb]

theorem pad16_length (p : Bytes) :
    (Rfc2865.pad16 p).length = 16 * max 1 ((p.length + 15) / 16) := by
  unfold Rfc2865.pad16
  split
  · next h => subst h; rfl
  · next h =>
    have hl : 0 < p.length := List.length_pos_iff.mpr h
    rw [pad_length, Nat.max_eq_right (Nat.div_pos (by omega) (by decide))]

theorem pad16_length_mod (p : Bytes) : (Rfc2865.pad16 p).length % 16 = 0 := by
  rw [pad16_length, Nat.mul_mod_right]

theorem newUserPassword_eq (H : Hash) (plain s ra : Bytes) :
    newUserPassword H plain s ra =
      if plain.length ≤ 128 ∧ s ≠ [] ∧ ra.length = 16 then
        .ok (xorInto (H (s ++ ra)) (plain.take 16) ++
          upEncLoop H s (xorInto (H (s ++ ra)) (plain.take 16)) (plain.drop 16))
      else .err := by
  simp only [newUserPassword, err_else_ok, err_else_okIf, Nat.not_lt, gt_iff_lt, ne_eq,
    Decidable.not_not, List.length_eq_zero_iff]

theorem newUserPassword_ok (H : Hash) (plain s ra c : Bytes)
    (h : newUserPassword H plain s ra = .ok c) :
    plain.length ≤ 128 ∧ s ≠ [] ∧ ra.length = 16 ∧
      c = xorInto (H (s ++ ra)) (plain.take 16) ++
        upEncLoop H s (xorInto (H (s ++ ra)) (plain.take 16)) (plain.drop 16) := by
  simpa only [newUserPassword_eq, okIf_eq_ok, and_assoc] using h

theorem newUserPassword_ok_iff (H : Hash) (plain s ra : Bytes) :
    (∃ c, newUserPassword H plain s ra = .ok c) ↔
      plain.length ≤ 128 ∧ s ≠ [] ∧ ra.length = 16 := by
  rw [newUserPassword_eq, okIf_isOk]

theorem newUserPassword_ne_fault (H : Hash) (plain s ra : Bytes) :
    newUserPassword H plain s ra ≠ .fault := by
  rw [newUserPassword_eq]
  exact okIf_ne_fault

theorem newUserPassword_eq_rfc (H : Hash) (hH : ∀ x, (H x).length = 16) (plain s ra c : Bytes)
    (h : newUserPassword H plain s ra = .ok c) :
    c = Rfc2865.userPasswordCipher H plain s ra := by
  rw [(newUserPassword_ok H plain s ra c h).2.2.2]
  unfold Rfc2865.userPasswordCipher Rfc2865.pad16
  split
  · next hp =>
    -- Go computes the first block outside the loop, so an empty password still gives one block
    subst hp
    rw [blocks_ne _ (by decide), show (zeros 16).drop 16 = [] from rfl, blocks_nil]
    show xorInto _ [] ++ upEncLoop H s _ [] = xorBytes (zeros 16) _ ++ []
    rw [upEncLoop_nil, xorInto_eq _ [] (Nat.zero_le _), hH]
    rfl
  · next hp =>
    rw [← upEncLoop_ne H s ra plain hp]
    exact upEncLoop_eq_hide H hH s ra plain _ (Nat.mod_lt _ (by decide)) (by rw [padLen_spec, Nat.mul_mod_right])

theorem userPasswordCipher_length (H : Hash) (hH : ∀ x, (H x).length = 16) (plain s ra : Bytes) :
    (Rfc2865.userPasswordCipher H plain s ra).length = 16 * max 1 ((plain.length + 15) / 16) := by
  unfold Rfc2865.userPasswordCipher
  rw [hide_blocks_length H hH _ _ _ (pad16_length_mod plain), pad16_length]

theorem takeWhile_append_zeros (l : Bytes) (k : Nat) :
    (l ++ zeros k).takeWhile (· ≠ 0) = l.takeWhile (· ≠ 0) := by
  induction l with
  | nil => cases k <;> simp [zeros, List.replicate_succ, List.takeWhile]
  | cons x xs ih =>
    simp only [List.cons_append, List.takeWhile_cons]
    split
    · rw [ih]
    · rfl

theorem cutAtNul_pad16 (p : Bytes) : cutAtNul (Rfc2865.pad16 p) = p.takeWhile (· ≠ 0) := by
  unfold cutAtNul Rfc2865.pad16
  split
  · next h => subst h; exact takeWhile_append_zeros [] 16
  · exact takeWhile_append_zeros p _

theorem takeWhile_nulfree (p : Bytes) (hn : ∀ x ∈ p, x ≠ 0) : p.takeWhile (· ≠ 0) = p := by
  induction p with
  | nil => simp
  | cons x xs ih =>
    have hx := hn x (List.mem_cons_self)
    rw [List.takeWhile_cons, ih (fun y hy => hn y (List.mem_cons_of_mem _ hy))]
    simp [hx]

theorem userPassword_eq (H : Hash) (a s ra : Bytes) :
    userPassword H a s ra =
      if 16 ≤ a.length ∧ a.length ≤ 128 ∧ a.length % 16 = 0 ∧ s ≠ [] ∧ ra.length = 16 then
        .ok (cutAtNul (upDecLoop H s ra a))
      else .err := by
  simp only [userPassword, err_else_ok, err_else_okIf, not_or, and_assoc, Nat.not_lt, gt_iff_lt,
    ne_eq, Decidable.not_not, List.length_eq_zero_iff]

theorem userPassword_ne_fault (H : Hash) (a s ra : Bytes) : userPassword H a s ra ≠ .fault := by
  rw [userPassword_eq]
  exact okIf_ne_fault

theorem userPassword_roundtrip (H : Hash) (hH : ∀ x, (H x).length = 16) (plain s ra c : Bytes)
    (h : newUserPassword H plain s ra = .ok c) :
    userPassword H c s ra = .ok (plain.takeWhile (· ≠ 0)) := by
  have hok := newUserPassword_ok H plain s ra c h
  have hc := newUserPassword_eq_rfc H hH plain s ra c h
  have hl := userPasswordCipher_length H hH plain s ra
  rw [← hc] at hl
  rw [userPassword_eq,
    if_pos ⟨by omega, by omega, by rw [hl, Nat.mul_mod_right], hok.2.1, hok.2.2.1⟩, hc]
  unfold Rfc2865.userPasswordCipher
  rw [upDecLoop_hide_blocks H hH _ _ _ (pad16_length_mod plain), cutAtNul_pad16]

theorem tpPlain_eq (pw : Bytes) :
    UInt8.ofNat pw.length :: pw ++ zeros ((1 + pw.length + 15) / 16 * 16 - 1 - pw.length) =
      Rfc2868.plaintext pw := by
  unfold Rfc2868.plaintext
  simp only [List.length_cons]
  congr 2
  show _ = padLen (pw.length + 1)
  rw [Nat.add_comm 1, Nat.mul_comm, ← padLen_spec, Nat.sub_sub, Nat.add_comm 1,
    Nat.add_sub_cancel_left]

theorem plaintext_length (pw : Bytes) :
    (Rfc2868.plaintext pw).length = 16 * ((1 + pw.length + 15) / 16) := by
  rw [Nat.add_comm 1]
  exact pad_length (UInt8.ofNat pw.length :: pw)

theorem plaintext_head (pw : Bytes) :
    (Rfc2868.plaintext pw).getD 0 0 = UInt8.ofNat pw.length := by
  unfold Rfc2868.plaintext
  simp

theorem plaintext_body (pw : Bytes) :
    ((Rfc2868.plaintext pw).drop 1).take pw.length = pw := by
  unfold Rfc2868.plaintext
  simp

theorem newTunnelPassword_eq (H : Hash) (pw salt s ra : Bytes) :
    newTunnelPassword H pw salt s ra =
      if pw.length ≤ 239 ∧ salt.length = 2 ∧ 128 ≤ (salt.getD 0 0).toNat ∧ s ≠ [] ∧
          ra.length = 16 then
        .ok (salt ++ tpEncLoop H s (ra ++ salt) (Rfc2868.plaintext pw))
      else .err := by
  simp only [newTunnelPassword, tunnelPasswordMax, tpPlain_eq, err_else_ok, err_else_okIf,
    Nat.not_lt, gt_iff_lt, ne_eq, Decidable.not_not, List.length_eq_zero_iff, u8_hi]

theorem newTunnelPassword_ok (H : Hash) (pw salt s ra a : Bytes)
    (h : newTunnelPassword H pw salt s ra = .ok a) :
    pw.length ≤ 239 ∧ salt.length = 2 ∧ 128 ≤ (salt.getD 0 0).toNat ∧ s ≠ [] ∧ ra.length = 16 ∧
      a = salt ++ tpEncLoop H s (ra ++ salt) (Rfc2868.plaintext pw) := by
  simpa only [newTunnelPassword_eq, okIf_eq_ok, and_assoc] using h

theorem newTunnelPassword_ok_iff (H : Hash) (pw salt s ra : Bytes) :
    (∃ a, newTunnelPassword H pw salt s ra = .ok a) ↔
      pw.length ≤ 239 ∧ salt.length = 2 ∧ 128 ≤ (salt.getD 0 0).toNat ∧ s ≠ [] ∧ ra.length = 16 := by
  rw [newTunnelPassword_eq, okIf_isOk]

theorem newTunnelPassword_ne_fault (H : Hash) (pw salt s ra : Bytes) :
    newTunnelPassword H pw salt s ra ≠ .fault := by
  rw [newTunnelPassword_eq]
  exact okIf_ne_fault

theorem newTunnelPassword_eq_rfc (H : Hash) (pw salt s ra a : Bytes)
    (h : newTunnelPassword H pw salt s ra = .ok a) :
    a = Rfc2868.tunnelPasswordCipher H pw salt s ra := by
  rw [(newTunnelPassword_ok H pw salt s ra a h).2.2.2.2.2, tpEncLoop_eq_hide, ← encrypt_eq_hide]
  rfl

theorem newTunnelPassword_length (H : Hash) (hH : ∀ x, (H x).length = 16) (pw salt s ra a : Bytes)
    (h : newTunnelPassword H pw salt s ra = .ok a) :
    a.length = 2 + 16 * ((1 + pw.length + 15) / 16) := by
  have hok := newTunnelPassword_ok H pw salt s ra a h
  rw [hok.2.2.2.2.2, List.length_append, tpEncLoop_eq_hide,
    hide_blocks_length H hH _ _ _ (by rw [plaintext_length, Nat.mul_mod_right]), plaintext_length,
    hok.2.1]

theorem tunnelPassword_eq (H : Hash) (a s ra : Bytes) :
    tunnelPassword H a s ra =
      if a.length ≤ 252 ∧ 18 ≤ a.length ∧ (a.length - 2) % 16 = 0 ∧ s ≠ [] ∧ ra.length = 16 ∧
          128 ≤ (a.getD 0 0).toNat ∧
          ((tpDecLoop H s (ra ++ a.take 2) (a.drop 2)).getD 0 0).toNat ≤
            (tpDecLoop H s (ra ++ a.take 2) (a.drop 2)).length - 1 then
        .ok (((tpDecLoop H s (ra ++ a.take 2) (a.drop 2)).drop 1).take
          ((tpDecLoop H s (ra ++ a.take 2) (a.drop 2)).getD 0 0).toNat, a.take 2)
      else .err := by
  simp only [tunnelPassword, err_else_ok, err_else_okIf, not_or, and_assoc, Nat.not_lt, gt_iff_lt,
    ne_eq, Decidable.not_not, List.length_eq_zero_iff, u8_hi]

theorem tunnelPassword_ne_fault (H : Hash) (a s ra : Bytes) : tunnelPassword H a s ra ≠ .fault := by
  rw [tunnelPassword_eq]
  exact okIf_ne_fault

theorem tunnelPassword_roundtrip (H : Hash) (hH : ∀ x, (H x).length = 16) (pw salt s ra a : Bytes)
    (h : newTunnelPassword H pw salt s ra = .ok a) :
    tunnelPassword H a s ra = .ok (pw, salt) := by
  obtain ⟨h1, h2, h3, h4, h5, ha⟩ := newTunnelPassword_ok H pw salt s ra a h
  have hlen := newTunnelPassword_length H hH pw salt s ra a h
  have hpl := plaintext_length pw
  have hhd : a.getD 0 0 = salt.getD 0 0 := by
    rw [ha, List.getD_eq_getElem?_getD, List.getElem?_append_left (by omega),
      ← List.getD_eq_getElem?_getD]
  have hn : (UInt8.ofNat pw.length).toNat = pw.length :=
    UInt8.toNat_ofNat_of_lt' (Nat.lt_of_le_of_lt h1 (by decide))
  have htake : a.take 2 = salt := by rw [ha, List.take_left' h2]
  have hpt : tpDecLoop H s (ra ++ salt) (a.drop 2) = Rfc2868.plaintext pw := by
    rw [ha, List.drop_left' h2, tpDecLoop_eq_upDecLoop, tpEncLoop_eq_hide,
      upDecLoop_hide_blocks H hH _ _ _ (by rw [hpl, Nat.mul_mod_right])]
  rw [tunnelPassword_eq, htake, hpt, plaintext_head, hn, plaintext_body,
    if_pos ⟨by omega, by omega, by rw [hlen, Nat.add_sub_cancel_left, Nat.mul_mod_right], h4, h5,
      hhd ▸ h3, by omega⟩]

end RV
