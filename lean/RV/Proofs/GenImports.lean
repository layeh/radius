/- C17 helper lemmas: ignore list and imports. -/
import RV.Proofs.GenShape
import RV.Proofs.GenRun
namespace RV.Gen
open RV.Dict RV.Gen.Spec

private theorem imp_attr_imports (cfg : Cfg) (vendor : Bool) (a : Attribute)
    (hv : invalidAttr cfg vendor a = false) (he : encryptSupported a = true) (i : Imp) :
    (i ∈ declaredImports a ↔ i ∈ usedImports vendor a) := by
  obtain ⟨_, hsize, _, hconc, htag, _⟩ := invalidAttr_false hv
  have hc : (concatenated a && !vendor) = true → a.size.isSome = false ∧ tagged a = false ∧ salted a = false := by
    intro h
    rw [Bool.and_eq_true, Bool.not_eq_true'] at h
    rw [h.2, h.1] at hconc
    simp only [Bool.false_eq_true, if_false, Bool.true_and, Bool.or_eq_false_iff] at hconc
    obtain ⟨⟨⟨_, h1⟩, h2⟩, h3⟩ := hconc
    rw [Option.isSome_eq_false_iff, Option.isNone_iff_eq_none] at h1 h2
    exact ⟨h3, by rw [tagged, h2]; rfl, by rw [salted, h1]; rfl⟩
  have hsalt : salted a = true → (stringy a.typ || isIPKind a.typ || (isIntKind a.typ && !tagged a)) = true := by
    intro h
    rw [salted, beq_iff_eq] at h
    rw [encryptSupported, h] at he
    revert he
    cases stringy a.typ <;> cases isIPKind a.typ <;> cases isIntKind a.typ <;> cases tagged a <;> simp
  generalize hcc : (concatenated a && !vendor) = cc at hc
  unfold declaredImports usedImports
  rw [hcc]
  clear hv he hconc hcc
  revert hsize htag hsalt hc
  generalize a.typ = t
  -- By kind, both sides are lists of at most two standard imports.  Text kinds need `hc`: a top-level concat
  -- attribute has no size, tag or encryption, so neither side has `errors` or `crypto/rand`.  The integer kinds
  -- need `hsalt`: salted implies untagged, the one case where their template uses `crypto/rand`.  All other
  -- kinds need `hsize`, `htag` (no size, no tag: no `errors`) and `hsalt` (salted only on ipaddr/ipv6addr: no
  -- unused `crypto/rand`).  `or_comm`: the two tables list `net` and `crypto/rand` in different orders.
  cases t
  case string | octets => cases cc <;> simp +contextual [stringy, isIPKind, isIntKind, intBits, or_comm]
  case integer =>
    simp +contextual [stringy, isIPKind, isIntKind, intBits, or_comm]
    intro _ h _
    rw [and_iff_left_of_imp h]
  all_goals simp +contextual [stringy, isIPKind, isIntKind, intBits, or_comm]

private theorem imp_used_std (vendor : Bool) (a : Attribute) (i : Imp) (h : i ∈ usedImports vendor a) :
    i ∈ stdImports ∧ hasTemplate a.typ = true := by
  rcases a with ⟨name, oid, typ, size, encrypt, hasTag, isConcat⟩
  -- by kind: every branch of `usedImports` lists standard-library imports, and only kinds with a template have one
  cases typ <;>
    simp_all [usedImports, stringy, isIPKind, isIntKind, intBits, hasTemplate, stdImports] <;>
    rcases h with h | h <;> simp_all

private theorem imp_attrDecls_roles (vendor : Bool) (a : Attribute) (vals : List Value)
    (h : hasTemplate a.typ = true) : (attrDecls vendor a vals).all (·.role == .typeConst) = false := by
  rw [attrDecls_eq]
  split
  · split <;> rfl
  · split
    · rfl
    · rfl

theorem checkAttrs_valid (cfg : Cfg) (vendor : Bool) (as : List Attribute) (seen seen' : List Bytes)
    (h : checkAttrs cfg vendor seen as = .ok seen') : ∀ a ∈ as, invalidAttr cfg vendor a = false :=
  fun a ha => aLocal_valid (((checkAttrs_iff cfg vendor as seen seen').1 h).1.1 a ha)

theorem checkVendors_struct (cfg : Cfg) (o : Options) (vs : List Vendor) (seen vseen : List Bytes)
    (r : List EVendor × List Imp) (h : checkVendors cfg o seen vseen vs = .ok r) :
    r.1 = vs.map (mkEV cfg o)
    ∧ r.2 = vs.flatMap (fun v => (kept o v.attributes).flatMap declaredImports)
    ∧ ∀ v ∈ vs, ∀ a ∈ kept o v.attributes, invalidAttr cfg true a = false := by
  obtain ⟨hg, rfl⟩ := (checkVendors_iff cfg o vs seen vseen r).1 h
  exact ⟨rfl, rfl, fun v hv a ha => aLocal_valid ((hg.1 v hv).2.2.1 a ha)⟩

private theorem imp_needed_append (l₁ l₂ : List (Origin × List Decl)) :
    neededImports (l₁ ++ l₂) = neededImports l₁ ++ neededImports l₂ := by
  simp [neededImports]

private theorem imp_needed_const {α} (i : Imp) (l : List α) (g : α → Origin × List Decl) (K : List Imp)
    (hg : ∀ x, neededImports [g x] = K) : i ∈ neededImports (l.map g) ↔ i ∈ K ∧ ∃ x, x ∈ l := by
  induction l with
  | nil => simp [neededImports]
  | cons x l ih =>
    rw [List.map_cons, ← List.singleton_append, imp_needed_append, List.mem_append, hg, ih]
    simp only [List.mem_cons, exists_or, exists_eq, true_or, and_true]
    exact ⟨fun h => h.elim id And.left, Or.inl⟩

private theorem imp_needed_tc (i : Imp) (attrs : List Attribute) (n : Attribute → Bytes) :
    i ∈ neededImports (attrs.map (fun a => (Origin.attr false a,
      [(⟨.const, .typeConst, n a, [], [.radiusType]⟩ : Decl)]))) ↔ i = Imp.radius ∧ ∃ a, a ∈ attrs := by
  simpa using imp_needed_const i attrs _ [Imp.radius] (fun _ => by simp [neededImports])

private theorem imp_needed_vid (i : Imp) (evs : List EVendor) (f : EVendor → List Decl) :
    i ∈ neededImports (evs.map (fun v => (Origin.vendor v.name, f v))) ↔
      (i = Imp.radius ∨ i = Imp.rfc2865 ∨ i = Imp.std (bs "errors")) ∧ ∃ v, v ∈ evs := by
  simpa using imp_needed_const i evs _ [Imp.radius, Imp.rfc2865, Imp.std (bs "errors")] (fun _ => by simp [neededImports])

private theorem imp_needed_ext {α} (i : Imp) (l : List α) (n : α → Bytes) (f : α → List Decl) :
    i ∈ neededImports (l.map (fun e => (Origin.ext (n e), f e))) ↔ False := by
  simpa using imp_needed_const i l _ [] (fun _ => by simp [neededImports])

private theorem imp_needed_attrs (i : Imp) (vendor : Bool) (attrs : List Attribute) (vals : List Value) :
    i ∈ neededImports (attrs.map (fun a => (Origin.attr vendor a, attrDecls vendor a vals))) ↔
      ∃ a ∈ attrs, i = Imp.radius ∨
        ((attrDecls vendor a vals).all (·.role == .typeConst) = false ∧ i ∈ usedImports vendor a) := by
  simp only [neededImports, List.mem_flatMap, List.mem_map]
  constructor
  · rintro ⟨s, ⟨a, ha, rfl⟩, h⟩
    refine ⟨a, ha, ?_⟩
    simp only [List.mem_cons] at h
    rcases h with h | h
    · exact Or.inl h
    · split at h
      · cases h
      · rename_i hh; exact Or.inr ⟨by simpa using hh, h⟩
  · rintro ⟨a, ha, h⟩
    refine ⟨_, ⟨a, ha, rfl⟩, ?_⟩
    simp only [List.mem_cons]
    rcases h with h | ⟨h1, h2⟩
    · exact Or.inl h
    · right; rw [if_neg (by simp [h1])]; exact h2

private theorem imp_needed_vend (i : Imp) (evs : List EVendor) (f : EVendor → List Decl) :
    i ∈ neededImports (evs.flatMap (fun v => (Origin.vendor v.name, f v)
        :: v.attrs.map (fun a => (Origin.attr true a, attrDecls true a v.values)))) ↔
      ∃ v ∈ evs, (i = Imp.radius ∨ i = Imp.rfc2865 ∨ i = Imp.std (bs "errors")) ∨ ∃ a ∈ v.attrs, i = Imp.radius ∨
        ((attrDecls true a v.values).all (·.role == .typeConst) = false ∧ i ∈ usedImports true a) := by
  induction evs with
  | nil => simp [neededImports]
  | cons v rest ih =>
    rw [List.flatMap_cons, imp_needed_append, List.mem_append, ih]
    have : ((Origin.vendor v.name, f v) :: v.attrs.map (fun a => (Origin.attr true a, attrDecls true a v.values)))
        = [(Origin.vendor v.name, f v)] ++ v.attrs.map (fun a => (Origin.attr true a, attrDecls true a v.values)) := rfl
    rw [this, imp_needed_append, List.mem_append, imp_needed_attrs]
    simp [neededImports]

theorem mem_kept {o : Options} {as : List Attribute} {a : Attribute} :
    a ∈ kept o as ↔ a ∈ as ∧ a.name ∉ o.ignore := by
  simp [kept]

theorem kept_eq_self (o : Options) (as : List Attribute)
    (h : ∀ a ∈ as, a.name ∉ o.ignore) : kept o as = as := by
  simp only [kept, List.filter_eq_self]
  intro a ha
  simpa using h a ha

theorem mkEV_attrs (cfg : Cfg) (o : Options) (w : Vendor)
    (hdrop : cfg.dropIgnoredVendorAttrs = true ∨ ∀ a ∈ w.attributes, a.name ∉ o.ignore) (a : Attribute) :
    a ∈ (mkEV cfg o w).attrs ↔ a ∈ kept o w.attributes := by
  simp only [mkEV, vsrc, sortAttrs, mem_sortStable]
  rcases hdrop with h | h
  · simp [h]
  · rw [kept_eq_self o _ h]; split <;> rfl

private theorem imp_enc_of_valid (cfg : Cfg) (vendor : Bool) (a : Attribute)
    (hv : invalidAttr cfg vendor a = false) (hc : cfg.rejectUnimplEncrypt = true) :
    encryptSupported a = true := by
  have h := (invalidAttr_false hv).2.2.1
  rwa [hc, Bool.true_and, Bool.not_eq_false'] at h

/-- nothing is emitted for an ATTRIBUTE on the ignore list: at top level always, inside a VENDOR block
    once proposed_fixes/03 is in -/
theorem ignored_of (cfg : Cfg) (d : Dictionary) (o : Options) (out : Output)
    (h : generate cfg d o = .ok out) :
    ∀ s ∈ out.sections, ∀ vendor a, s.1 = Origin.attr vendor a →
      (vendor = false ∨ cfg.dropIgnoredVendorAttrs = true) → a.name ∉ o.ignore := by
  obtain ⟨seen, evs0, vimps, _, _, _, hcv, hsec, _⟩ := generate_ok h
  have hr1 : evs0 = d.vendors.map (mkEV cfg o) := (checkVendors_struct cfg o d.vendors _ _ _ hcv).1
  intro s hs vendor a hsa hc
  rw [hsec] at hs
  rcases mem_gSections hs with ⟨b, hb, rfl⟩ | ⟨v, _, rfl⟩ | ⟨e, _, rfl⟩ | ⟨b, hb, rfl⟩ | ⟨v, _, rfl⟩ | ⟨v, hv, b, hb, rfl⟩
  · cases hsa
    exact (mem_kept.1 ((mem_sortStable _ _ _).1 hb)).2
  · cases hsa
  · cases hsa
  · cases hsa
    exact (mem_kept.1 ((mem_sortStable _ _ _).1 hb)).2
  · cases hsa
  · cases hsa
    rcases hc with hc | hc
    · cases hc
    · simp only [sortVendors, mem_sortStable, hr1, List.mem_map] at hv
      obtain ⟨w, hw, rfl⟩ := hv
      exact (mem_kept.1 ((mkEV_attrs cfg o w (Or.inl hc) a).1 hb)).2

/-- declared = used for any configuration, under what the repairs establish: ignored vendor attributes are
    not emitted (or there are none), and `encrypt=` stands only on kinds that implement it -/
theorem imports_exact_of (cfg : Cfg) (d : Dictionary) (o : Options) (out : Output)
    (h : generate cfg d o = .ok out)
    (hdrop : cfg.dropIgnoredVendorAttrs = true ∨ ∀ v ∈ d.vendors, ∀ a ∈ v.attributes, a.name ∉ o.ignore)
    (henc : cfg.rejectUnimplEncrypt = true ∨
      ∀ a, (a ∈ d.attributes ∨ ∃ v ∈ d.vendors, a ∈ v.attributes) → encryptSupported a = true) :
    ∀ i, (∀ p, i ≠ Imp.dot p) → (i ∈ out.imports ↔ i ∈ neededImports out.sections) := by
  obtain ⟨seen, evs0, vimps, hca, _, _, hcv, hsec, himp, _⟩ := generate_ok h
  generalize hr : (evs0, vimps) = r at hcv
  obtain ⟨rfl, rfl⟩ : evs0 = r.1 ∧ vimps = r.2 := by rw [← hr]; exact ⟨rfl, rfl⟩
  obtain ⟨hr1, hr2, hvalid⟩ := checkVendors_struct cfg o d.vendors _ _ _ hcv
  have htop := checkAttrs_valid cfg false _ _ _ hca
  have hA : ∀ a, a ∈ gAttrs cfg d o ↔ a ∈ kept o d.attributes :=
    fun a => mem_sortStable _ _ _
  have hE : ∀ ev, ev ∈ sortVendors cfg r.1 ↔ ∃ w ∈ d.vendors, mkEV cfg o w = ev := by
    intro ev; simp only [sortVendors, mem_sortStable, hr1, List.mem_map]
  have hencT : ∀ a ∈ kept o d.attributes, encryptSupported a = true := by
    intro a ha
    rcases henc with hc | hc
    · exact imp_enc_of_valid cfg false a (htop a ha) hc
    · exact hc a (Or.inl (mem_kept.1 ha).1)
  have hencV : ∀ w ∈ d.vendors, ∀ a ∈ kept o w.attributes, encryptSupported a = true := by
    intro w hw a ha
    rcases henc with hc | hc
    · exact imp_enc_of_valid cfg true a (hvalid w hw a ha) hc
    · exact hc a (Or.inr ⟨w, hw, (mem_kept.1 ha).1⟩)
  have hM : ∀ w ∈ d.vendors, ∀ a, a ∈ (mkEV cfg o w).attrs ↔ a ∈ kept o w.attributes := by
    intro w hw a
    refine mkEV_attrs cfg o w ?_ a
    rcases hdrop with hc | hc
    · exact Or.inl hc
    · exact Or.inr (hc w hw)
  intro i hi
  rw [himp, hsec]
  simp only [gSections, sectionsOf, imp_needed_append, List.mem_append, imp_needed_tc, imp_needed_vid,
    imp_needed_attrs, imp_needed_vend, imp_needed_ext, or_false]
  have hus : ∀ (j : Imp) (vendor : Bool) (a : Attribute), j ∉ stdImports → j ∉ usedImports vendor a :=
    fun j vendor a hj hu => hj (imp_used_std vendor a j hu).1
  cases i with
  | dot p => exact absurd rfl (hi p)
  | radius =>
    have hns : Imp.radius ∉ stdImports := by simp [stdImports]
    have hnu := fun vendor a => hus Imp.radius vendor a hns
    clear hA hE himp hsec
    generalize gAttrs cfg d o = attrs
    generalize sortVendors cfg r.1 = evs
    cases attrs <;> cases evs <;> simp [hns, hnu]
  | rfc2865 =>
    have hns : Imp.rfc2865 ∉ stdImports := by simp [stdImports]
    have hnu := fun vendor a => hus Imp.rfc2865 vendor a hns
    clear hA hE himp hsec
    generalize gAttrs cfg d o = attrs
    generalize sortVendors cfg r.1 = evs
    cases attrs <;> cases evs <;> simp [hns, hnu]
  | std p =>
    have hn1 : ∀ (c : Bool), Imp.std p ∉ (if c = true then [Imp.radius] else []) := by
      intro c; split <;> simp
    have hn2 : ∀ (c : Bool), Imp.std p ∉ (if c = true then [Imp.rfc2865] else []) := by
      intro c; split <;> simp
    have hn3 : ∀ dots, Imp.std p ∉ List.map Imp.dot dots := by simp
    simp only [hn1, hn2, hn3, or_false, false_and, false_or, reduceCtorEq]
    have hn4 : Imp.std p ∈ (if (!(sortVendors cfg r.1).isEmpty) = true then [Imp.std (bs "errors")] else []) ↔
        (Imp.std p = Imp.std (bs "errors") ∧ ∃ v, v ∈ sortVendors cfg r.1) := by
      generalize sortVendors cfg r.1 = evs
      cases evs <;> simp
    simp only [List.mem_filter, List.contains_iff_mem, List.mem_append, List.mem_flatMap, hr2, hn4]
    have herr : Imp.std (bs "errors") ∈ stdImports := by simp [stdImports]
    constructor
    · rintro ⟨hs, (⟨a, ha, hd⟩ | ⟨w, hw, a, ha, hd⟩) | he⟩
      · have hu := (imp_attr_imports cfg false a (htop a ha) (hencT a ha) _).1 hd
        exact Or.inl (Or.inr ⟨a, (hA a).2 ha,
          imp_attrDecls_roles false a _ (imp_used_std _ _ _ hu).2, hu⟩)
      · have hu := (imp_attr_imports cfg true a (hvalid w hw a ha) (hencV w hw a ha) _).1 hd
        exact Or.inr ⟨mkEV cfg o w, (hE _).2 ⟨w, hw, rfl⟩, Or.inr ⟨a, (hM w hw a).2 ha,
          imp_attrDecls_roles true a _ (imp_used_std _ _ _ hu).2, hu⟩⟩
      · exact Or.inl (Or.inl he)
    · rintro ((⟨he, hv⟩ | ⟨a, ha, _, hu⟩) | ⟨ev, hev, he | ⟨a, ha, _, hu⟩⟩)
      · exact ⟨he ▸ herr, Or.inr ⟨he, hv⟩⟩
      · have ha' := (hA a).1 ha
        exact ⟨(imp_used_std _ _ _ hu).1,
          Or.inl (Or.inl ⟨a, ha', (imp_attr_imports cfg false a (htop a ha') (hencT a ha') _).2 hu⟩)⟩
      · exact ⟨he ▸ herr, Or.inr ⟨he, ev, hev⟩⟩
      · obtain ⟨w, hw, rfl⟩ := (hE ev).1 hev
        have ha' := (hM w hw a).1 ha
        exact ⟨(imp_used_std _ _ _ hu).1, Or.inl (Or.inr ⟨w, hw, a, ha',
          (imp_attr_imports cfg true a (hvalid w hw a ha') (hencV w hw a ha') _).2 hu⟩)⟩

end RV.Gen
