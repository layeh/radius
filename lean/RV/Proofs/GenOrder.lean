/- C17 helper lemmas: the orders used by the repaired sort (OID with zero padding, then name) are strict weak orders. -/
import RV.Proofs.GenBasic
namespace RV.Gen
open RV.Dict RV.Gen.Spec

theorem oidLess_nil_right (a : List Int) : oidLess a [] = oidNilLess a := by
  cases a <;> simp [oidLess, oidLessNil, oidNilLess]

/-- `[]` behaves like `0 :: []` -/
theorem oidLess_unfold (a b : List Int) :
    oidLess a b = if a.headD 0 ≠ b.headD 0 then decide (a.headD 0 < b.headD 0) else oidLess a.tail b.tail := by
  cases a with
  | nil =>
    cases b with
    | nil => simp [oidLess, oidLessNil]
    | cons y b => simp [oidLess, oidLessNil]
  | cons x a =>
    cases b with
    | nil => simp [oidLess, oidLess_nil_right]
    | cons y b => simp [oidLess]

/- `oidLess` walks both lists at once and reads an exhausted one as zeros, so in a statement that swaps the
   arguments neither list decreases structurally: the inductions are on a bound for the total length, one
   component peeled off every list by `oidLess_unfold`. -/
theorem oidLess_asym : ∀ (n : Nat) (a b : List Int), a.length + b.length ≤ n → oidLess a b = true → oidLess b a = false := by
  intro n
  induction n with
  | zero =>
    intro a b h
    have ha : a = [] := List.eq_nil_of_length_eq_zero (by omega)
    have hb : b = [] := List.eq_nil_of_length_eq_zero (by omega)
    subst ha hb
    simp [oidLess, oidLessNil]
  | succ n ih =>
    intro a b h hab
    by_cases hnil : a = [] ∧ b = []
    · rw [hnil.1, hnil.2]; simp [oidLess, oidLessNil]
    · rw [oidLess_unfold] at hab ⊢
      have hlen : a.tail.length + b.tail.length ≤ n := by
        cases a <;> cases b <;> simp_all <;> omega
      generalize a.headD 0 = xa at hab ⊢
      generalize b.headD 0 = xb at hab ⊢
      by_cases hx : xa = xb
      · subst hx
        simp at hab ⊢
        exact ih _ _ hlen hab
      · have hx' : xb ≠ xa := fun h => hx h.symm
        simp [hx] at hab
        simp [hx']
        omega

theorem oidLess_negtrans : ∀ (n : Nat) (a b c : List Int), a.length + b.length + c.length ≤ n →
    oidLess b a = false → oidLess c b = false → oidLess c a = false := by
  intro n
  induction n with
  | zero =>
    intro a b c h
    have ha : a = [] := List.eq_nil_of_length_eq_zero (by omega)
    have hc : c = [] := List.eq_nil_of_length_eq_zero (by omega)
    subst ha hc
    simp [oidLess, oidLessNil]
  | succ n ih =>
    intro a b c h hba hcb
    by_cases hnil : a = [] ∧ b = [] ∧ c = []
    · rw [hnil.1, hnil.2.2]; simp [oidLess, oidLessNil]
    · rw [oidLess_unfold] at hba hcb ⊢
      have hlen : a.tail.length + b.tail.length + c.tail.length ≤ n := by
        cases a <;> cases b <;> cases c <;> simp_all <;> omega
      generalize a.headD 0 = xa at hba hcb ⊢
      generalize b.headD 0 = xb at hba hcb ⊢
      generalize c.headD 0 = xc at hba hcb ⊢
      by_cases h1 : xb = xa <;> by_cases h2 : xc = xb
      · subst h1 h2
        simp at hba hcb ⊢
        exact ih _ _ _ hlen hba hcb
      · subst h1
        simp at hba; simp [h2] at hcb
        simp [h2]; omega
      · subst h2
        simp [h1] at hba; simp at hcb
        simp [h1]; omega
      · simp [h1] at hba; simp [h2] at hcb
        have h3 : xc ≠ xa := by omega
        simp [h3]; omega

theorem oidLess_asym' (a b : List Int) : oidLess a b = true → oidLess b a = false := oidLess_asym _ a b (Nat.le_refl _)
theorem oidLess_negtrans' (a b c : List Int) : oidLess b a = false → oidLess c b = false → oidLess c a = false :=
  oidLess_negtrans _ a b c (Nat.le_refl _)

theorem oidLess_irrefl (o : List Int) : oidLess o o = false := by
  induction o with
  | nil => rfl
  | cons x a ih => simp [oidLess, ih]

theorem bytesLt_irrefl (a : Bytes) : bytesLt a a = false := by
  induction a with
  | nil => rfl
  | cons x a ih => simp [bytesLt, ih]

theorem bytesLt_asym (a b : Bytes) : bytesLt a b = true → bytesLt b a = false := by
  induction a generalizing b with
  | nil => cases b <;> simp [bytesLt]
  | cons x a ih =>
    cases b with
    | nil => simp [bytesLt]
    | cons y b =>
      simp only [bytesLt, Bool.or_eq_true, Bool.and_eq_true, decide_eq_true_eq, beq_iff_eq, Bool.or_eq_false_iff, Bool.and_eq_false_iff, decide_eq_false_iff_not]
      rintro (h | ⟨h, h'⟩)
      · refine ⟨?_, Or.inl ?_⟩
        · exact UInt8.not_lt.mpr (UInt8.le_of_lt h)
        · simp only [beq_eq_false_iff_ne, ne_eq]; intro e; subst e; exact absurd h (UInt8.lt_irrefl _)
      · subst h
        exact ⟨UInt8.lt_irrefl _, Or.inr (ih b h')⟩

theorem bytesLt_negtrans (a b c : Bytes) : bytesLt b a = false → bytesLt c b = false → bytesLt c a = false := by
  induction a generalizing b c with
  | nil => intro _ _; cases c <;> simp [bytesLt]
  | cons x a ih =>
    cases c with
    | nil =>
      cases b with
      | nil => simp [bytesLt]
      | cons y b => simp [bytesLt]
    | cons z c =>
      cases b with
      | nil => simp [bytesLt]
      | cons y b =>
        simp only [bytesLt, Bool.or_eq_false_iff, Bool.and_eq_false_iff, decide_eq_false_iff_not, beq_eq_false_iff_ne, ne_eq]
        rintro ⟨h1, h1'⟩ ⟨h2, h2'⟩
        have hyx : x ≤ y := UInt8.not_lt.mp h1
        have hzy : y ≤ z := UInt8.not_lt.mp h2
        refine ⟨UInt8.not_lt.mpr (UInt8.le_trans hyx hzy), ?_⟩
        by_cases hzx : z = x
        · right
          subst hzx
          have hxy : y = z := UInt8.le_antisymm hzy hyx
          subst hxy
          rcases h1' with h | h
          · exact absurd rfl h
          · rcases h2' with h' | h'
            · exact absurd rfl h'
            · exact ih b c h h'
        · left; exact hzx

theorem bytesLt_total (a b : Bytes) : bytesLt a b = false → bytesLt b a = false → a = b := by
  induction a generalizing b with
  | nil => cases b <;> simp [bytesLt]
  | cons x a ih =>
    cases b with
    | nil => simp [bytesLt]
    | cons y b =>
      simp only [bytesLt, Bool.or_eq_false_iff, Bool.and_eq_false_iff, decide_eq_false_iff_not, beq_eq_false_iff_ne, ne_eq]
      rintro ⟨h1, h1'⟩ ⟨h2, h2'⟩
      have hxy : x = y := UInt8.le_antisymm (UInt8.not_lt.mp h2) (UInt8.not_lt.mp h1)
      subst hxy
      rcases h1' with h | h
      · exact absurd rfl h
      · rcases h2' with h' | h'
        · exact absurd rfl h'
        · rw [ih b h h']

variable {cfg : Cfg} (hf : cfg.sortFixed = true)
include hf

theorem attrLess_fixed_eq (a b : Attribute) :
    attrLess cfg a b = (oidLess a.oid b.oid || (!oidLess b.oid a.oid && bytesLt a.name b.name)) := by
  simp [attrLess, hf]

theorem attrLess_fixed_asym (a b : Attribute) : attrLess cfg a b = true → attrLess cfg b a = false := by
  rw [attrLess_fixed_eq hf, attrLess_fixed_eq hf]
  intro h
  have h1 := oidLess_asym' a.oid b.oid
  have h1' := oidLess_asym' b.oid a.oid
  have h2 := bytesLt_asym a.name b.name
  cases hab : oidLess a.oid b.oid <;> cases hba : oidLess b.oid a.oid <;> cases hn : bytesLt a.name b.name <;> simp_all

/- lexicographic product of `oidLess` (a weak order: padded OIDs can tie) and `bytesLt`.  Ties are not
   transitive by themselves, hence negative transitivity of `oidLess` for all three rotations of (a, b, c);
   the rest is the Boolean case split. -/
theorem attrLess_fixed_negtrans (a b c : Attribute) :
    attrLess cfg b a = false → attrLess cfg c b = false → attrLess cfg c a = false := by
  rw [attrLess_fixed_eq hf, attrLess_fixed_eq hf, attrLess_fixed_eq hf]
  intro hba hcb
  have t1 := oidLess_negtrans' a.oid b.oid c.oid
  have t2 := oidLess_negtrans' b.oid c.oid a.oid
  have t3 := oidLess_negtrans' c.oid a.oid b.oid
  have n := bytesLt_negtrans a.name b.name c.name
  cases h1 : oidLess b.oid a.oid <;> cases h2 : oidLess a.oid b.oid <;> cases h3 : oidLess c.oid b.oid <;>
    cases h4 : oidLess b.oid c.oid <;> cases h5 : oidLess c.oid a.oid <;> cases h6 : oidLess a.oid c.oid <;>
    simp_all

theorem attrLess_fixed_name (a b : Attribute) :
    attrLess cfg a b = false → attrLess cfg b a = false → a.name = b.name := by
  rw [attrLess_fixed_eq hf, attrLess_fixed_eq hf]
  have h := bytesLt_total a.name b.name
  revert h
  cases oidLess a.oid b.oid <;> cases oidLess b.oid a.oid <;> cases bytesLt a.name b.name <;> cases bytesLt b.name a.name <;> simp

theorem sortAttrs_fixed_pairwise (as : List Attribute) :
    (sortAttrs cfg as).Pairwise (fun a b => attrLess cfg b a = false) :=
  sortStable_pairwise _ (attrLess_fixed_asym hf) (attrLess_fixed_negtrans hf) as

theorem evendorLess_fixed_eq (a b : EVendor) :
    evendorLess cfg a b = (decide (a.number < b.number) || (a.number == b.number && bytesLt a.name b.name)) := by
  simp [evendorLess, hf]

theorem evendorLess_fixed_asym (a b : EVendor) : evendorLess cfg a b = true → evendorLess cfg b a = false := by
  rw [evendorLess_fixed_eq hf, evendorLess_fixed_eq hf]
  have h3 := bytesLt_asym a.name b.name
  by_cases e : a.number = b.number
  · simp only [e, Int.lt_irrefl, decide_false, beq_self_eq_true, Bool.true_and, Bool.false_or]; exact h3
  · have e' : ¬ b.number = a.number := fun h => e h.symm
    have e1 : (a.number == b.number) = false := by simp [e]
    have e2 : (b.number == a.number) = false := by simp [e']
    simp only [e1, e2, Bool.false_and, Bool.or_false, decide_eq_true_eq, decide_eq_false_iff_not]
    omega

theorem evendorLess_fixed_negtrans (a b c : EVendor) :
    evendorLess cfg b a = false → evendorLess cfg c b = false → evendorLess cfg c a = false := by
  rw [evendorLess_fixed_eq hf, evendorLess_fixed_eq hf, evendorLess_fixed_eq hf]
  have h4 := bytesLt_negtrans a.name b.name c.name
  simp only [Bool.or_eq_false_iff, Bool.and_eq_false_iff, decide_eq_false_iff_not, beq_eq_false_iff_ne, ne_eq]
  rintro ⟨h1, h1'⟩ ⟨h2, h2'⟩
  refine ⟨by omega, ?_⟩
  rcases h1' with h1' | h1'
  · left; omega
  · rcases h2' with h2' | h2'
    · left; omega
    · by_cases e : c.number = a.number
      · right; exact h4 h1' h2'
      · left; exact e

theorem evendorLess_fixed_name (a b : EVendor) :
    evendorLess cfg a b = false → evendorLess cfg b a = false → a.name = b.name := by
  rw [evendorLess_fixed_eq hf, evendorLess_fixed_eq hf]
  have h := bytesLt_total a.name b.name
  simp only [Bool.or_eq_false_iff, Bool.and_eq_false_iff, decide_eq_false_iff_not, beq_eq_false_iff_ne, ne_eq]
  rintro ⟨h1, h1'⟩ ⟨h2, h2'⟩
  have e : a.number = b.number := by omega
  exact h (h1'.resolve_left (not_not_intro e)) (h2'.resolve_left (not_not_intro e.symm))

end RV.Gen
