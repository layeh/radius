/- For C10: the big-endian codec over its width, and the IPv6-prefix codec compared octet by octet (`maskByte`,
   `maskIP'`, `encBody`) with the mask and the masked address.  A primed name is the lemma behind the C10 theorem
   of the same name, kept here because other proof files use it. -/
import RV.Model.Codec
import RV.Proofs.Res
namespace RV

theorem beNat_beBytes_mod (n v : Nat) : beNat (beBytes n v) = v % 256 ^ n := by
  induction n with
  | zero => simp [beBytes, beNat, Nat.mod_one]
  | succ n ih =>
    simp only [beBytes, beNat, beBytes_length, ih, UInt8.toNat_ofNat']
    have h1 : v / 256 ^ n % 256 % 2 ^ 8 = v / 256 ^ n % 256 := by
      rw [show (2:Nat)^8 = 256 from rfl, Nat.mod_mod]
    rw [h1, Nat.pow_succ, Nat.mod_mul, Nat.add_comm, Nat.mul_comm]

theorem beNat_beBytes (n v : Nat) (h : v < 256 ^ n) : beNat (beBytes n v) = v := by
  rw [beNat_beBytes_mod, Nat.mod_eq_of_lt h]

theorem beNat_lt (a : Bytes) : beNat a < 256 ^ a.length := by
  induction a with
  | nil => simp [beNat]
  | cons x xs ih =>
    simp only [beNat, List.length_cons, Nat.pow_succ]
    have hx : x.toNat < 256 := x.toNat_lt
    have : x.toNat * 256 ^ xs.length + 256 ^ xs.length ≤ 256 * 256 ^ xs.length := by
      have := Nat.mul_le_mul_right (256 ^ xs.length) (show x.toNat + 1 ≤ 256 from hx)
      rw [Nat.add_mul, Nat.one_mul] at this
      exact this
    rw [Nat.mul_comm (256 ^ xs.length) 256]
    omega

theorem beBytes_add_mul (n d x r : Nat) : beBytes n (x * 256 ^ (n + d) + r) = beBytes n r := by
  induction n generalizing d with
  | zero => rfl
  | succ n ih =>
    simp only [beBytes]
    congr 1
    · congr 1
      have : x * 256 ^ (n + 1 + d) = 256 ^ n * (x * 256 ^ d * 256) := by
        rw [show n + 1 + d = n + (d + 1) by omega, Nat.pow_add, Nat.pow_succ]
        simp only [Nat.mul_comm, Nat.mul_left_comm]
      rw [this, Nat.mul_add_div (Nat.pow_pos (by decide)), Nat.add_comm, Nat.add_mul_mod_self_right]
    · have := ih (d + 1)
      rw [show n + (d + 1) = n + 1 + d by omega] at this
      exact this

theorem beBytes_beNat (a : Bytes) : beBytes a.length (beNat a) = a := by
  induction a with
  | nil => rfl
  | cons x xs ih =>
    have hlt := beNat_lt xs
    simp only [beNat, List.length_cons, beBytes]
    congr 1
    · rw [Nat.mul_comm, Nat.mul_add_div (Nat.pow_pos (by decide)), Nat.div_eq_of_lt hlt,
        Nat.add_zero, Nat.mod_eq_of_lt x.toNat_lt, UInt8.ofNat_toNat]
    · have := beBytes_add_mul xs.length 0 x.toNat (beNat xs)
      rw [Nat.add_zero] at this
      rw [this]; exact ih

theorem beDec_beBytes (n v : Nat) (h : v < 256 ^ n) :
    (if (beBytes n v).length ≠ n then Res.err else Res.ok (beNat (beBytes n v))) = .ok v := by
  rw [if_neg (by simp [beBytes_length]), beNat_beBytes n v h]

theorem beBytes_of_beDec (n : Nat) (a : Bytes) (v : Nat)
    (h : (if a.length ≠ n then Res.err else Res.ok (beNat a)) = .ok v) : v < 256 ^ n ∧ beBytes n v = a := by
  obtain ⟨hl, rfl⟩ := guard_eq_ok.1 h
  rw [← Decidable.not_not.mp hl]
  exact ⟨beNat_lt a, beBytes_beNat a⟩

theorem date_roundtrip' (u : Int) (a : Bytes) (h : newDate u = .ok a) : a.length = 4 ∧ date a = .ok u := by
  rw [newDate, err_else_ok, err_else_okIf, okIf_eq_ok] at h
  obtain ⟨hu, rfl⟩ := h
  have hm : u % 4294967296 = u := Int.emod_eq_of_lt (by omega) (by omega)
  refine ⟨beBytes_length _ _, ?_⟩
  simp only [date, beBytes_length]
  rw [beNat_beBytes 4 _ (by rw [hm]; show u.toNat < 4294967296; omega), hm]
  simp
  omega

theorem ext_getD (l₁ l₂ : Bytes) (hl : l₁.length = l₂.length)
    (h : ∀ i, i < l₁.length → l₁.getD i 0 = l₂.getD i 0) : l₁ = l₂ := by
  apply List.ext_getElem hl
  intro i h1 h2
  rw [List.getElem_eq_getD (0 : UInt8), List.getElem_eq_getD (0 : UInt8)]
  exact h i h1

theorem getD_append_zeros (a : Bytes) (k i : Nat) : (a ++ zeros k).getD i 0 = a.getD i 0 := by
  simp only [List.getD_eq_getElem?_getD, List.getElem?_append, zeros, List.getElem?_replicate]
  split
  · rfl
  · rw [List.getElem?_eq_none (by omega)]; split <;> rfl

theorem getD_take_zero (l : Bytes) (q i : Nat) : (l.take q).getD i 0 = if i < q then l.getD i 0 else 0 := by
  simp only [List.getD_eq_getElem?_getD, List.getElem?_take]
  split <;> rfl

theorem getD_snoc (a : Bytes) (c : UInt8) (i : Nat) :
    (a ++ [c]).getD i 0 = if i < a.length then a.getD i 0 else if i = a.length then c else 0 := by
  simp only [List.getD_eq_getElem?_getD, List.getElem?_append]
  split
  · rfl
  · split
    · rw [show i - a.length = 0 by omega]; rfl
    · rw [List.getElem?_eq_none (by simp; omega)]; rfl

/-- octet `i` of `cidrMask n` -/
def maskByte (n i : Nat) : UInt8 :=
  if (i + 1) * 8 ≤ n then 0xff
  else if i * 8 ≥ n then 0
  else UInt8.ofNat (256 - 2 ^ (8 - (n - i * 8)))

theorem maskByte_shift (n i : Nat) : maskByte (n + 8) (i + 1) = maskByte n i := by
  simp only [maskByte, Nat.succ_mul, Nat.add_le_add_iff_right, Nat.add_sub_add_right, ge_iff_le]

theorem byteOnes_spec (b : UInt8) (k : Nat) (h : byteOnes b = some k) :
    k ≤ 8 ∧ b = maskByte k 0 := by
  unfold byteOnes at h
  have hb : b = UInt8.ofNat b.toNat := UInt8.ofNat_toNat.symm
  split at h <;> rename_i e <;> first
    | (cases h; rw [e] at hb; exact ⟨by decide, hb⟩)
    | cases h

theorem cidrMask_getD (n i : Nat) (hi : i < 16) : (cidrMask n).getD i 0 = maskByte n i := by
  unfold cidrMask maskByte
  rw [List.getD_eq_getElem?_getD, List.getElem?_map, List.getElem?_range hi]
  rfl

theorem all_zero_getD (l : Bytes) (h : l.all (· == 0) = true) (i : Nat) : l.getD i 0 = 0 := by
  rw [List.getD_eq_getElem?_getD]
  cases hi : l[i]? with
  | none => rfl
  | some x =>
    have hm := List.mem_of_getElem? hi
    have := List.all_eq_true.mp h x hm
    simpa using this

theorem maskOnes_spec (mask : Bytes) : ∀ n, maskOnes mask = some n →
    n ≤ mask.length * 8 ∧ ∀ i, i < mask.length → mask.getD i 0 = maskByte n i := by
  induction mask with
  | nil => intro n h; simp [maskOnes] at h; subst h; simp
  | cons b rest ih =>
    intro n h
    unfold maskOnes at h
    split at h
    · rename_i hb
      cases hr : maskOnes rest with
      | none => rw [hr] at h; cases h
      | some n' =>
        rw [hr] at h
        simp only [Option.map_some, Option.some.injEq] at h
        subst h
        obtain ⟨h1, h2⟩ := ih n' hr
        refine ⟨by simp only [List.length_cons]; omega, ?_⟩
        intro i hi
        cases i with
        | zero =>
          simp only [List.getD_cons_zero, hb]
          unfold maskByte
          rw [if_pos (by omega)]
        | succ j =>
          simp only [List.getD_cons_succ]
          rw [maskByte_shift]
          exact h2 j (by simp only [List.length_cons] at hi; omega)
    · split at h
      · rename_i k hk
        split at h
        · rename_i hz
          cases h
          obtain ⟨h1, h2⟩ := byteOnes_spec b n hk
          refine ⟨by simp only [List.length_cons]; omega, ?_⟩
          intro i hi
          cases i with
          | zero => simpa using h2
          | succ j =>
            simp only [List.getD_cons_succ]
            rw [all_zero_getD rest hz]
            unfold maskByte
            rw [if_neg (by omega), if_pos (by omega)]
        · cases h
      · cases h

theorem maskOnes_eq_cidrMask (mask : Bytes) (n : Nat) (hl : mask.length = 16)
    (h : maskOnes mask = some n) : n ≤ 128 ∧ mask = cidrMask n := by
  obtain ⟨h1, h2⟩ := maskOnes_spec mask n h
  refine ⟨by omega, ?_⟩
  apply ext_getD
  · rw [hl]; simp [cidrMask]
  · intro i hi
    rw [h2 i hi, cidrMask_getD n i (by omega)]

/-- `RV.C10.maskIP`, which is stated in the Props file and so cannot be used here (Props imports Proofs).
    `C10.prefix_roundtrip` type-checks against `prefix_roundtrip'` because the two bodies are the same text. -/
def maskIP' (ip : Bytes) (n : Nat) : Bytes :=
  (List.range ip.length).map fun i =>
    if (i + 1) * 8 ≤ n then ip.getD i 0
    else if i * 8 ≥ n then 0
    else clearFrom (ip.getD i 0) (n - i * 8)

theorem maskIP'_length (ip : Bytes) (n : Nat) : (maskIP' ip n).length = ip.length := by
  simp [maskIP']

theorem maskIP'_getD (ip : Bytes) (n i : Nat) (hi : i < ip.length) :
    (maskIP' ip n).getD i 0 =
      if (i + 1) * 8 ≤ n then ip.getD i 0
      else if i * 8 ≥ n then 0
      else clearFrom (ip.getD i 0) (n - i * 8) := by
  unfold maskIP'
  rw [List.getD_eq_getElem?_getD, List.getElem?_map, List.getElem?_range hi]
  rfl

theorem clearFrom_idem (b : UInt8) (k : Nat) : clearFrom (clearFrom b k) k = clearFrom b k := by
  simp [clearFrom, UInt8.and_assoc]

theorem hostBitsZero_maskIP' (ip : Bytes) (n : Nat) : hostBitsZero (maskIP' ip n) n = true := by
  unfold hostBitsZero
  rw [List.all_eq_true]
  intro i hi
  rw [List.mem_range] at hi
  rw [maskIP'_length] at hi
  simp only [maskIP'_getD ip n i hi]
  by_cases h1 : (i + 1) * 8 ≤ n
  · simp [h1]
  · by_cases h2 : i * 8 ≥ n
    · simp [h1, h2]
    · simp [h1, h2, clearFrom_idem]

/-- the body emitted by `newIPv6Prefix` -/
def encBody (ip : Bytes) (ones : Nat) : Bytes :=
  if ones % 8 ≠ 0 then
    (ip.take ((ones + 7) / 8)).take ((ones + 7) / 8 - 1) ++
      [clearFrom ((ip.take ((ones + 7) / 8)).getD ((ones + 7) / 8 - 1) 0) (ones % 8)]
  else ip.take ((ones + 7) / 8)

theorem newIPv6Prefix_ok (ip mask : Bytes) (n : Nat) (hip : ip.length = 16) (hm : mask.length = 16)
    (hn : maskOnes mask = some n) :
    newIPv6Prefix (some (ip, mask)) = .ok (0 :: UInt8.ofNat n :: encBody ip n) := by
  simp [newIPv6Prefix, maskSize, hn, hip, hm, encBody]

/-- in terms of `n / 8` whole octets and `n % 8` further bits -/
theorem encBody_eq (ip : Bytes) (n : Nat) :
    encBody ip n = if n % 8 = 0 then ip.take (n / 8)
      else ip.take (n / 8) ++ [clearFrom (ip.getD (n / 8) 0) (n % 8)] := by
  unfold encBody
  by_cases h : n % 8 = 0
  · rw [if_neg (by omega), if_pos h, show (n + 7) / 8 = n / 8 by omega]
  · rw [if_pos h, if_neg h, show (n + 7) / 8 - 1 = n / 8 by omega, List.take_take, Nat.min_eq_left (by omega),
      getD_take_zero, if_pos (by omega)]

theorem encBody_length (ip : Bytes) (n : Nat) (hip : ip.length = 16) (hn : n ≤ 128) :
    (encBody ip n).length = (n + 7) / 8 := by
  rw [encBody_eq]
  split <;> simp only [List.length_take, List.length_append, List.length_singleton, hip] <;> omega

theorem encBody_pad_eq (ip : Bytes) (n : Nat) (hip : ip.length = 16) (hn : n ≤ 128) :
    encBody ip n ++ zeros (16 - (n + 7) / 8) = maskIP' ip n := by
  apply ext_getD
  · rw [maskIP'_length, List.length_append, encBody_length ip n hip hn, hip]
    simp [zeros]; omega
  intro i hi
  rw [List.length_append, encBody_length ip n hip hn, zeros, List.length_replicate] at hi
  rw [maskIP'_getD ip n i (by omega), getD_append_zeros, encBody_eq]
  by_cases h : n % 8 = 0
  · rw [if_pos h, getD_take_zero]
    by_cases hq : i < n / 8
    · rw [if_pos hq, if_pos (by omega)]
    · rw [if_neg hq, if_neg (by omega), if_pos (by omega)]
  · rw [if_neg h, getD_snoc, List.length_take, Nat.min_eq_left (by omega), getD_take_zero]
    by_cases hq : i < n / 8
    · rw [if_pos hq, if_pos hq, if_pos (by omega)]
    · rw [if_neg hq]
      by_cases he : i = n / 8
      · rw [if_pos he, if_neg (by omega), if_neg (by omega), he, show n - n / 8 * 8 = n % 8 by omega]
      · rw [if_neg he, if_neg (by omega), if_pos (by omega)]

theorem prefix_enc_ok_iff' (ip mask : Bytes) :
    (∃ a, newIPv6Prefix (some (ip, mask)) = .ok a) ↔
      (ip.length = 16 ∧ mask.length = 16 ∧ (maskOnes mask).isSome = true) := by
  cases hm : maskOnes mask with
  | none => simp [newIPv6Prefix, maskSize, hm]
  | some n =>
    simp only [newIPv6Prefix, maskSize, hm, err_else_ok, err_else_okIf, okIf_isOk, Option.isSome_some, and_true,
      ne_eq, Decidable.not_not]
    omega

theorem prefix_roundtrip' (ip mask a : Bytes) (n : Nat) (hn : maskOnes mask = some n)
    (h : newIPv6Prefix (some (ip, mask)) = .ok a) :
    a.length ≤ 18 ∧ ipv6Prefix a = .ok (maskIP' ip n, mask) := by
  obtain ⟨hip, hm, _⟩ := (prefix_enc_ok_iff' ip mask).1 ⟨a, h⟩
  obtain ⟨hn128, hmask⟩ := maskOnes_eq_cidrMask mask n hm hn
  rw [newIPv6Prefix_ok ip mask n hip hm hn] at h
  cases h
  have hl := encBody_length ip n hip hn128
  have hpl : (UInt8.ofNat n).toNat = n := by
    rw [UInt8.toNat_ofNat']; show n % 256 = n; omega
  refine ⟨by simp only [List.length_cons, hl]; omega, ?_⟩
  unfold ipv6Prefix
  rw [if_neg (by simp only [List.length_cons, hl]; omega)]
  simp only [List.getD_cons_succ, List.getD_cons_zero, hpl, List.drop_succ_cons, List.drop_zero,
    List.length_cons, hl]
  rw [if_neg (by omega)]
  have e : (n + 7) / 8 + 1 + 1 - 2 = (n + 7) / 8 := by omega
  rw [e, encBody_pad_eq ip n hip hn128, hostBitsZero_maskIP', ← hmask]
  rfl

theorem short_ne_fault (a : Bytes) : short a ≠ .fault := guard_ne_fault
theorem integer_ne_fault (a : Bytes) : integer a ≠ .fault := guard_ne_fault
theorem integer64_ne_fault (a : Bytes) : integer64 a ≠ .fault := guard_ne_fault
theorem ipAddr_ne_fault (a : Bytes) : ipAddr a ≠ .fault := guard_ne_fault
theorem ipv6Addr_ne_fault (a : Bytes) : ipv6Addr a ≠ .fault := guard_ne_fault
theorem ifid_ne_fault (a : Bytes) : ifid a ≠ .fault := guard_ne_fault
theorem date_ne_fault (a : Bytes) : date a ≠ .fault := guard_ne_fault
theorem vendorSpecific_ne_fault (a : Bytes) : vendorSpecific a ≠ .fault := guard_ne_fault
theorem tlv_ne_fault (a : Bytes) : tlv a ≠ .fault := guard_ne_fault

theorem ipv6Prefix_ne_fault (a : Bytes) : ipv6Prefix a ≠ .fault := by
  simp only [ipv6Prefix, err_else_ok, err_else_okIf]
  exact okIf_ne_fault

theorem never_faults' (a : Bytes) :
    short a ≠ .fault ∧ integer a ≠ .fault ∧ integer64 a ≠ .fault ∧ ipAddr a ≠ .fault ∧ ipv6Addr a ≠ .fault ∧
    ifid a ≠ .fault ∧ date a ≠ .fault ∧ vendorSpecific a ≠ .fault ∧ tlv a ≠ .fault ∧ ipv6Prefix a ≠ .fault :=
  ⟨short_ne_fault a, integer_ne_fault a, integer64_ne_fault a, ipAddr_ne_fault a, ipv6Addr_ne_fault a,
    ifid_ne_fault a, date_ne_fault a, vendorSpecific_ne_fault a, tlv_ne_fault a, ipv6Prefix_ne_fault a⟩

end RV
