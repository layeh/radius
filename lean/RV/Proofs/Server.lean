/- Invariants of RV.Model.Server, each proved preserved rule by rule (RV.Proofs.ServerStep) and projected by the
   theorems of RV.Props.C06 / C07.  In this order: quiet steps (those of Serve and Shutdown calls: nothing about a
   goroutine changes); the Shutdown calls (`CtxOK`, `downRank`); `InvG`, the dedup table; counting over `List.range`
   and `InvF`, the accounting of `activeCount` in the tree's variant; `Drained` and progress towards it
   (`drainMeasure`, `step_drain_le`, `own_drain_label_enabled`, `drain_bound`, `schedule_drains`); the datagram
   pipeline (`classify_handle_iff'`); `InvO`, what a goroutine captured, with what it says of a `reply`; `InvC`, the
   event counts per goroutine.
   The Props files import this one, so a definition their statements need in a proof here has a copy here (`isHS`,
   `terminalS`; `C06.handlerStarts`, `C07.measure`, `C07.fineMeasure` are the Props names of `hsCount`,
   `drainMeasure`, `measure2`); each pair is equal by `rfl`, which is how the Props proofs pass from one to the other. -/
import RV.Proofs.ServerStep
import RV.Props.C03  -- for `C03.response_verifies` (the reply's authenticator), the one Props file a Proofs file imports
namespace RV.Server

/-- `C07.isHandlerStart` (same equations; see the head of the file) -/
def isHS : Event → Bool
  | .handlerStart _ _ => true
  | _ => false

theorem filter_closeEv (s : St) {p : Event → Bool} (hp : p .doubleClose = false) : (closeEv s).filter p = [] := by
  unfold closeEv
  split <;> simp [hp]

theorem serveLeave_log_filter (s : St) (i : Nat) (r : ServeRes) :
    (serveLeave s i r).log.filter isHS = s.log.filter isHS := by
  rw [serveLeave, activeDone_eq]
  simp only [List.filter_append, filter_closeEv _ (p := isHS) rfl]
  simp [isHS]

def isTaskEvent : Event → Bool  -- ⊇ `isTraced`, `isCounted`, `isRecv` below: every event that names a goroutine
  | .recv .. | .request .. | .handlerStart .. | .handlerEnd _ | .dropped _ | .reply .. => true
  | _ => false

/-- a quiet step leaves the goroutines, the dedup tables and the origins alone and logs nothing about a goroutine -/
structure Quiet (s s' : St) : Prop extends KeepsTasks s s' where
  log : ∃ evs, s'.log = s.log ++ evs ∧ ∀ e ∈ evs, isTaskEvent e = false

theorem Quiet.of_log {H : Hash} {cfg : Cfg} {s s' : St} {l : Label} (hs : step H cfg s l = some s')
    (hk : KeepsTasks s s') (hl : ∀ e, NewEv H cfg s l e → isTaskEvent e = false) : Quiet s s' := by
  obtain ⟨evs, he, hn⟩ := step_log hs
  exact ⟨hk, evs, he, fun e hm => hl e (hn e hm)⟩

theorem step_quiet {H : Hash} {cfg : Cfg} {s s' : St} {l : Label} (hs : step H cfg s l = some s') :
    Quiet s s' ∨ TaskStep H cfg s l s' := by
  cases step_iff.mp hs with
  | task h => exact .inr h
  | serve h =>
    refine .inl (Quiet.of_log hs h.keepsTasks fun e he => ?_)
    rcases he with rfl | he
    · rfl
    · cases h <;> first | (obtain rfl := he; rfl) | cases he
  | down h =>
    refine .inl (Quiet.of_log hs h.keepsTasks fun e he => ?_)
    rcases he with rfl | he
    · rfl
    · cases h <;> first | (obtain ⟨c, rfl⟩ := he; rfl) | (obtain rfl := he; rfl) | cases he

/-- invariant of the Shutdown calls (any variant): a call that returned its caller's context error had seen that
    context end (`C07.ctx_error_only_if_ctx_done`) -/
def CtxOK (s : St) : Prop :=
  ∀ (j : Nat) (c : Bool), s.downs[j]? = some (⟨.returned .ctxErr, c⟩ : Down) → c = true

theorem CtxOK_initWith (conns : List Nat) (nD : Nat) : CtxOK (initWith conns nD) := by
  intro j c h
  simp [initWith, List.getElem?_replicate] at h

theorem CtxOK_step {H : Hash} {cfg : Cfg} {s s' : St} {l : Label} (h : CtxOK s) (hs : step H cfg s l = some s') :
    CtxOK s' := by
  have set : ∀ (j : Nat) (d : Down), (∀ c, d = ⟨.returned .ctxErr, c⟩ → c = true) → CtxOK { s with downs := s.downs.set j d } := by
    intro j d hd j' c hh
    rcases getElem?_set_some hh with ⟨_, he, _⟩ | ⟨_, he⟩
    · exact hd c he
    · exact h j' c he
  cases step_iff.mp hs with
  | serve h' => unfold CtxOK; rw [h'.keepsDowns.downs]; exact h
  | task h' => unfold CtxOK; rw [h'.keepsDowns.downs]; exact h
  | down h' =>
    cases h' with
    | downLate | returnNil => exact set _ _ (by intro c hc; cases hc)
    | shutdown => rw [activeDone_eq]; exact set _ _ (by intro c hc; cases hc)
    | returnCtx | expire => exact set _ _ (by intro c hc; cases hc; rfl)

theorem CtxOK_run (H : Hash) (cfg : Cfg) (conns : List Nat) (nD : Nat) (ls : List Label) :
    CtxOK (run H cfg (initWith conns nD) ls) :=
  run_preserves H cfg CtxOK (fun _ _ _ h hs => CtxOK_step h hs) ls _ (CtxOK_initWith conns nD)

def downRank : DownPc → Nat
  | .notStarted => 0
  | .waiting => 1
  | .returned _ => 2

theorem rank_set {downs : List Down} {j : Nat} {d0 d1 : Down} (h0 : downs[j]? = some d0)
    (hr : downRank d0.pc ≤ downRank d1.pc) :
    ∀ (j' : Nat) (d : Down), downs[j']? = some d →
      ∃ d', (downs.set j d1)[j']? = some d' ∧ downRank d.pc ≤ downRank d'.pc := by
  intro j' d hd
  rw [List.getElem?_set]
  by_cases hjj : j = j'
  · subst hjj
    rw [h0] at hd; cases hd
    simp only [if_true, lt_of_getElem?_eq_some h0]
    exact ⟨d1, rfl, hr⟩
  · simp only [hjj, if_false]
    exact ⟨d, hd, Nat.le_refl _⟩

/-- a Shutdown call never moves backwards: not started → waiting → returned -/
theorem step_down_rank {H : Hash} {cfg : Cfg} {s s' : St} {l : Label} (hs : step H cfg s l = some s') :
    ∀ (j : Nat) (d : Down), s.downs[j]? = some d →
      ∃ d', s'.downs[j]? = some d' ∧ downRank d.pc ≤ downRank d'.pc := by
  cases step_iff.mp hs with
  | serve h' => rw [h'.keepsDowns.downs]; exact fun j d hd => ⟨d, hd, Nat.le_refl _⟩
  | task h' => rw [h'.keepsDowns.downs]; exact fun j d hd => ⟨d, hd, Nat.le_refl _⟩
  | down h' =>
    cases h' with
    | downLate hj | returnNil hj | returnCtx hj | expire hj => exact rank_set hj (by simp [downRank])
    | shutdown hj => rw [activeDone_eq]; exact rank_set hj (by simp [downRank])

theorem run_down_rank (H : Hash) (cfg : Cfg) :
    ∀ (ls : List Label) (s : St) (j : Nat) (d : Down), s.downs[j]? = some d →
      ∃ d', (run H cfg s ls).downs[j]? = some d' ∧ downRank d.pc ≤ downRank d'.pc := by
  intro ls
  induction ls with
  | nil => intro s j d hd; exact ⟨d, hd, Nat.le_refl _⟩
  | cons l ls ih =>
    intro s j d hd
    simp only [run]
    cases hs : step H cfg s l with
    | none => exact ih s j d hd
    | some s' =>
      obtain ⟨d1, h1, r1⟩ := step_down_rank hs j d hd
      obtain ⟨d2, h2, r2⟩ := ih s' j d1 h1
      exact ⟨d2, h2, by omega⟩

theorem connOf_run (H : Hash) (cfg : Cfg) (conns : List Nat) (nD : Nat) (ls : List Label) :
    (run H cfg (initWith conns nD) ls).connOf = conns :=
  run_preserves H cfg (fun s => s.connOf = conns) (fun _ _ _ h hs => (step_shape hs).1.trans h) ls _ rfl

/-- `InvG` ("general": it holds in both variants of `Serve`): the dedup table of every Serve call is the set of
    keys of its goroutines that are in their handler, and the handler starts of the log belong to such goroutines.
    C06's `at_most_one_inflight`, `released_after_return`, `handler_start_once_and_fresh` project it. -/
structure InvG (s : St) : Prop where
  len : s.inflight.length = s.serves.length
  bound : ∀ (t : Nat) (tk : Task), s.tasks[t]? = some tk → tk.serve < s.serves.length
  nodup : ∀ i, (s.inflight.getD i []).Nodup
  mem : ∀ (i : Nat) (key : Key), key ∈ s.inflight.getD i [] ↔ ∃ t : Nat, s.tasks[t]? = some (⟨i, .inHandler key⟩ : Task)
  uniq : ∀ (t t' i : Nat) (key : Key), s.tasks[t]? = some (⟨i, .inHandler key⟩ : Task) →
    s.tasks[t']? = some (⟨i, .inHandler key⟩ : Task) → t = t'
  -- a logged handler start is that of a goroutine in its handler under that key, or done
  log : ∀ (t : Nat) (key : Key), Event.handlerStart t key ∈ s.log →
    ∃ i : Nat, s.tasks[t]? = some (⟨i, .inHandler key⟩ : Task) ∨ s.tasks[t]? = some (⟨i, .done⟩ : Task)

theorem InvG.of_same {s s' : St} (h : InvG s) (hi : s'.inflight = s.inflight) (ht : s'.tasks = s.tasks)
    (hl : s'.serves.length = s.serves.length)
    (hlog : ∀ (t : Nat) (k : Key), Event.handlerStart t k ∈ s'.log → Event.handlerStart t k ∈ s.log) : InvG s' := by
  refine ⟨?_, ?_, ?_, ?_, ?_, ?_⟩
  · rw [hi, hl]; exact h.len
  · rw [ht, hl]; exact h.bound
  · rw [hi]; exact h.nodup
  · rw [hi, ht]; exact h.mem
  · rw [ht]; exact h.uniq
  · rw [ht]; intro t k hm; exact h.log t k (hlog t k hm)

theorem InvG_initWith (conns : List Nat) (nD : Nat) : InvG (initWith conns nD) := by
  refine ⟨?_, ?_, ?_, ?_, ?_, ?_⟩
  · simp [initWith]
  · intro t tk h; simp [initWith] at h
  · intro i; simp [initWith, List.getD_eq_getElem?_getD, List.getElem?_replicate]
    split <;> simp
  · intro i key
    simp [initWith, List.getD_eq_getElem?_getD, List.getElem?_replicate]
    split <;> simp
  · intro t t' i key h; simp [initWith] at h
  · intro t key h; simp [initWith] at h

/-- `spawn` by a running Serve call (the second half of `serveRecv`; `serveSpawn` of the fine machine) -/
theorem InvG_spawn {H : Hash} {cfg : Cfg} {s : St} {i peer : Nat} {d : Bytes} (h : InvG s)
    (hrun : s.serves[i]? = some .running) : InvG (spawn H cfg s i peer d) := by
  simp only [spawn, activeAdd]
  have hi : i < s.serves.length := lt_of_getElem?_eq_some hrun
  have old : ∀ (t : Nat) (i' : Nat) (k : Key),
      (s.tasks ++ [(⟨i, .spawned (classify H cfg peer d)⟩ : Task)])[t]? = some (⟨i', .inHandler k⟩ : Task) →
      s.tasks[t]? = some (⟨i', .inHandler k⟩ : Task) := by
    intro t i' k hh
    rcases getElem?_append_singleton_some hh with h1 | ⟨_, h1⟩
    · exact h1
    · cases h1
  have new : ∀ (t : Nat) (x : Task), s.tasks[t]? = some x →
      (s.tasks ++ [(⟨i, .spawned (classify H cfg peer d)⟩ : Task)])[t]? = some x := by
    intro t x hh
    rw [List.getElem?_append_left (lt_of_getElem?_eq_some hh)]; exact hh
  refine ⟨h.len, ?_, h.nodup, ?_, ?_, ?_⟩
  · intro t tk hh
    rcases getElem?_append_singleton_some hh with h1 | ⟨_, h1⟩
    · exact h.bound t tk h1
    · subst h1; exact hi
  · intro i' k
    rw [h.mem]
    constructor
    · rintro ⟨t, ht⟩; exact ⟨t, new t _ ht⟩
    · rintro ⟨t, ht⟩; exact ⟨t, old t _ _ ht⟩
  · intro t t' i' k h1 h2
    exact h.uniq t t' i' k (old _ _ _ h1) (old _ _ _ h2)
  · intro t k hm
    have hm' : Event.handlerStart t k ∈ s.log := by simpa using hm
    obtain ⟨i', h1 | h1⟩ := h.log t k hm'
    · exact ⟨i', Or.inl (new _ _ h1)⟩
    · exact ⟨i', Or.inr (new _ _ h1)⟩

theorem inH_set {tasks : List Task} {t : Nat} {a : Task} (b : Task) (ha : tasks[t]? = some a) (t' i : Nat) (k : Key) :
    (tasks.set t b)[t']? = some (⟨i, .inHandler k⟩ : Task) ↔
      (t' = t ∧ b = ⟨i, .inHandler k⟩) ∨ (t' ≠ t ∧ tasks[t']? = some ⟨i, .inHandler k⟩) := by
  rw [List.getElem?_set]
  by_cases htt : t = t'
  · subst htt; simp [lt_of_getElem?_eq_some ha]
  · simp [htt, Ne.symm htt]

/-- Goroutine `t` of Serve call `i` moves from `a` to `b` and the dedup tables follow: a key leaves the table of
    `i` when `t` leaves its handler, and enters it — being free — when `t` enters its handler. -/
theorem InvG_move {s s' : St} (h : InvG s) {t i : Nat} {a : TaskPc} (b : TaskPc)
    (ht : s.tasks[t]? = some (⟨i, a⟩ : Task)) (htasks : s'.tasks = s.tasks.set t ⟨i, b⟩)
    (hserves : s'.serves = s.serves) (hlen : s'.inflight.length = s.inflight.length)
    (hnodup : ∀ i', (s'.inflight.getD i' []).Nodup)
    (hmem : ∀ i' k, k ∈ s'.inflight.getD i' [] ↔
      (k ∈ s.inflight.getD i' [] ∧ ¬ (i' = i ∧ a = .inHandler k)) ∨ (i' = i ∧ b = .inHandler k))
    (hfresh : ∀ k, b = .inHandler k → k ∉ s.inflight.getD i [])
    (hab : ∀ k, a = .inHandler k ∨ a = .done → b = .inHandler k ∨ b = .done)
    (hlog : ∀ t' k, Event.handlerStart t' k ∈ s'.log →
      Event.handlerStart t' k ∈ s.log ∨ (t' = t ∧ b = .inHandler k)) : InvG s' := by
  have htl := lt_of_getElem?_eq_some ht
  refine ⟨by rw [hlen, hserves]; exact h.len, ?_, hnodup, ?_, ?_, ?_⟩
  · intro t' tk hh
    rw [htasks] at hh
    rw [hserves]
    rcases getElem?_set_some hh with ⟨_, he, _⟩ | ⟨_, he⟩
    · subst he; exact h.bound t ⟨i, a⟩ ht
    · exact h.bound t' tk he
  · intro i' k
    rw [hmem, htasks]
    simp only [inH_set _ ht, h.mem]
    constructor
    · rintro (⟨⟨t', ht'⟩, hn⟩ | ⟨rfl, rfl⟩)
      · refine ⟨t', Or.inr ⟨fun e => hn ?_, ht'⟩⟩
        subst e; rw [ht] at ht'; cases ht'; exact ⟨rfl, rfl⟩
      · exact ⟨t, Or.inl ⟨rfl, rfl⟩⟩
    · rintro ⟨t', ⟨_, he⟩ | ⟨hne, ht'⟩⟩
      · cases he; exact Or.inr ⟨rfl, rfl⟩
      · refine Or.inl ⟨⟨t', ht'⟩, fun ⟨e1, e2⟩ => hne ?_⟩
        subst e1; subst e2; exact h.uniq t' t i' k ht' ht
  · intro t1 t2 i' k h1 h2
    rw [htasks, inH_set _ ht] at h1 h2
    rcases h1 with ⟨e1, b1⟩ | ⟨n1, o1⟩ <;> rcases h2 with ⟨e2, b2⟩ | ⟨n2, o2⟩
    · rw [e1, e2]
    · cases b1; exact absurd ((h.mem i k).mpr ⟨t2, o2⟩) (hfresh k rfl)
    · cases b2; exact absurd ((h.mem i k).mpr ⟨t1, o1⟩) (hfresh k rfl)
    · exact h.uniq t1 t2 i' k o1 o2
  · intro t' k hm
    rw [htasks]
    rcases hlog t' k hm with hm | ⟨rfl, rfl⟩
    · obtain ⟨i', ho⟩ := h.log t' k hm
      by_cases htt : t = t'
      · subst htt
        rw [ht] at ho
        have hb := hab k (by rcases ho with ho | ho <;> cases ho <;> simp)
        refine ⟨i, ?_⟩
        rw [List.getElem?_set_self htl]
        rcases hb with hb | hb <;> simp [hb]
      · rw [List.getElem?_set_ne htt]; exact ⟨i', ho⟩
    · exact ⟨i, Or.inl (List.getElem?_set_self htl)⟩

theorem hs_mem_of_done {s s0 : St} {ev : Event} {t : Nat} {k : Key} (hev : ev ≠ .handlerStart t k)
    (hm : Event.handlerStart t k ∈ s.log ++ [ev] ++ closeEv s0) : Event.handlerStart t k ∈ s.log := by
  rcases List.mem_append.mp hm with hm | hm
  · rcases List.mem_append.mp hm with hm | hm
    · exact hm
    · exact absurd (List.mem_singleton.mp hm).symm hev
  · cases mem_closeEv hm

theorem InvG_taskDrop {s : St} {t i : Nat} {fate : Fate} (h : InvG s)
    (ht : s.tasks[t]? = some (⟨i, .spawned fate⟩ : Task)) :
    InvG (activeDone { s with tasks := s.tasks.set t ⟨i, .done⟩, log := s.log ++ [.dropped t] }) := by
  rw [activeDone_eq]
  exact InvG_move h .done ht rfl rfl rfl h.nodup (by simp) (by simp) (by simp)
    fun t' k hm => Or.inl (hs_mem_of_done (by simp) hm)

theorem InvG_taskEnter {s : St} {t i : Nat} {key : Key} {p : Packet} (h : InvG s)
    (ht : s.tasks[t]? = some (⟨i, .spawned (.handle key p)⟩ : Task))
    (hk : key ∉ s.inflight.getD i []) :
    InvG { s with tasks := s.tasks.set t ⟨i, .inHandler key⟩,
                  inflight := s.inflight.set i (key :: s.inflight.getD i []),
                  log := s.log ++ [.request t p (s.peerOf t) (s.connOf.getD i 0) .server,
                                   .handlerStart t key] } := by
  have hil : i < s.inflight.length := by rw [h.len]; exact h.bound t _ ht
  refine InvG_move h (.inHandler key) ht rfl rfl (by simp) (fun i' => ?_) (fun i' k => ?_) ?_ (by simp) ?_
  · simp only [getD_set]
    split
    · exact List.nodup_cons.mpr ⟨hk, h.nodup i⟩
    · exact h.nodup i'
  · simp only [getD_set]
    by_cases hii : i = i'
    · subst hii; simp [hil, eq_comm, or_comm]
    · simp [hii, Ne.symm hii]
  · intro k hk'; cases hk'; exact hk
  · intro t' k hm
    simp only [List.mem_append, List.mem_cons, List.mem_nil_iff, or_false, reduceCtorEq, false_or,
      Event.handlerStart.injEq] at hm
    rcases hm with hm | ⟨rfl, rfl⟩
    · exact Or.inl hm
    · exact Or.inr ⟨rfl, rfl⟩

theorem InvG_taskFinish {s : St} {t i : Nat} {key : Key} (h : InvG s)
    (ht : s.tasks[t]? = some (⟨i, .inHandler key⟩ : Task)) :
    InvG (activeDone { s with tasks := s.tasks.set t ⟨i, .done⟩,
                              inflight := s.inflight.set i ((s.inflight.getD i []).erase key),
                              log := s.log ++ [.handlerEnd t] }) := by
  rw [activeDone_eq]
  have hil : i < s.inflight.length := by rw [h.len]; exact h.bound t _ ht
  refine InvG_move h .done ht rfl rfl (by simp) (fun i' => ?_) (fun i' k => ?_) (by simp) (by simp)
    fun t' k hm => Or.inl (hs_mem_of_done (by simp) hm)
  · simp only [getD_set]
    split
    · exact (h.nodup i).erase key
    · exact h.nodup i'
  · simp only [getD_set]
    by_cases hii : i = i'
    · subst hii
      simp only [hil, and_self, if_true, (h.nodup i).mem_erase_iff, TaskPc.inHandler.injEq, reduceCtorEq, and_false,
        or_false, true_and]
      exact ⟨fun ⟨hne, hm⟩ => ⟨hm, fun e => hne e.symm⟩, fun ⟨hm, hne⟩ => ⟨fun e => hne e.symm, hm⟩⟩
    · simp [hii, Ne.symm hii]

theorem InvG_step {H : Hash} {cfg : Cfg} {s s' : St} {l : Label} (h : InvG s) (hs : step H cfg s l = some s') :
    InvG s' := by
  rcases step_quiet hs with q | h'
  · obtain ⟨evs, he, hq⟩ := q.log
    refine h.of_same q.inflight q.tasks (step_shape hs).2.1 fun t k hm => ?_
    rw [he] at hm
    rcases List.mem_append.mp hm with hm | hm
    · exact hm
    · cases hq _ hm
  · cases h' with
    | recv hr => exact InvG_spawn h hr
    | handle ht hk => exact InvG_taskEnter h ht hk
    | drop ht => exact InvG_taskDrop h ht
    | finish ht => exact InvG_taskFinish h ht
    | reply => exact h.of_same rfl rfl rfl (by intro t k; simp)

theorem InvG_run (H : Hash) (cfg : Cfg) (conns : List Nat) (nD : Nat) (ls : List Label) :
    InvG (run H cfg (initWith conns nD) ls) :=
  run_preserves H cfg InvG (fun _ _ _ h hs => InvG_step h hs) ls _ (InvG_initWith conns nD)

def cntR (p : Nat → Bool) (n : Nat) : Nat := ((List.range n).filter p).length

theorem cntR_succ (p : Nat → Bool) (n : Nat) :
    cntR p (n + 1) = cntR p n + (if p n = true then 1 else 0) := by
  simp only [cntR, List.range_succ, List.filter_append, List.length_append]
  by_cases h : p n = true <;> simp [h]

theorem cntR_congr {p q : Nat → Bool} {n : Nat} (h : ∀ j, j < n → p j = q j) : cntR p n = cntR q n := by
  induction n with
  | zero => rfl
  | succ n ih =>
    rw [cntR_succ, cntR_succ, ih (fun j hj => h j (by omega)), h n (by omega)]

theorem cntR_zero {p : Nat → Bool} {n : Nat} (h : ∀ j, j < n → p j = false) : cntR p n = 0 := by
  induction n with
  | zero => rfl
  | succ n ih =>
    rw [cntR_succ, ih (fun j hj => h j (by omega)), h n (by omega)]
    simp

theorem cntR_pos {p : Nat → Bool} {n i : Nat} (hi : i < n) (hp : p i = true) : cntR p n ≥ 1 := by
  induction n with
  | zero => omega
  | succ n ih =>
    rw [cntR_succ]
    by_cases hin : i = n
    · subst hin; simp [hp]
    · have := ih (by omega); omega

theorem cntR_update {p q : Nat → Bool} {n i : Nat} (hi : i < n) (h : ∀ j, j < n → j ≠ i → p j = q j) :
    cntR q n + (if p i = true then 1 else 0) = cntR p n + (if q i = true then 1 else 0) := by
  induction n with
  | zero => omega
  | succ n ih =>
    rw [cntR_succ, cntR_succ]
    by_cases hin : i = n
    · subst hin
      have : cntR q i = cntR p i := cntR_congr (fun j hj => (h j (by omega) (by omega)).symm)
      omega
    · have h1 := ih (by omega) (fun j hj hne => h j (by omega) hne)
      have h2 := h n (by omega) (fun e => hin e.symm)
      rw [h2]; omega

/-- Serve call `i` is in its read loop on conn `c` -/
def runOnL (serves : List ServePc) (connOf : List Nat) (c : Nat) : Nat → Bool :=
  fun i => serves[i]? == some .running && connOf.getD i 0 == c

theorem cnt_set {serves : List ServePc} {connOf : List Nat} {i : Nat} {a : ServePc} (b : ServePc) (c : Nat)
    (h : serves[i]? = some a) :
    cntR (runOnL (serves.set i b) connOf c) serves.length
        + (if a = .running ∧ connOf.getD i 0 = c then 1 else 0) =
      cntR (runOnL serves connOf c) serves.length
        + (if b = .running ∧ connOf.getD i 0 = c then 1 else 0) := by
  have hi := lt_of_getElem?_eq_some h
  have key := @cntR_update (runOnL serves connOf c) (runOnL (serves.set i b) connOf c) serves.length i hi
    (by intro j _ hne; simp [runOnL, Ne.symm hne])
  have e1 : (runOnL serves connOf c i = true) ↔ (a = .running ∧ connOf.getD i 0 = c) := by
    simp [runOnL, h]
  have e2 : (runOnL (serves.set i b) connOf c i = true) ↔ (b = .running ∧ connOf.getD i 0 = c) := by
    simp [runOnL, hi]
  simp only [e1, e2] at key
  exact key

theorem runOnL_pos {serves : List ServePc} {connOf : List Nat} {i : Nat} (h : serves[i]? = some .running) :
    cntR (runOnL serves connOf (connOf.getD i 0)) serves.length ≥ 1 :=
  cntR_pos (lt_of_getElem?_eq_some h) (by simp [runOnL, h])

theorem lt_of_getD_pos {l : List Nat} {i : Nat} (h : l.getD i 0 > 0) : i < l.length := by
  by_cases hl : i < l.length
  · exact hl
  · rw [List.getD_eq_getElem?_getD, List.getElem?_eq_none (by omega)] at h
    simp at h

theorem foldl_max_le (l : List Nat) : ∀ a, a ≤ l.foldl max a ∧ ∀ c ∈ l, c ≤ l.foldl max a := by
  induction l with
  | nil => intro a; simp
  | cons x xs ih =>
    intro a
    simp only [List.foldl_cons, List.mem_cons]
    obtain ⟨h1, h2⟩ := ih (max a x)
    refine ⟨by omega, ?_⟩
    rintro c (rfl | hc)
    · omega
    · exact h2 c hc

theorem getD_lt_foldl_max (conns : List Nat) (i : Nat) (hi : i < conns.length) :
    conns.getD i 0 < conns.foldl max 0 + 1 := by
  have := (foldl_max_le conns 0).2 (conns.getD i 0) (by
    rw [List.getD_eq_getElem?_getD, List.getElem?_eq_getElem hi]; simp)
  omega

/-- `InvF` (variant `.fixed`, the code in the tree): the accounting of `activeCount`, the single close of
    `lastActive`, and the listener table.  Every safety theorem of C07 is one of its fields at a reachable state. -/
structure InvF (s : St) : Prop where
  -- index ranges: one conn per Serve call, one `connClosed` entry per conn, every conn of a call is in range
  lenC : s.connOf.length = s.serves.length
  lenL : s.connClosed.length = s.listeners.length
  connB : ∀ i : Nat, i < s.serves.length → s.connOf.getD i 0 < s.listeners.length
  -- no Serve call is registered without being counted (the window of variant `.current`)
  noReg : ∀ i : Nat, s.serves[i]? ≠ some .registered
  -- `C07.active_invariant`: activeCount = running Serve calls + live goroutines − Shutdown's own decrement
  act : s.active = (countedServes s : Int) + (liveTasks s : Int) - (if s.sd then 1 else 0)
  -- `C07.closes_le_one`: `lastActive` is closed at most once …
  cl1 : s.closes ≤ 1
  -- … `C07.closed_iff_drained`: exactly when Shutdown was requested and nothing is counted any more
  cl2 : s.closes = 1 ↔ (s.sd = true ∧ countedServes s = 0 ∧ liveTasks s = 0)
  -- `C07.shutdown_closes_listeners`: after Shutdown the context is cancelled and every registered conn closed
  sdc : s.sd = true → s.ctxCancelled = true ∧
    ∀ c : Nat, s.listeners.getD c 0 > 0 → s.connClosed.getD c 0 ≥ 1
  nsd : s.sd = false → ∀ c : Nat, s.connClosed.getD c 0 = 0
  -- `C07.listeners_count`: the table counts, per conn, the Serve calls in their read loop
  cnt : ∀ c : Nat, s.listeners.getD c 0 = cntR (runOnL s.serves s.connOf c) s.serves.length
  -- a Shutdown call returned nil only with `lastActive` closed
  nil : ∀ (j : Nat) (c : Bool), s.downs[j]? = some (⟨.returned .nil, c⟩ : Down) → s.closes ≥ 1

theorem InvF_initWith (conns : List Nat) (nD : Nat) : InvF (initWith conns nD) := by
  refine ⟨by simp [initWith], by simp [initWith], ?_, ?_, ?_, by simp [initWith], ?_, by simp [initWith],
    ?_, ?_, ?_⟩
  · intro i hi
    simp only [initWith, List.length_replicate] at hi ⊢
    exact getD_lt_foldl_max conns i hi
  · intro i; simp [initWith, List.getElem?_replicate]
  · simp [initWith, countedServes, liveTasks]
  · simp [initWith]
  · intro _ c
    simp [initWith, List.getD_eq_getElem?_getD, List.getElem?_replicate]
    split <;> rfl
  · intro c
    have h0 : cntR (runOnL (initWith conns nD).serves (initWith conns nD).connOf c)
        (initWith conns nD).serves.length = 0 := by
      apply cntR_zero
      intro j _
      simp [runOnL, initWith, List.getElem?_replicate]
    rw [h0]
    simp [initWith, List.getD_eq_getElem?_getD, List.getElem?_replicate]
    split <;> rfl
  · intro j c; simp [initWith, List.getElem?_replicate]

theorem counted_set {s : St} {i : Nat} {a : ServePc} (b : ServePc) (h : s.serves[i]? = some a) :
    ((s.serves.set i b).filter (· == .running)).length + (if a = .running then 1 else 0) =
      countedServes s + (if b = .running then 1 else 0) := by
  have := filter_set_length (· == ServePc.running) s.serves i a b h
  simpa [countedServes] using this

theorem live_set {s : St} {t : Nat} {a : Task} (b : Task) (h : s.tasks[t]? = some a) :
    ((s.tasks.set t b).filter (fun t => t.pc != .done)).length + (if a.pc = .done then 0 else 1) =
      liveTasks s + (if b.pc = .done then 0 else 1) := by
  have := filter_set_length (fun t : Task => t.pc != .done) s.tasks t a b h
  simp [liveTasks] at this ⊢
  by_cases h1 : a.pc = .done <;> by_cases h2 : b.pc = .done <;> simp [h1, h2] at this ⊢ <;> omega

theorem noReg_set {serves : List ServePc} {i : Nat} {b : ServePc} (hb : b ≠ .registered)
    (h : ∀ i : Nat, serves[i]? ≠ some .registered) : ∀ i' : Nat, (serves.set i b)[i']? ≠ some .registered := by
  intro i' hh
  rcases getElem?_set_some hh with ⟨_, he, _⟩ | ⟨_, he⟩
  · exact hb he
  · exact h i' he

theorem pos_of_getElem?_filter {α} {l : List α} {p : α → Bool} {i : Nat} {a : α}
    (h : l[i]? = some a) (hp : p a = true) : (l.filter p).length ≥ 1 := by
  have hm : a ∈ l.filter p := List.mem_filter.mpr ⟨List.mem_of_getElem? h, hp⟩
  exact List.length_pos_of_mem hm

theorem counted_pos {s : St} {i : Nat} (h : s.serves[i]? = some .running) : countedServes s ≥ 1 :=
  pos_of_getElem?_filter h (by simp)

theorem live_pos {s : St} {t : Nat} {a : Task} (h : s.tasks[t]? = some a) (ha : a.pc ≠ .done) :
    liveTasks s ≥ 1 :=
  pos_of_getElem?_filter h (by simpa using ha)

/-- The accounting argument of C07, on numbers.  `active` is `activeCount`, `c + l` the units that hold a count (Serve
    calls in their read loop, live goroutines), and `lastActive` is closed exactly when Shutdown has been requested and
    no unit is left.  Here a unit gives its count back (`activeDone`): as long as a unit is counted `active ≥ 0`, so
    the decrement reaches -1 — and closes `lastActive`, for the first time — exactly when Shutdown has taken its own
    decrement and the unit that leaves is the last. -/
theorem acct_done {sd : Bool} {active : Int} {closes c l : Nat} (c' l' : Nat)
    (hact : active = (c : Int) + (l : Int) - (if sd then 1 else 0)) (hcl1 : closes ≤ 1)
    (hcl2 : closes = 1 ↔ (sd = true ∧ c = 0 ∧ l = 0)) (hn : c' + l' + 1 = c + l) :
    active - 1 = (c' : Int) + (l' : Int) - (if sd then 1 else 0) ∧
    (if active = 0 then closes + 1 else closes) ≤ 1 ∧
    ((if active = 0 then closes + 1 else closes) = 1 ↔ (sd = true ∧ c' = 0 ∧ l' = 0)) := by
  -- a unit is still counted, so `lastActive` is open
  have hcl0 : closes = 0 := by
    have : ¬ closes = 1 := fun hx => by have := hcl2.mp hx; omega
    omega
  subst hcl0
  cases sd with
  | false =>
    -- before Shutdown `active = c + l ≥ 1`: the decrement does not reach -1
    have ha : active = (c : Int) + l := by simpa using hact
    have hne : active ≠ 0 := by omega
    rw [if_neg hne]
    refine ⟨by simp; omega, Nat.zero_le 1, ?_⟩
    simp
  | true =>
    -- after Shutdown's own decrement `active = c + l - 1`: it is 0, and this decrement closes `lastActive`,
    -- exactly when the unit that leaves is the last one
    have ha : active = (c : Int) + l - 1 := by simpa using hact
    refine ⟨by simp; omega, by split <;> omega, ?_⟩
    by_cases h0 : active = 0
    · rw [if_pos h0]; simp; omega
    · rw [if_neg h0]; simp; omega

/-- … and here one more unit is counted (`activeAdd`), which happens only before Shutdown or while another unit is
    counted (a Serve call spawning a goroutine is itself counted): `lastActive` is open before and after. -/
theorem acct_add {sd : Bool} {active : Int} {closes c l : Nat} (c' l' : Nat)
    (hact : active = (c : Int) + (l : Int) - (if sd then 1 else 0))
    (hcl2 : closes = 1 ↔ (sd = true ∧ c = 0 ∧ l = 0)) (hn : c' + l' = c + l + 1) (hpos : sd = false ∨ c + l ≥ 1) :
    active + 1 = (c' : Int) + (l' : Int) - (if sd then 1 else 0) ∧
    (closes = 1 ↔ (sd = true ∧ c' = 0 ∧ l' = 0)) := by
  refine ⟨by omega, ?_⟩
  -- `lastActive` is open before (Shutdown not requested, or a unit counted) and after (a unit counted)
  have hcl0 : ¬ closes = 1 := fun hx => by
    obtain ⟨h1, h2, h3⟩ := hcl2.mp hx
    rcases hpos with h | h
    · rw [h1] at h; cases h
    · omega
  exact ⟨fun hc => absurd hc hcl0, fun ⟨_, h2, h3⟩ => by omega⟩

/-- Serve call `i` goes from `a` to `b` and the listener table `L` follows: the table still counts the calls in
    their read loop, conn by conn -/
theorem cnt_move {s : St} (h : InvF s) {i : Nat} {a : ServePc} (b : ServePc) (hi : s.serves[i]? = some a)
    {L : List Nat}
    (hL : ∀ c, L.getD c 0 + (if a = .running ∧ s.connOf.getD i 0 = c then 1 else 0) =
      s.listeners.getD c 0 + (if b = .running ∧ s.connOf.getD i 0 = c then 1 else 0)) (c : Nat) :
    L.getD c 0 = cntR (runOnL (s.serves.set i b) s.connOf c) (s.serves.set i b).length := by
  have := cnt_set (connOf := s.connOf) b c hi
  have := hL c
  have := h.cnt c
  rw [List.length_set]
  omega

theorem InvF_serveSet_shape {s : St} (h : InvF s) (i : Nat) (b : ServePc) (L : List Nat)
    (hL : L.length = s.listeners.length) :
    s.connOf.length = (s.serves.set i b).length ∧ s.connClosed.length = L.length ∧
    ∀ i' : Nat, i' < (s.serves.set i b).length → s.connOf.getD i' 0 < L.length := by
  rw [List.length_set, hL]
  exact ⟨h.lenC, h.lenL, h.connB⟩

theorem nil_of_le {s : St} {n : Nat} (h : InvF s) (hn : s.closes ≤ n) :
    ∀ (j : Nat) (c : Bool), s.downs[j]? = some (⟨.returned .nil, c⟩ : Down) → n ≥ 1 :=
  fun j c hh => Nat.le_trans (h.nil j c hh) hn

theorem InvF_serveLeave {s : St} {i : Nat} (r : ServeRes) (h : InvF s) (hrun : s.serves[i]? = some .running) :
    InvF (serveLeave s i r) := by
  rw [serveLeave, activeDone_eq]
  dsimp only
  have hpos : s.listeners.getD (s.connOf.getD i 0) 0 ≥ 1 := by rw [h.cnt]; exact runOnL_pos hrun
  have hcb := h.connB i (lt_of_getElem?_eq_some hrun)
  have hc : countedServes { s with serves := s.serves.set i (.returned r) } + liveTasks s + 1 =
      countedServes s + liveTasks s := by
    have := counted_set (.returned r) hrun
    simp [countedServes] at this ⊢; omega
  obtain ⟨a1, a2, a3⟩ := acct_done _ (liveTasks s) h.act h.cl1 h.cl2 hc
  obtain ⟨s1, s2, s3⟩ := InvF_serveSet_shape h i (.returned r)
    (s.listeners.set (s.connOf.getD i 0) (s.listeners.getD (s.connOf.getD i 0) 0 - 1)) (by simp)
  refine { lenC := s1, lenL := s2, connB := s3, noReg := noReg_set (by simp) h.noReg, act := a1, cl1 := a2,
           cl2 := a3, sdc := fun hsd => ⟨(h.sdc hsd).1, fun c hl => (h.sdc hsd).2 c ?_⟩, nsd := h.nsd,
           cnt := cnt_move h _ hrun fun c => ?_, nil := nil_of_le (s := s) (n := if s.active = 0 then s.closes + 1 else s.closes) h (by split <;> omega) }
  · rw [getD_set] at hl
    split at hl
    · next hcc => rw [← hcc.1]; omega
    · exact hl
  · rw [getD_set]
    by_cases hcc : s.connOf.getD i 0 = c
    · subst hcc; simp only [hcb, and_self, if_true, reduceCtorEq, false_and, if_false]; omega
    · simp only [hcc, false_and, and_false, if_false]

/-- `spawn` by a running Serve call: the goroutine is counted before it exists, and `lastActive` cannot
    have been closed because the Serve call itself is counted -/
theorem InvF_spawn {H : Hash} {cfg : Cfg} {s : St} {i peer : Nat} {d : Bytes} (h : InvF s)
    (hrun : s.serves[i]? = some .running) : InvF (spawn H cfg s i peer d) := by
  have hl : liveTasks (spawn H cfg s i peer d) = liveTasks s + 1 := by
    simp [spawn, activeAdd, liveTasks, List.filter_append]
  have hpos := counted_pos hrun
  obtain ⟨a1, a2⟩ := acct_add (countedServes s) (liveTasks (spawn H cfg s i peer d)) h.act h.cl2 (by rw [hl]; omega) (Or.inr (by omega))
  exact { h with act := a1, cl2 := a2 }

theorem InvF_taskDone {s : St} {t i : Nat} {a : Task} (h : InvF s) (ht : s.tasks[t]? = some a) (ha : a.pc ≠ .done)
    (infl : List (List Key)) (log : List Event) :
    InvF (activeDone { s with tasks := s.tasks.set t ⟨i, .done⟩, inflight := infl, log := log }) := by
  rw [activeDone_eq]
  dsimp only
  have hl : liveTasks { s with tasks := s.tasks.set t ⟨i, .done⟩ } + 1 = liveTasks s := by
    simpa [liveTasks, ha] using live_set ⟨i, .done⟩ ht
  obtain ⟨a1, a2, a3⟩ := acct_done (countedServes s) (liveTasks { s with tasks := s.tasks.set t ⟨i, .done⟩ }) h.act h.cl1 h.cl2 (by omega)
  exact { h with act := a1, cl1 := a2, cl2 := a3, nil := nil_of_le (s := s) (n := if s.active = 0 then s.closes + 1 else s.closes) h (by split <;> omega) }

theorem getD_map_range {β} (n i : Nat) (f : Nat → β) (d : β) (h : i < n) :
    ((List.range n).map f).getD i d = f i := by
  simp [List.getD_eq_getElem?_getD, List.getElem?_map, List.getElem?_range h]

theorem InvF_step {H : Hash} {cfg : Cfg} {s s' : St} {l : Label} (hv : cfg.variant = .fixed) (h : InvF s)
    (hs : step H cfg s l = some s') : InvF s' := by
  -- a Shutdown call moves (only `downs` and the log change): the new entry is not a nil return, or `lastActive` is closed
  have down : ∀ (j : Nat) (d : Down), (∀ c, d = ⟨.returned .nil, c⟩ → s.closes ≥ 1) →
      ∀ (j' : Nat) (c : Bool), (s.downs.set j d)[j']? = some (⟨.returned .nil, c⟩ : Down) → s.closes ≥ 1 := by
    intro j d hd j' c hh
    rcases getElem?_set_some hh with ⟨_, he, _⟩ | ⟨_, he⟩
    · exact hd c he
    · exact h.nil j' c he
  cases step_iff.mp hs with
  | serve h' =>
    cases h' with
    | @refuse i hns hsd =>
      have hc : countedServes { s with serves := s.serves.set i (.returned .errShutdown) } = countedServes s := by
        simpa [countedServes] using counted_set (.returned .errShutdown) hns
      obtain ⟨s1, _, s3⟩ := InvF_serveSet_shape h i (.returned .errShutdown) s.listeners rfl
      exact { h with lenC := s1, connB := s3, noReg := noReg_set (by simp) h.noReg, act := hc ▸ h.act,
                     cl2 := hc ▸ h.cl2, cnt := cnt_move h _ hns (by simp) }
    | @enter i hns hsd =>
      have hcb := h.connB i (lt_of_getElem?_eq_some hns)
      have hc : countedServes { s with serves := s.serves.set i .running } = countedServes s + 1 := by
        simpa [countedServes] using counted_set .running hns
      obtain ⟨a1, a2⟩ := acct_add (countedServes { s with serves := s.serves.set i .running }) (liveTasks s) h.act h.cl2 (by rw [hc]; omega) (Or.inl hsd)
      obtain ⟨s1, s2, s3⟩ := InvF_serveSet_shape h i .running
        (s.listeners.set (s.connOf.getD i 0) (s.listeners.getD (s.connOf.getD i 0) 0 + 1)) (by simp)
      refine { h with lenC := s1, lenL := s2, connB := s3, noReg := noReg_set (by simp) h.noReg, act := a1, cl2 := a2,
                      sdc := fun hsd' => (by rw [hsd] at hsd'; cases hsd'), cnt := cnt_move h _ hns fun c => ?_ }
      rw [getD_set]
      by_cases hcc : s.connOf.getD i 0 = c
      · subst hcc; simp only [hcb, and_self, if_true, reduceCtorEq, false_and, if_false]
      · simp only [hcc, false_and, and_false, if_false]
    | register _ _ hv' => rw [hv] at hv'; cases hv'
    | count hr => exact absurd hr (h.noReg _)
    | readErr hr | failShutdown hr | failFatal hr => exact InvF_serveLeave _ h hr
    | failRetry => exact h
  | task h' =>
    cases h' with
    | recv hr => exact InvF_spawn h hr
    | @handle t i key p ht =>
      have hl : liveTasks { s with tasks := s.tasks.set t ⟨i, .inHandler key⟩ } = liveTasks s := by
        simpa [liveTasks] using live_set ⟨i, .inHandler key⟩ ht
      exact { h with act := hl ▸ h.act, cl2 := hl ▸ h.cl2 }
    | drop ht | finish ht => exact InvF_taskDone h ht (by simp) _ _
    | reply => exact { h with }
  | down h' =>
    cases h' with
    | downLate | returnCtx => exact { h with nil := down _ _ (by intro c hc; cases hc) }
    | returnNil _ hc => exact { h with nil := down _ _ fun _ _ => hc }
    | expire hd => exact { h with nil := down _ _ (by intro c hc; cases hc; exact h.nil _ _ hd) }
    | shutdown hj hsd =>
      rw [activeDone_eq]
      dsimp only
      have hact := h.act
      have hcl2 := h.cl2
      simp only [hsd] at hact hcl2
      have hcl0 : s.closes = 0 := by have := h.cl1; simp at hcl2; omega
      refine { h with lenL := (by simpa using h.lenL), act := ?_, cl1 := ?_, cl2 := ?_,
                      sdc := fun _ => ⟨rfl, fun c hl => ?_⟩, nsd := fun hsd' => (by cases hsd'),
                      nil := fun j' c' hh => ?_ }
      · show s.active - 1 = (countedServes s : Int) + (liveTasks s : Int) - (if true then 1 else 0)
        simp at hact ⊢; omega
      · show (if s.active = 0 then s.closes + 1 else s.closes) ≤ 1
        split <;> omega
      · show (if s.active = 0 then s.closes + 1 else s.closes) = 1 ↔ (true = true ∧ countedServes s = 0 ∧ liveTasks s = 0)
        simp at hact ⊢; split <;> omega
      · have hil : c < s.connClosed.length := by rw [h.lenL]; exact lt_of_getD_pos hl
        rw [getD_map_range _ _ _ _ hil]
        simp only [hl, if_true]; omega
      · have := down _ _ (by intro c hc; cases hc) j' c' hh
        show (if s.active = 0 then s.closes + 1 else s.closes) ≥ 1
        omega

theorem InvF.no_panic {s : St} (h : InvF s) : s.closes ≤ 1 ∧ s.panicked = false := by
  have := h.cl1
  exact ⟨this, by simp only [St.panicked, decide_eq_false_iff_not]; omega⟩

theorem InvF_run_from (H : Hash) (cfg : Cfg) (hv : cfg.variant = .fixed) (ls : List Label) (s : St)
    (h : InvF s) : InvF (run H cfg s ls) :=
  run_preserves H cfg InvF (fun _ _ _ h hs => InvF_step hv h hs) ls s h

theorem InvF_run (H : Hash) (cfg : Cfg) (hv : cfg.variant = .fixed) (conns : List Nat) (nD : Nat)
    (ls : List Label) : InvF (run H cfg (initWith conns nD) ls) :=
  InvF_run_from H cfg hv ls _ (InvF_initWith conns nD)

/-- `C07.terminalServe` (same equations; see the head of the file) -/
def terminalS : ServePc → Bool
  | .notStarted | .returned _ => true
  | _ => false

/-- Shutdown requested, every Serve call returned or never started, every goroutine done: what a nil return of
    Shutdown promises (`C07.nil_after_drain`); absorbing (`Drained_step`) -/
structure Drained (s : St) : Prop where
  sd : s.sd = true
  serves : ∀ pc ∈ s.serves, terminalS pc = true
  tasks : ∀ t ∈ s.tasks, t.pc = .done

/-- in a drained state only late Serve and Shutdown calls move; no handler starts -/
theorem Drained_step {H : Hash} {cfg : Cfg} {s s' : St} {l : Label} (h : Drained s) (hs : step H cfg s l = some s') :
    Drained s' ∧ s'.log.filter isHS = s.log.filter isHS ∧ s'.tasks = s.tasks := by
  cases step_iff.mp hs with
  | serve h' =>
    cases h' with
    | refuse =>
      refine ⟨⟨h.sd, fun pc hpc => ?_, h.tasks⟩, by simp [isHS], rfl⟩
      rcases List.mem_or_eq_of_mem_set hpc with hm | rfl
      · exact h.serves pc hm
      · rfl
    | enter _ hsd | register _ hsd | failFatal _ hsd | failRetry _ hsd => rw [h.sd] at hsd; cases hsd
    | count hr | readErr hr | failShutdown hr => cases h.serves _ (List.mem_of_getElem? hr)
  | task h' =>
    cases h' with
    | recv hr => cases h.serves _ (List.mem_of_getElem? hr)
    | handle ht | drop ht | finish ht | reply ht => cases h.tasks _ (List.mem_of_getElem? ht)
  | down h' =>
    cases h' with
    | downLate | expire => exact ⟨⟨h.sd, h.serves, h.tasks⟩, rfl, rfl⟩
    | returnNil | returnCtx => exact ⟨⟨h.sd, h.serves, h.tasks⟩, by simp [isHS], rfl⟩
    | shutdown _ hsd => rw [h.sd] at hsd; cases hsd

theorem Drained_run (H : Hash) (cfg : Cfg) (ls : List Label) (s : St) (h : Drained s) :
    Drained (run H cfg s ls) ∧ (run H cfg s ls).log.filter isHS = s.log.filter isHS :=
  run_preserves H cfg (fun s' => Drained s' ∧ s'.log.filter isHS = s.log.filter isHS)
    (fun _ _ _ h hs => ⟨(Drained_step h.1 hs).1, (Drained_step h.1 hs).2.1.trans h.2⟩) ls s ⟨h, rfl⟩

theorem filter_length_zero {α} {l : List α} {p : α → Bool} (h : (l.filter p).length = 0) :
    ∀ a ∈ l, p a = false := by
  intro a ha
  have := List.filter_eq_nil_iff.mp (List.length_eq_zero_iff.mp h) a ha
  simpa using this

theorem exists_of_filter_pos {α} {l : List α} {p : α → Bool} (h : (l.filter p).length ≠ 0) :
    ∃ (i : Nat) (a : α), l[i]? = some a ∧ p a = true := by
  have hne : l.filter p ≠ [] := by intro he; rw [he] at h; exact h rfl
  obtain ⟨a, ha⟩ := List.exists_mem_of_ne_nil _ hne
  obtain ⟨hal, hpa⟩ := List.mem_filter.mp ha
  obtain ⟨i, hi⟩ := List.mem_iff_getElem?.mp hal
  exact ⟨i, a, hi, hpa⟩

theorem Drained_of_counts {s : St} (h : InvF s) (hsd : s.sd = true) (hc : countedServes s = 0)
    (hl : liveTasks s = 0) : Drained s := by
  refine ⟨hsd, ?_, ?_⟩
  · intro pc hpc
    have h1 := filter_length_zero hc pc hpc
    obtain ⟨i, hi⟩ := List.mem_iff_getElem?.mp hpc
    have h2 := h.noReg i
    cases pc with
    | notStarted => rfl
    | registered => exact absurd hi h2
    | running => simp at h1
    | returned r => rfl
  · intro t ht
    have h1 := filter_length_zero hl t ht
    simpa using h1

theorem Drained_of_closed {s : St} (h : InvF s) (hc : s.closes ≥ 1) : Drained s := by
  have h1 := h.cl1
  obtain ⟨a, b, c⟩ := h.cl2.mp (by omega)
  exact Drained_of_counts h a b c

def isSpawned : TaskPc → Bool
  | .spawned _ => true
  | _ => false

@[simp] theorem isSpawned_spawned (f : Fate) : isSpawned (.spawned f) = true := rfl

@[simp] theorem isSpawned_inHandler (k : Key) : isSpawned (.inHandler k) = false := rfl

@[simp] theorem isSpawned_done : isSpawned .done = false := rfl

def spawnedTasks (s : St) : Nat := (s.tasks.filter (fun t => isSpawned t.pc)).length

def drainMeasure (s : St) : Nat := countedServes s + liveTasks s + spawnedTasks s

theorem Drained_counts {s : St} (h : Drained s) : countedServes s = 0 ∧ liveTasks s = 0 := by
  constructor
  · simp only [countedServes, List.length_eq_zero_iff, List.filter_eq_nil_iff]
    intro pc hpc
    have := h.serves pc hpc
    cases pc <;> simp [terminalS] at this ⊢
  · simp only [liveTasks, List.length_eq_zero_iff, List.filter_eq_nil_iff]
    intro t ht
    simp [h.tasks t ht]

/-- what a goroutine weighs in `drainMeasure`: 2 before it has run its pipeline, 1 in its handler -/
def taskWeight : TaskPc → Nat
  | .spawned _ => 2
  | .inHandler _ => 1
  | .done => 0

theorem drainMeasure_set {s s0 : St} {t : Nat} {a : Task} (b : Task) (h : s.tasks[t]? = some a)
    (hs : s0.serves = s.serves) (ht : s0.tasks = s.tasks.set t b) :
    drainMeasure s0 + taskWeight a.pc = drainMeasure s + taskWeight b.pc := by
  have w : ∀ pc, taskWeight pc = (if pc = .done then 0 else 1) + (if isSpawned pc then 1 else 0) := by
    intro pc; cases pc <;> rfl
  have h1 := live_set b h
  have h2 := filter_set_length (fun t : Task => isSpawned t.pc) s.tasks t a b h
  simp only [drainMeasure, countedServes, liveTasks, spawnedTasks, hs, ht, w] at h1 h2 ⊢
  omega

theorem drainMeasure_serveLeave {s : St} {i : Nat} (r : ServeRes) (hrun : s.serves[i]? = some .running) :
    drainMeasure (serveLeave s i r) + 1 = drainMeasure s := by
  have := counted_set (.returned r) hrun
  simp [drainMeasure, countedServes, liveTasks, spawnedTasks, serveLeave, activeDone_eq] at this ⊢
  omega

theorem drainMeasure_spawn (H : Hash) (cfg : Cfg) (s : St) (i peer : Nat) (d : Bytes) :
    drainMeasure (spawn H cfg s i peer d) = drainMeasure s + 2 := by
  have h1 : liveTasks (spawn H cfg s i peer d) = liveTasks s + 1 := by
    simp [spawn, activeAdd, liveTasks, List.filter_append]
  have h2 : spawnedTasks (spawn H cfg s i peer d) = spawnedTasks s + 1 := by
    simp [spawn, activeAdd, spawnedTasks, List.filter_append, List.filter_cons]
  have h3 : countedServes (spawn H cfg s i peer d) = countedServes s := rfl
  simp only [drainMeasure, h1, h2, h3]; omega

/-- the drain labels that are steps of the SERVER ITSELF: the read of a Serve call fails because
    Shutdown closed its conn, a datagram goroutine runs its pipeline, a handler returns.  The
    environment's `serveReadFail` (a read error that does not come from `Close`) is NOT among them. -/
def isOwnDrainLabel : Label → Bool
  | .serveReadErr _ | .taskRun _ | .taskFinish _ => true
  | _ => false

/-- labels whose step brings the server closer to the drained state: a Serve call returns, a datagram
    goroutine runs its pipeline, a handler returns -/
def isDrainLabel : Label → Bool
  | .serveReadErr _ | .serveReadFail .. | .taskRun _ | .taskFinish _ => true
  | _ => false

theorem isDrain_of_own {l : Label} (h : isOwnDrainLabel l = true) : isDrainLabel l = true := by
  cases l <;> first | rfl | cases h

theorem running_conn_closed {s : St} (h : InvF s) (hsd : s.sd = true) {i : Nat} (hi : s.serves[i]? = some .running) :
    s.connClosed.getD (s.connOf.getD i 0) 0 ≥ 1 :=
  (h.sdc hsd).2 _ (by rw [h.cnt]; exact runOnL_pos hi)

/-- after Shutdown (and under `InvF`) a step with a drain label strictly decreases `drainMeasure` and every other step
    leaves it unchanged; `serveRecv` is not enabled at all: the conn of a running Serve call has been closed -/
theorem step_drain_le {H : Hash} {cfg : Cfg} {s s' : St} {l : Label} (h : InvF s) (hsd : s.sd = true)
    (hs : step H cfg s l = some s') :
    s'.sd = true ∧ (isDrainLabel l = true → drainMeasure s' < drainMeasure s) ∧
      (isDrainLabel l = false → drainMeasure s' = drainMeasure s) := by
  refine ⟨(step_sd_mono hs).1 hsd, ?_⟩
  suffices key : if isDrainLabel l then drainMeasure s' < drainMeasure s else drainMeasure s' = drainMeasure s by
    cases hd : isDrainLabel l <;> rw [hd] at key
    · exact ⟨fun hx => (by cases hx), fun _ => key⟩
    · exact ⟨fun _ => key, fun hx => (by cases hx)⟩
  -- goroutine `t` moves on: its weight goes down
  have task : ∀ {t : Nat} {a : Task} (b : Task), s.tasks[t]? = some a → s'.serves = s.serves →
      s'.tasks = s.tasks.set t b → taskWeight b.pc < taskWeight a.pc → drainMeasure s' < drainMeasure s := by
    intro t a b ht h1 h2 hw
    have := drainMeasure_set b ht h1 h2
    omega
  cases step_iff.mp hs with
  | serve h' =>
    cases h' with
    | refuse hns =>
      show drainMeasure _ = drainMeasure s
      have := counted_set (.returned .errShutdown) hns
      simp [drainMeasure, countedServes, liveTasks, spawnedTasks] at this ⊢
      omega
    | enter _ hsd' | register _ hsd' | failFatal _ hsd' | failRetry _ hsd' =>
      rw [hsd] at hsd'; cases hsd'
    | count hr => exact absurd hr (h.noReg _)
    | readErr hr | failShutdown hr => exact (Nat.lt_of_succ_le (Nat.le_of_eq (drainMeasure_serveLeave .errShutdown hr)) : drainMeasure _ < drainMeasure s)
  | task h' =>
    cases h' with
    | recv hr hc => have := running_conn_closed h hsd hr; omega
    | handle ht => exact task ⟨_, .inHandler _⟩ ht rfl rfl (by simp [taskWeight])
    | drop ht | finish ht =>
      exact task ⟨_, .done⟩ ht (by rw [activeDone_eq]) (by rw [activeDone_eq]) (by simp [taskWeight])
    | reply => exact (rfl : drainMeasure _ = drainMeasure s)
  | down h' =>
    cases h' with
    | shutdown _ hsd' =>
      rw [hsd] at hsd'; cases hsd'
    | downLate | returnNil | returnCtx | expire => exact (rfl : drainMeasure _ = drainMeasure s)

theorem not_drained_of_open {s : St} (h : InvF s) (hsd : s.sd = true) (hc : s.closes = 0) :
    countedServes s + liveTasks s ≠ 0 := fun h0 => by
  have := h.cl2.mpr ⟨hsd, by omega, by omega⟩
  omega

theorem closed_of_drained {s : St} (h : InvF s) (hd : Drained s) : s.closes = 1 :=
  h.cl2.mpr ⟨hd.sd, Drained_counts hd⟩

/-- progress never needs the environment's `serveReadFail` -/
theorem own_drain_label_enabled {H : Hash} {cfg : Cfg} {s : St} (h : InvF s) (hsd : s.sd = true)
    (hm : countedServes s + liveTasks s ≠ 0) :
    ∃ l s', isOwnDrainLabel l = true ∧ step H cfg s l = some s' ∧ s'.sd = true ∧ drainMeasure s' < drainMeasure s := by
  have fin : ∀ {l s'}, isOwnDrainLabel l = true → Step H cfg s l s' →
      ∃ l s', isOwnDrainLabel l = true ∧ step H cfg s l = some s' ∧ s'.sd = true ∧ drainMeasure s' < drainMeasure s :=
    fun ho hst => ⟨_, _, ho, step_iff.mpr hst, (step_drain_le h hsd (step_iff.mpr hst)).1,
      (step_drain_le h hsd (step_iff.mpr hst)).2.1 (isDrain_of_own ho)⟩
  by_cases hlv : liveTasks s = 0
  · -- a running Serve call: Shutdown closed its conn
    obtain ⟨i, pc, hi, hp⟩ := exists_of_filter_pos (l := s.serves) (p := (· == .running)) (by
      simp only [countedServes] at hm; omega)
    obtain rfl : pc = .running := by simpa using hp
    exact fin (l := .serveReadErr i) rfl (.serve (.readErr hi (running_conn_closed h hsd hi) hsd))
  · obtain ⟨t, ⟨i, pc⟩, ht, hp⟩ := exists_of_filter_pos hlv
    cases pc with
    | done => simp at hp
    | inHandler key => exact fin (l := .taskFinish t) rfl (.task (.finish ht))
    | spawned fate =>
      by_cases hk : ∃ key p, fate = .handle key p ∧ key ∉ s.inflight.getD i []
      · obtain ⟨key, p, rfl, hk⟩ := hk
        exact fin (l := .taskRun t) rfl (.task (.handle ht hk))
      · exact fin (l := .taskRun t) rfl (.task (.drop ht hk))

theorem drain_own {H cfg} (hv : cfg.variant = .fixed) :
    ∀ (n : Nat) (s : St), InvF s → s.sd = true → drainMeasure s ≤ n →
      ∃ ls', (∀ l ∈ ls', isOwnDrainLabel l = true) ∧ (run H cfg s ls').sd = true ∧
        countedServes (run H cfg s ls') = 0 ∧ liveTasks (run H cfg s ls') = 0 := by
  intro n
  induction n with
  | zero =>
    intro s h hsd hm
    refine ⟨[], by simp, hsd, ?_, ?_⟩ <;> simp only [run, drainMeasure] at hm ⊢ <;> omega
  | succ n ih =>
    intro s h hsd hm
    by_cases hz : countedServes s + liveTasks s = 0
    · refine ⟨[], by simp, hsd, ?_, ?_⟩ <;> simp only [run] <;> omega
    · obtain ⟨l, s', hown, hs, hsd', hlt⟩ := own_drain_label_enabled (H := H) (cfg := cfg) h hsd hz
      obtain ⟨ls', hall, h0, h1, h2⟩ := ih s' (InvF_step hv h hs) hsd' (by omega)
      refine ⟨l :: ls', ?_, ?_, ?_, ?_⟩
      · intro l' hl'
        rcases List.mem_cons.mp hl' with rfl | hm'
        · exact hown
        · exact hall l' hm'
      all_goals simp only [run, hs]; assumption

theorem drain_own_drained {H : Hash} {cfg : Cfg} (hv : cfg.variant = .fixed) {s : St} (h : InvF s)
    (hsd : s.sd = true) :
    ∃ ls', (∀ l ∈ ls', isOwnDrainLabel l = true) ∧ Drained (run H cfg s ls') ∧ (run H cfg s ls').closes = 1 := by
  obtain ⟨ls', hown, hsd', h1, h2⟩ := drain_own (H := H) hv (drainMeasure s) s h hsd (Nat.le_refl _)
  have hI' := InvF_run_from H cfg hv ls' s h
  exact ⟨ls', hown, Drained_of_counts hI' hsd' h1 h2, hI'.cl2.mpr ⟨hsd', h1, h2⟩⟩

def ownDrainSteps (H : Hash) (cfg : Cfg) : St → List Label → Nat
  | _, [] => 0
  | s, l :: ls =>
    match step H cfg s l with
    | some s' => (if isOwnDrainLabel l then 1 else 0) + ownDrainSteps H cfg s' ls
    | none => ownDrainSteps H cfg s ls

def drainSteps (H : Hash) (cfg : Cfg) : St → List Label → Nat
  | _, [] => 0
  | s, l :: ls =>
    match step H cfg s l with
    | some s' => (if isDrainLabel l then 1 else 0) + drainSteps H cfg s' ls
    | none => drainSteps H cfg s ls

theorem drain_bound (H : Hash) (cfg : Cfg) (hv : cfg.variant = .fixed) :
    ∀ (ls : List Label) (s : St), InvF s → s.sd = true →
      (run H cfg s ls).sd = true ∧ drainSteps H cfg s ls + drainMeasure (run H cfg s ls) ≤ drainMeasure s := by
  intro ls
  induction ls with
  | nil => intro s _ hsd; exact ⟨hsd, by simp [drainSteps, run]⟩
  | cons l ls ih =>
    intro s h hsd
    simp only [run, drainSteps]
    cases hs : step H cfg s l with
    | none => exact ih s h hsd
    | some s' =>
      simp only []
      obtain ⟨hsd', hlt, heq⟩ := step_drain_le h hsd hs
      obtain ⟨h1, h2⟩ := ih s' (InvF_step hv h hs) hsd'
      refine ⟨h1, ?_⟩
      cases hd : isDrainLabel l with
      | true => have := hlt hd; simp only [if_true]; omega
      | false => have := heq hd; simp only [Bool.false_eq_true, if_false]; omega

theorem ownDrainSteps_le (H : Hash) (cfg : Cfg) :
    ∀ (ls : List Label) (s : St), ownDrainSteps H cfg s ls ≤ drainSteps H cfg s ls := by
  intro ls
  induction ls with
  | nil => intro s; simp [ownDrainSteps, drainSteps]
  | cons l ls ih =>
    intro s
    simp only [ownDrainSteps, drainSteps]
    cases hs : step H cfg s l with
    | none => exact ih s
    | some s' =>
      simp only []
      have := ih s'
      cases ho : isOwnDrainLabel l with
      | true => rw [isDrain_of_own ho]; simp only [if_true]; omega
      | false => simp only [Bool.false_eq_true, if_false]; omega

theorem schedule_drains (H : Hash) (cfg : Cfg) (hv : cfg.variant = .fixed) (ls' : List Label) (s : St)
    (h : InvF s) (hsd : s.sd = true) :
    (run H cfg s ls').sd = true ∧
    drainSteps H cfg s ls' + drainMeasure (run H cfg s ls') ≤ drainMeasure s ∧
    ((∀ l, isOwnDrainLabel l = true → step H cfg (run H cfg s ls') l = none) → (run H cfg s ls').closes = 1) ∧
    (drainMeasure (run H cfg s ls') = 0 → (run H cfg s ls').closes = 1) := by
  obtain ⟨h1, h2⟩ := drain_bound H cfg hv ls' s h hsd
  have hI' := InvF_run_from H cfg hv ls' s h
  refine ⟨h1, h2, fun hmax => ?_, fun h0 => ?_⟩
  · by_cases hm : countedServes (run H cfg s ls') + liveTasks (run H cfg s ls') = 0
    · exact hI'.cl2.mpr ⟨h1, by omega, by omega⟩
    · obtain ⟨l, s'', hl, hs, _⟩ := own_drain_label_enabled (H := H) (cfg := cfg) hI' h1 hm
      rw [hmax l hl] at hs; cases hs
  · simp only [drainMeasure] at h0
    exact hI'.cl2.mpr ⟨h1, by omega, by omega⟩

/-- the datagram of the non-vacuity examples of C06 / C07 (an Access-Request, identifier 7) passes the pipeline,
    whatever peer it comes from -/
theorem classify_example_from (peer : Nat) :
    classify (fun _ => zeros 16) { secretOf := fun _ => .secret [1] } peer ([1, 7, 0, 20] ++ zeros 16)
      = .handle (peer, 7) ⟨1, 7, zeros 16, [1], []⟩ := by
  simp [classify, isAuthenticRequest, requestClass, parse, lengthField, be16, zeros, parseAttrs,
    maxPacketLength]

theorem classify_example :
    classify (fun _ => zeros 16) { secretOf := fun _ => .secret [1] } 0 ([1, 7, 0, 20] ++ zeros 16)
      = .handle (0, 7) ⟨1, 7, zeros 16, [1], []⟩ :=
  classify_example_from 0

theorem classify_handle_iff' (H : Hash) (cfg : Cfg) (peer : Nat) (d : Bytes) (key : Key) (p : Packet) :
    classify H cfg peer d = .handle key p ↔
      ∃ s, cfg.secretOf peer = .secret s ∧ s ≠ [] ∧
        (cfg.skipVerify = true ∨ isAuthenticRequest H d s = true) ∧
        parse d s = .ok p ∧ key = (peer, p.id) := by
  unfold classify
  cases hsec : cfg.secretOf peer with
  | error => simp
  | empty => simp
  | secret s =>
    simp only [SecretAns.secret.injEq, exists_eq_left']
    split
    · next h0 => simp [List.length_eq_zero_iff.mp h0]
    · next h0 =>
      have hne : s ≠ [] := fun e => h0 (by simp [e])
      split
      · next hau =>
        simp only [Bool.and_eq_true, Bool.not_eq_true'] at hau
        simp [hau.1, hau.2]
      · next hau =>
        have hau' : cfg.skipVerify = true ∨ isAuthenticRequest H d s = true := by
          cases h1 : cfg.skipVerify <;> cases h2 : isAuthenticRequest H d s <;> simp [h1, h2] at hau ⊢
        cases hp : parse d s with
        | ok p' =>
          simp only [Fate.handle.injEq, hne, hau', Res.ok.injEq, ne_eq, not_false_eq_true, true_and]
          exact ⟨fun ⟨h1, h2⟩ => ⟨h2, h2 ▸ h1.symm⟩, fun ⟨h1, h2⟩ => ⟨h1 ▸ h2.symm, h1⟩⟩
        | _ => simp

theorem parse_secret {d s : Bytes} {p : Packet} (h : parse d s = .ok p) :
    p.secret = s ∧ 20 ≤ d.length ∧ (d.drop 4).take 16 = p.auth ∧ p.auth.length = 16 := by
  obtain ⟨h20, _, _, _, as, _, rfl⟩ := (parse_ok_iff d s p).mp h
  refine ⟨rfl, h20, rfl, ?_⟩
  simp; omega

theorem reply_authentic' (H : Hash) (hH : ∀ x, (H x).length = 16) (cfg : Cfg) (peer : Nat) (d : Bytes)
    (key : Key) (p : Packet) (code : Int) (attrs : Attrs) (w : Bytes)
    (h : classify H cfg peer d = .handle key p)
    (hc : Rfc.encClass code = .hashReqAuth)
    (he : encode H { response p code with attrs := attrs } = .ok w) :
    isAuthenticResponse H w d p.secret = true := by
  obtain ⟨s, _, hs, _, hp, _⟩ := (classify_handle_iff' H cfg peer d key p).mp h
  obtain ⟨h1, h2, h3, h4⟩ := parse_secret hp
  exact C03.response_verifies H hH p d code attrs w h2 h3 h4 (by rw [h1]; exact hs) hc he

theorem classify_example5 :
    classify (fun _ => zeros 16) { secretOf := fun _ => .secret [1] } 5 ([1, 7, 0, 20] ++ zeros 16)
      = .handle (5, 7) ⟨1, 7, zeros 16, [1], []⟩ :=
  classify_example_from 5

def cex : St := { closes := 1, active := 0, tasks := [⟨0, .spawned .dropSecretError⟩] }

def cexCfg : Cfg := { secretOf := fun _ => .error }

/-- `C06.dropped_otherwise` needs its reachability hypothesis: in the (unreachable) state `cex` the drop is also a
    second close of `lastActive`, and the log records it -/
theorem dropped_otherwise_false :
    ¬ (∀ (H : Hash) (cfg : Cfg) (s : St) (t i : Nat) (fate : Fate)
      (_ : s.tasks[t]? = some (⟨i, .spawned fate⟩ : Task))
      (_ : ¬ ∃ key p, fate = .handle key p ∧ key ∉ s.inflight.getD i []),
      ∃ s', step H cfg s (.taskRun t) = some s' ∧ s'.tasks[t]? = some (⟨i, .done⟩ : Task) ∧
        s'.log = s.log ++ [.dropped t] ∧ s'.inflight = s.inflight) := by
  intro h
  obtain ⟨s', hs, _, hl, _⟩ := h (fun _ => []) cexCfg cex 0 0 .dropSecretError rfl (by rintro ⟨k, p, h, _⟩; cases h)
  have : step (fun _ => []) cexCfg cex (.taskRun 0) =
      some { cex with active := -1, closes := 2, tasks := [⟨0, .done⟩], log := [.dropped 0, .doubleClose] } := by
    rfl
  rw [this] at hs
  cases hs
  revert hl
  decide

theorem packetOf_some {H : Hash} {cfg : Cfg} {s : St} {t : Nat} {p : Packet} (h : s.packetOf H cfg t = some p) :
    ∃ o key, s.origin[t]? = some o ∧ classify H cfg o.peer o.dgram = .handle key p := by
  unfold St.packetOf at h
  split at h
  · next o ho =>
    split at h
    · next key p' hc => cases h; exact ⟨o, key, ho, hc⟩
    · cases h
  · cases h

theorem packetOf_of_origin {H : Hash} {cfg : Cfg} {s : St} {t : Nat} {o : Origin} {key : Key} {p : Packet}
    (ho : s.origin[t]? = some o) (hc : classify H cfg o.peer o.dgram = .handle key p) :
    s.packetOf H cfg t = some p := by
  simp [St.packetOf, ho, hc]

/-- the classes of events the invariants speak about: `isRecv` (`InvO.recvs`), `isTraced` (the vocabulary of `InvO`),
    `isCounted` (that of `InvC`); a quiet step logs none of them (`isTraced_of_not_task`, `isCounted_of_not_task`) -/
def isRecv : Event → Bool
  | .recv .. => true
  | _ => false

def isTraced : Event → Bool
  | .recv .. | .handlerStart .. | .request .. | .reply .. => true
  | _ => false

def recvOf (t : Nat) (o : Origin) : Event := .recv t o.serve o.peer o.dgram

/-- `InvO` (origin): what each goroutine captured when it was spawned (`St.origin`) agrees with its task entry and
    explains every `recv`, `handlerStart`, `request` and `reply` event of the log.  The trace theorems of C06 project it. -/
structure InvO (H : Hash) (cfg : Cfg) (s : St) : Prop where
  len : s.origin.length = s.tasks.length
  serve : ∀ (t : Nat) (tk : Task) (o : Origin), s.tasks[t]? = some tk → s.origin[t]? = some o → tk.serve = o.serve
  -- the fate a waiting goroutine carries is the classification of its datagram
  fate : ∀ (t i : Nat) (f : Fate) (o : Origin), s.tasks[t]? = some (⟨i, .spawned f⟩ : Task) →
    s.origin[t]? = some o → f = classify H cfg o.peer o.dgram
  -- a goroutine in its handler under `key` captured a datagram classified `handle key _` …
  hand : ∀ (t i : Nat) (key : Key) (o : Origin), s.tasks[t]? = some (⟨i, .inHandler key⟩ : Task) →
    s.origin[t]? = some o → ∃ p, classify H cfg o.peer o.dgram = .handle key p
  -- … and its handler start is in the log
  inH : ∀ (t i : Nat) (key : Key), s.tasks[t]? = some (⟨i, .inHandler key⟩ : Task) → Event.handlerStart t key ∈ s.log
  recvs : s.log.filter isRecv = s.origin.mapIdx recvOf
  -- a handler start comes with the request built from the goroutine's datagram
  hs : ∀ (t : Nat) (key : Key), Event.handlerStart t key ∈ s.log →
    ∃ o p, s.origin[t]? = some o ∧ classify H cfg o.peer o.dgram = .handle key p ∧
      Event.request t p o.peer (s.connOf.getD o.serve 0) .server ∈ s.log
  -- a request names the datagram's source, the receiving conn and the server's context
  req : ∀ (t : Nat) (p : Packet) (peer conn : Nat) (ctx : Ctx), Event.request t p peer conn ctx ∈ s.log →
    ∃ o key, s.origin[t]? = some o ∧ classify H cfg o.peer o.dgram = .handle key p ∧
      peer = o.peer ∧ conn = s.connOf.getD o.serve 0 ∧ ctx = .server ∧ Event.handlerStart t key ∈ s.log
  -- a reply goes to the datagram's source on the receiving conn, from a started handler
  rep : ∀ (t conn addr : Nat) (w : Bytes), Event.reply t conn addr w ∈ s.log →
    ∃ o key, s.origin[t]? = some o ∧ addr = o.peer ∧ conn = s.connOf.getD o.serve 0 ∧
      Event.handlerStart t key ∈ s.log ∧
      -- what was written: the encoding of a Response of the packet the goroutine's datagram parses to
      ∃ (p : Packet) (code : Int) (attrs : Attrs), classify H cfg o.peer o.dgram = .handle key p ∧
        encode H { response p code with attrs := attrs } = .ok w

theorem InvO_initWith (H : Hash) (cfg : Cfg) (conns : List Nat) (nD : Nat) : InvO H cfg (initWith conns nD) := by
  refine ⟨rfl, ?_, ?_, ?_, ?_, rfl, ?_, ?_, ?_⟩
  · intro t tk o h; simp [initWith] at h
  · intro t i f o h; simp [initWith] at h
  · intro t i k o h; simp [initWith] at h
  · intro t i k h; simp [initWith] at h
  · intro t k h; simp [initWith] at h
  · intro t p pe c x h; simp [initWith] at h
  · intro t c a w h; simp [initWith] at h

/-- a new event that is either outside the invariant's vocabulary or a well-formed reply -/
def GoodNew (H : Hash) (cfg : Cfg) (s : St) (e : Event) : Prop :=
  isTraced e = false ∨
  ∃ (t conn addr : Nat) (w : Bytes) (o : Origin) (key : Key), e = .reply t conn addr w ∧ s.origin[t]? = some o ∧
    addr = o.peer ∧ conn = s.connOf.getD o.serve 0 ∧ Event.handlerStart t key ∈ s.log ∧
    ∃ (p : Packet) (code : Int) (attrs : Attrs), classify H cfg o.peer o.dgram = .handle key p ∧
      encode H { response p code with attrs := attrs } = .ok w

theorem mem_old_of_good {H : Hash} {cfg : Cfg} {s : St} {evs : List Event} (hn : ∀ e ∈ evs, GoodNew H cfg s e) {e : Event}
    (he : e ∈ s.log ++ evs) (ht : isTraced e = true) (hr : ∀ t c a w, e ≠ .reply t c a w) : e ∈ s.log := by
  rcases List.mem_append.mp he with h | h
  · exact h
  · rcases hn e h with h1 | ⟨t, c, a, w, _, _, h1, _⟩
    · rw [h1] at ht; cases ht
    · exact absurd h1 (hr t c a w)

theorem InvO.of_same {H : Hash} {cfg : Cfg} {s s' : St} (h : InvO H cfg s)
    (ho : s'.origin = s.origin) (hc : s'.connOf = s.connOf) (hlen : s'.tasks.length = s.tasks.length)
    (htk : ∀ (t : Nat) (tk' : Task), s'.tasks[t]? = some tk' →
      ∃ tk, s.tasks[t]? = some tk ∧ tk.serve = tk'.serve ∧ (tk'.pc = tk.pc ∨ tk'.pc = .done))
    (hlog : ∃ evs, s'.log = s.log ++ evs ∧ ∀ e ∈ evs, GoodNew H cfg s e) : InvO H cfg s' := by
  obtain ⟨evs, hl, hn⟩ := hlog
  have lift : ∀ e, e ∈ s.log → e ∈ s'.log := by
    intro e he; rw [hl]; exact List.mem_append_left _ he
  -- a goroutine that is not done is where it was
  have old : ∀ (t i : Nat) (pc : TaskPc), pc ≠ .done → s'.tasks[t]? = some (⟨i, pc⟩ : Task) → s.tasks[t]? = some (⟨i, pc⟩ : Task) := by
    intro t i pc hpc h1
    obtain ⟨⟨i', pc'⟩, a, b, c⟩ := htk t _ h1
    simp only at b c
    rcases c with c | c
    · subst b; subst c; exact a
    · exact absurd c hpc
  refine ⟨by rw [ho, hlen]; exact h.len, ?_, ?_, ?_, ?_, ?_, ?_, ?_, ?_⟩
  · intro t tk' o h1 h2
    obtain ⟨tk, a, b, _⟩ := htk t tk' h1
    rw [ho] at h2; rw [← b]; exact h.serve t tk o a h2
  · exact fun t i f o h1 h2 => h.fate t i f o (old t i _ (by simp) h1) (ho ▸ h2)
  · exact fun t i k o h1 h2 => h.hand t i k o (old t i _ (by simp) h1) (ho ▸ h2)
  · exact fun t i k h1 => lift _ (h.inH t i k (old t i _ (by simp) h1))
  · rw [hl, List.filter_append, ho, ← h.recvs]
    have : evs.filter isRecv = [] := by
      apply List.filter_eq_nil_iff.mpr
      intro e he
      rcases hn e he with h1 | ⟨t, c, a, w, _, _, h1, _⟩
      · cases e <;> simp [isTraced, isRecv] at h1 ⊢
      · subst h1; simp [isRecv]
    rw [this]; simp
  · intro t k hm
    rw [hl] at hm
    have hm' := mem_old_of_good hn hm rfl (by intro _ _ _ _ hh; cases hh)
    obtain ⟨o, p, h1, h2, h3⟩ := h.hs t k hm'
    exact ⟨o, p, by rw [ho]; exact h1, h2, by rw [hc]; exact lift _ h3⟩
  · intro t p pe c x hm
    rw [hl] at hm
    have hm' := mem_old_of_good hn hm rfl (by intro _ _ _ _ hh; cases hh)
    obtain ⟨o, k, h1, h2, h3, h4, h5, h6⟩ := h.req t p pe c x hm'
    exact ⟨o, k, by rw [ho]; exact h1, h2, h3, by rw [hc]; exact h4, h5, lift _ h6⟩
  · intro t c a w hm
    rw [hl] at hm
    rcases List.mem_append.mp hm with hm' | hm'
    · obtain ⟨o, k, h1, h2, h3, h4, h5⟩ := h.rep t c a w hm'
      exact ⟨o, k, by rw [ho]; exact h1, h2, by rw [hc]; exact h3, lift _ h4, h5⟩
    · rcases hn _ hm' with h1 | ⟨t', c', a', w', o, k, h1, h2, h3, h4, h5, h6⟩
      · cases h1
      · cases h1
        exact ⟨o, k, by rw [ho]; exact h2, h3, by rw [hc]; exact h4, lift _ h5, h6⟩

theorem tasks_same (s : St) : ∀ (t : Nat) (tk' : Task), s.tasks[t]? = some tk' →
    ∃ tk, s.tasks[t]? = some tk ∧ tk.serve = tk'.serve ∧ (tk'.pc = tk.pc ∨ tk'.pc = .done) :=
  fun _ tk' h => ⟨tk', h, rfl, Or.inl rfl⟩

theorem tasks_set_done {tasks : List Task} {t i : Nat} {pc : TaskPc} (ht : tasks[t]? = some (⟨i, pc⟩ : Task)) :
    ∀ (t' : Nat) (tk' : Task), (tasks.set t ⟨i, .done⟩)[t']? = some tk' →
    ∃ tk, tasks[t']? = some tk ∧ tk.serve = tk'.serve ∧ (tk'.pc = tk.pc ∨ tk'.pc = .done) := by
  intro t' tk' hh
  rcases getElem?_set_some hh with ⟨e, he, _⟩ | ⟨_, he⟩
  · subst e; subst he; exact ⟨_, ht, rfl, Or.inr rfl⟩
  · exact ⟨tk', he, rfl, Or.inl rfl⟩

theorem peerOf_eq {s : St} {t : Nat} {o : Origin} (h : s.origin[t]? = some o) : s.peerOf t = o.peer := by
  simp [St.peerOf, h]

theorem origin_of_task {H : Hash} {cfg : Cfg} {s : St} (h : InvO H cfg s) {t : Nat} {tk : Task}
    (ht : s.tasks[t]? = some tk) : ∃ o, s.origin[t]? = some o ∧ tk.serve = o.serve := by
  have hl : t < s.origin.length := by rw [h.len]; exact lt_of_getElem?_eq_some ht
  refine ⟨s.origin[t], List.getElem?_eq_getElem hl, ?_⟩
  exact h.serve t tk _ ht (List.getElem?_eq_getElem hl)

theorem InvO_spawn {H : Hash} {cfg : Cfg} {s : St} (i peer : Nat) (d : Bytes) (h : InvO H cfg s) :
    InvO H cfg (spawn H cfg s i peer d) := by
  simp only [spawn, activeAdd]
  have hlen := h.len
  have liftO : ∀ (t : Nat) (o : Origin), s.origin[t]? = some o → (s.origin ++ [(⟨i, peer, d⟩ : Origin)])[t]? = some o := by
    intro t o hh
    rw [List.getElem?_append_left (lt_of_getElem?_eq_some hh)]; exact hh
  -- a position is old in both lists or new in both
  have both : ∀ (t : Nat) (tk : Task) (o : Origin),
      (s.tasks ++ [(⟨i, .spawned (classify H cfg peer d)⟩ : Task)])[t]? = some tk →
      (s.origin ++ [(⟨i, peer, d⟩ : Origin)])[t]? = some o →
      (s.tasks[t]? = some tk ∧ s.origin[t]? = some o) ∨
      (tk = ⟨i, .spawned (classify H cfg peer d)⟩ ∧ o = ⟨i, peer, d⟩) := by
    intro t tk o h1 h2
    rcases getElem?_append_singleton_some h1 with a | ⟨a1, a2⟩ <;>
    rcases getElem?_append_singleton_some h2 with b | ⟨b1, b2⟩
    · exact Or.inl ⟨a, b⟩
    · have := lt_of_getElem?_eq_some a; omega
    · have := lt_of_getElem?_eq_some b; omega
    · exact Or.inr ⟨a2.symm, b2.symm⟩
  refine ⟨by simp [hlen], ?_, ?_, ?_, ?_, ?_, ?_, ?_, ?_⟩
  · intro t tk o h1 h2
    rcases both t tk o h1 h2 with ⟨a, b⟩ | ⟨rfl, rfl⟩
    · exact h.serve t tk o a b
    · rfl
  · intro t i' f o h1 h2
    rcases both t _ o h1 h2 with ⟨a, b⟩ | ⟨a, rfl⟩
    · exact h.fate t i' f o a b
    · cases a; rfl
  · intro t i' k o h1 h2
    rcases both t _ o h1 h2 with ⟨a, b⟩ | ⟨a, rfl⟩
    · exact h.hand t i' k o a b
    · cases a
  · intro t i' k h1
    rcases getElem?_append_singleton_some h1 with a | ⟨_, a⟩
    · exact List.mem_append_left _ (h.inH t i' k a)
    · cases a
  · show (s.log ++ [Event.recv s.tasks.length i peer d]).filter isRecv = (s.origin ++ [(⟨i, peer, d⟩ : Origin)]).mapIdx recvOf
    rw [List.filter_append, List.mapIdx_concat, ← h.recvs, hlen]
    simp [isRecv, recvOf]
  · intro t k hm
    have hm' : Event.handlerStart t k ∈ s.log := by simpa using hm
    obtain ⟨o, p, h1, h2, h3⟩ := h.hs t k hm'
    exact ⟨o, p, liftO t o h1, h2, List.mem_append_left _ h3⟩
  · intro t p pe c x hm
    have hm' : Event.request t p pe c x ∈ s.log := by simpa using hm
    obtain ⟨o, k, h1, h2, h3, h4, h5, h6⟩ := h.req t p pe c x hm'
    exact ⟨o, k, liftO t o h1, h2, h3, h4, h5, List.mem_append_left _ h6⟩
  · intro t c a w hm
    have hm' : Event.reply t c a w ∈ s.log := by simpa using hm
    obtain ⟨o, k, h1, h2, h3, h4, h5⟩ := h.rep t c a w hm'
    exact ⟨o, k, liftO t o h1, h2, h3, List.mem_append_left _ h4, h5⟩

theorem isTraced_of_not_task {e : Event} (h : isTaskEvent e = false) : isTraced e = false := by
  cases e <;> first | rfl | cases h

theorem good_done {H : Hash} {cfg : Cfg} {s : St} (s0 : St) {ev : Event} (hev : isTraced ev = false) :
    ∀ e ∈ [ev] ++ closeEv s0, GoodNew H cfg s e := by
  intro e he
  rcases List.mem_append.mp he with he | he
  · rw [List.mem_singleton.mp he]; exact Or.inl hev
  · rw [mem_closeEv he]; exact Or.inl rfl

theorem InvO_step {H : Hash} {cfg : Cfg} {s s' : St} {l : Label} (h : InvO H cfg s)
    (hs : step H cfg s l = some s') : InvO H cfg s' := by
  rcases step_quiet hs with q | h'
  · obtain ⟨evs, he, hq⟩ := q.log
    exact h.of_same q.origin (step_shape hs).1 (by rw [q.tasks]) (by rw [q.tasks]; exact tasks_same s)
      ⟨evs, he, fun e hm => Or.inl (isTraced_of_not_task (hq e hm))⟩
  · cases h' with
    | recv => exact InvO_spawn _ _ _ h
    | @handle t i key p ht hk =>
      obtain ⟨o, ho, hio⟩ := origin_of_task h ht
      simp only at hio
      have hf := h.fate t i _ o ht ho
      have hpe := peerOf_eq ho
      have htl := lt_of_getElem?_eq_some ht
      have lift : ∀ e, e ∈ s.log → e ∈ s.log ++ [Event.request t p (s.peerOf t) (s.connOf.getD i 0) .server,
          Event.handlerStart t key] := fun e he => List.mem_append_left _ he
      have hreq : Event.request t p o.peer (s.connOf.getD o.serve 0) .server ∈
          s.log ++ [Event.request t p (s.peerOf t) (s.connOf.getD i 0) .server, Event.handlerStart t key] := by
        rw [hpe, hio]; simp
      have hhs : Event.handlerStart t key ∈
          s.log ++ [Event.request t p (s.peerOf t) (s.connOf.getD i 0) .server, Event.handlerStart t key] := by
        simp
      refine ⟨by simpa using h.len, ?_, ?_, ?_, ?_, ?_, ?_, ?_, ?_⟩
      · intro t' tk o' h1 h2
        rcases getElem?_set_some h1 with ⟨e, he, _⟩ | ⟨_, he⟩
        · subst e; subst he; exact (h.serve t _ o' ht h2 : i = o'.serve)
        · exact h.serve t' tk o' he h2
      · intro t' i' f o' h1 h2
        rcases getElem?_set_some h1 with ⟨_, he, _⟩ | ⟨_, he⟩
        · cases he
        · exact h.fate t' i' f o' he h2
      · intro t' i' k o' h1 h2
        rcases getElem?_set_some h1 with ⟨e, he, _⟩ | ⟨_, he⟩
        · subst e; cases he
          have : o' = o := by
            have h2' : s.origin[t]? = some o' := h2
            rw [ho] at h2'; exact (Option.some.inj h2').symm
          subst this
          exact ⟨p, hf.symm⟩
        · exact h.hand t' i' k o' he h2
      · intro t' i' k h1
        rcases getElem?_set_some h1 with ⟨e, he, _⟩ | ⟨_, he⟩
        · subst e; cases he; exact hhs
        · exact lift _ (h.inH t' i' k he)
      · show (s.log ++ [Event.request t p (s.peerOf t) (s.connOf.getD i 0) .server,
            Event.handlerStart t key]).filter isRecv = s.origin.mapIdx recvOf
        rw [List.filter_append, ← h.recvs]; simp [isRecv]
      · intro t' k hm
        simp only [List.mem_append, List.mem_cons, List.mem_nil_iff, or_false, reduceCtorEq, false_or] at hm
        rcases hm with hm | hm
        · obtain ⟨o', p', h1, h2, h3⟩ := h.hs t' k hm
          exact ⟨o', p', h1, h2, lift _ h3⟩
        · cases hm
          exact ⟨o, p, ho, hf.symm, hreq⟩
      · intro t' p' pe c x hm
        simp only [List.mem_append, List.mem_cons, List.mem_nil_iff, or_false, reduceCtorEq, or_false] at hm
        rcases hm with hm | hm
        · obtain ⟨o', k, h1, h2, h3, h4, h5, h6⟩ := h.req t' p' pe c x hm
          exact ⟨o', k, h1, h2, h3, h4, h5, lift _ h6⟩
        · cases hm
          exact ⟨o, key, ho, hf.symm, hpe, by rw [hio], rfl, hhs⟩
      · intro t' c a w hm
        have hm' : Event.reply t' c a w ∈ s.log := by simpa using hm
        obtain ⟨o', k, h1, h2, h3, h4, h5⟩ := h.rep t' c a w hm'
        exact ⟨o', k, h1, h2, h3, lift _ h4, h5⟩
    | drop ht | finish ht =>
      rw [activeDone_eq]
      exact h.of_same rfl rfl (by simp) (tasks_set_done ht) ⟨_, List.append_assoc .., good_done _ rfl⟩
    | @reply t i key p w code attrs ht hp hw =>
      obtain ⟨o, ho, hio⟩ := origin_of_task h ht
      simp only at hio
      -- the packet the handler answers is the one its goroutine's datagram was classified to, under the key of the handler
      obtain ⟨o', key', ho', hcl⟩ := packetOf_some hp
      rw [ho] at ho'; cases ho'
      obtain ⟨p', hcl'⟩ := h.hand t i key o ht ho
      rw [hcl] at hcl'; cases hcl'
      refine h.of_same rfl rfl rfl (tasks_same s) ⟨[.reply t (s.connOf.getD i 0) (s.peerOf t) w], rfl, ?_⟩
      intro e he
      right
      exact ⟨t, s.connOf.getD i 0, s.peerOf t, w, o, key, by simpa using he, ho, peerOf_eq ho, by rw [hio],
        h.inH t i key ht, p, code, attrs, hcl, hw⟩

theorem InvO_run (H : Hash) (cfg : Cfg) (conns : List Nat) (nD : Nat) (ls : List Label) :
    InvO H cfg (run H cfg (initWith conns nD) ls) :=
  run_preserves H cfg (InvO H cfg) (fun _ _ _ h hs => InvO_step h hs) ls _ (InvO_initWith H cfg conns nD)

theorem recv_mem_iff {H : Hash} {cfg : Cfg} {s : St} (h : InvO H cfg s) (t i peer : Nat) (d : Bytes) :
    Event.recv t i peer d ∈ s.log ↔ s.origin[t]? = some ⟨i, peer, d⟩ := by
  have e : Event.recv t i peer d ∈ s.log ↔ Event.recv t i peer d ∈ s.log.filter isRecv := by
    rw [List.mem_filter]; simp [isRecv]
  rw [e, h.recvs, List.mem_mapIdx]
  constructor
  · rintro ⟨t', ht', he⟩
    simp only [recvOf, Event.recv.injEq] at he
    obtain ⟨rfl, h1, h2, h3⟩ := he
    rw [List.getElem?_eq_getElem ht']
    congr 1
    cases hh : s.origin[t'] with
    | mk a b c => rw [hh] at h1 h2 h3; simp only at h1 h2 h3; subst h1; subst h2; subst h3; rfl
  · intro ho
    have hl := lt_of_getElem?_eq_some ho
    refine ⟨t, hl, ?_⟩
    have := List.getElem?_eq_getElem hl
    rw [ho] at this
    have e2 : s.origin[t] = ⟨i, peer, d⟩ := (Option.some.inj this).symm
    rw [e2]; rfl

theorem hs_key_unique {H : Hash} {cfg : Cfg} {s : St} (h : InvO H cfg s) {t : Nat} {k k' : Key}
    (h1 : Event.handlerStart t k ∈ s.log) (h2 : Event.handlerStart t k' ∈ s.log) : k = k' := by
  obtain ⟨o, p, ho, hc, _⟩ := h.hs t k h1
  obtain ⟨o', p', ho', hc', _⟩ := h.hs t k' h2
  rw [ho] at ho'; cases ho'
  rw [hc] at hc'; cases hc'; rfl

/-- What a `reply` event says, in any state satisfying the origin invariant: destination = source of the
    datagram that spawned the goroutine, socket = conn of the Serve call that read it, and the octets are
    the encoding of a Response (code and attributes of the handler's choice) of the packet that datagram
    parses to under the secret the secret source gave for that peer — hence, for a reply code, a datagram
    whose Response Authenticator is valid for the request datagram under that secret (C03). -/
theorem reply_answers_of_InvO {H : Hash} (hH : ∀ x, (H x).length = 16) {cfg : Cfg} {s : St} (hO : InvO H cfg s)
    {conns : List Nat} (hconn : s.connOf = conns)
    {t conn addr : Nat} {w : Bytes} (h : Event.reply t conn addr w ∈ s.log) :
    ∃ (i peer : Nat) (d : Bytes) (key : Key) (p : Packet) (sec : Bytes) (code : Int) (attrs : Attrs),
      Event.recv t i peer d ∈ s.log ∧
      addr = peer ∧ conn = conns.getD i 0 ∧
      Event.request t p peer (conns.getD i 0) .server ∈ s.log ∧ Event.handlerStart t key ∈ s.log ∧
      classify H cfg peer d = .handle key p ∧
      cfg.secretOf peer = .secret sec ∧ sec ≠ [] ∧ parse d sec = .ok p ∧ p.secret = sec ∧
      encode H { response p code with attrs := attrs } = .ok w ∧
      (Rfc.encClass code = .hashReqAuth → isAuthenticResponse H w d sec = true) := by
  obtain ⟨⟨i, peer, d⟩, key, ho, ha, hc, hhs, p, code, attrs, hcl, henc⟩ := hO.rep t conn addr w h
  simp only at ha hc hcl
  obtain ⟨o', p', ho', hcl', hreq⟩ := hO.hs t key hhs
  rw [ho] at ho'; cases ho'
  simp only at hcl' hreq
  rw [hcl] at hcl'; cases hcl'
  rw [hconn] at hc hreq
  obtain ⟨sec, hs, hne, _, hp, _⟩ := (classify_handle_iff' H cfg peer d key p).mp hcl
  have hps := (parse_secret hp).1
  refine ⟨i, peer, d, key, p, sec, code, attrs, (recv_mem_iff hO t i peer d).mpr ho, ha, hc, hreq, hhs, hcl,
    hs, hne, hp, hps, henc, ?_⟩
  intro hcode
  rw [← hps]
  exact reply_authentic' H hH cfg peer d key p code attrs w hcl hcode henc

def isHSof (t : Nat) : Event → Bool
  | .handlerStart t' _ => t' == t
  | _ => false

def isDropOf (t : Nat) : Event → Bool
  | .dropped t' => t' == t
  | _ => false

def isEndOf (t : Nat) : Event → Bool
  | .handlerEnd t' => t' == t
  | _ => false

/-- how often the handler was started for goroutine `t` -/
def hsCount (s : St) (t : Nat) : Nat := (s.log.filter (isHSof t)).length

/-- how often goroutine `t` was dropped without the handler -/
def dropCount (s : St) (t : Nat) : Nat := (s.log.filter (isDropOf t)).length

/-- how often the handler of goroutine `t` returned -/
def endCount (s : St) (t : Nat) : Nat := (s.log.filter (isEndOf t)).length

def isCounted : Event → Bool
  | .handlerStart .. | .dropped .. | .handlerEnd .. => true
  | _ => false

/-- what the three counts of a goroutine must be, given where it is -/
def countSpec : Option TaskPc → Nat → Nat → Nat → Prop
  | none, h, d, e => h = 0 ∧ d = 0 ∧ e = 0
  | some (.spawned _), h, d, e => h = 0 ∧ d = 0 ∧ e = 0
  | some (.inHandler _), h, d, e => h = 1 ∧ d = 0 ∧ e = 0
  | some .done, h, d, e => h + d = 1 ∧ e = h

/-- `InvC` (counts): per goroutine, the numbers of its `handlerStart`, `dropped` and `handlerEnd` events are those
    `countSpec` allows where it stands — `C06.exactly_once_per_datagram` -/
def InvC (s : St) : Prop :=
  ∀ t : Nat, countSpec (s.tasks[t]?.map (·.pc)) (hsCount s t) (dropCount s t) (endCount s t)

theorem InvC_initWith (conns : List Nat) (nD : Nat) : InvC (initWith conns nD) := by
  intro t; simp [initWith, countSpec, hsCount, dropCount, endCount]

theorem filter_uncounted {evs : List Event} (hn : ∀ e ∈ evs, isCounted e = false) (t : Nat) :
    evs.filter (isHSof t) = [] ∧ evs.filter (isDropOf t) = [] ∧ evs.filter (isEndOf t) = [] := by
  refine ⟨?_, ?_, ?_⟩ <;>
  · apply List.filter_eq_nil_iff.mpr
    intro e he
    have := hn e he
    cases e <;> simp [isCounted, isHSof, isDropOf, isEndOf] at this ⊢

theorem InvC_same {s s' : St} (h : InvC s) (ht : s'.tasks = s.tasks)
    (hl : ∃ evs, s'.log = s.log ++ evs ∧ ∀ e ∈ evs, isCounted e = false) : InvC s' := by
  obtain ⟨evs, hl, hn⟩ := hl
  intro t
  obtain ⟨h1, h2, h3⟩ := filter_uncounted hn t
  have := h t
  simp only [hsCount, dropCount, endCount, ht, hl, List.filter_append, h1, h2, h3, List.append_nil] at this ⊢
  exact this

theorem map_pc_set {tasks : List Task} {t t' : Nat} {b : Task} :
    (tasks.set t b)[t']?.map (·.pc) =
      if t = t' ∧ t < tasks.length then some b.pc else tasks[t']?.map (·.pc) := by
  rw [List.getElem?_set]
  by_cases h : t = t'
  · subst h
    by_cases h2 : t < tasks.length <;> simp [h2]
  · simp [h]

theorem InvC_spawn {H : Hash} {cfg : Cfg} {s : St} (i peer : Nat) (d : Bytes) (h : InvC s) :
    InvC (spawn H cfg s i peer d) := by
  intro t
  have := h t
  obtain ⟨e1, e2, e3⟩ := filter_uncounted (evs := [Event.recv s.tasks.length i peer d]) (by simp [isCounted]) t
  simp only [spawn, activeAdd, hsCount, dropCount, endCount, List.filter_append, e1, e2, e3,
    List.append_nil] at this ⊢
  -- a position beyond the old tasks has the counts of a goroutine that has not run: none
  rcases Nat.lt_trichotomy t s.tasks.length with hlt | rfl | hgt
  · rwa [List.getElem?_append_left hlt]
  · rw [List.getElem?_eq_none (Nat.le_refl _)] at this
    simpa [countSpec] using this
  · rw [List.getElem?_eq_none (by omega)] at this
    rwa [List.getElem?_eq_none (by simp; omega)]

theorem isCounted_of_not_task {e : Event} (h : isTaskEvent e = false) : isCounted e = false := by
  cases e <;> first | rfl | cases h

/-- goroutine `t` moves from `pc` to `pc'` and the step logs `dh` handler starts, `dd` drops and `de` handler
    ends, all of them of `t` -/
theorem InvC_move {s s' : St} (h : InvC s) {t i : Nat} {pc : TaskPc} (pc' : TaskPc)
    (ht : s.tasks[t]? = some (⟨i, pc⟩ : Task)) (hs' : s'.tasks = s.tasks.set t ⟨i, pc'⟩) {evs : List Event}
    (hl : s'.log = s.log ++ evs) (dh dd de : Nat)
    (hev : ∀ t', (evs.filter (isHSof t')).length = (if t = t' then dh else 0) ∧
      (evs.filter (isDropOf t')).length = (if t = t' then dd else 0) ∧
      (evs.filter (isEndOf t')).length = (if t = t' then de else 0))
    (hsp : ∀ a b c, countSpec (some pc) a b c → countSpec (some pc') (a + dh) (b + dd) (c + de)) : InvC s' := by
  intro t'
  have := h t'
  obtain ⟨e1, e2, e3⟩ := hev t'
  simp only [hsCount, dropCount, endCount, hs', hl, List.filter_append, List.length_append, map_pc_set, e1, e2,
    e3] at this ⊢
  by_cases htt : t = t'
  · subst htt
    simp only [ht, Option.map_some] at this
    simp only [lt_of_getElem?_eq_some ht, and_self, if_true]
    exact hsp _ _ _ this
  · simpa only [htt, false_and, if_false, Nat.add_zero] using this

theorem InvC_step {H : Hash} {cfg : Cfg} {s s' : St} {l : Label} (h : InvC s)
    (hs : step H cfg s l = some s') : InvC s' := by
  rcases step_quiet hs with q | h'
  · obtain ⟨evs, he, hq⟩ := q.log
    exact InvC_same h q.tasks ⟨evs, he, fun e hm => isCounted_of_not_task (hq e hm)⟩
  · cases h' with
    | recv => exact InvC_spawn _ _ _ h
    | @handle t i key p ht =>
      refine InvC_move h _ ht rfl rfl 1 0 0 (fun t' => ?_) (fun a b c hc => ?_)
      · by_cases htt : t = t' <;> simp [isHSof, isDropOf, isEndOf, htt]
      · simp only [countSpec] at hc ⊢; omega
    | @drop t i fate ht =>
      refine InvC_move h _ ht (by rw [activeDone_eq]) (by rw [activeDone_eq]; exact List.append_assoc ..) 0 1 0
        (fun t' => ?_) (fun a b c hc => ?_)
      · simp only [List.filter_append, filter_closeEv _ (p := isHSof t') rfl, filter_closeEv _ (p := isDropOf t') rfl,
          filter_closeEv _ (p := isEndOf t') rfl]
        by_cases htt : t = t' <;> simp [isHSof, isDropOf, isEndOf, htt]
      · simp only [countSpec] at hc ⊢; omega
    | @finish t i key ht =>
      refine InvC_move h _ ht (by rw [activeDone_eq]) (by rw [activeDone_eq]; exact List.append_assoc ..) 0 0 1
        (fun t' => ?_) (fun a b c hc => ?_)
      · simp only [List.filter_append, filter_closeEv _ (p := isHSof t') rfl, filter_closeEv _ (p := isDropOf t') rfl,
          filter_closeEv _ (p := isEndOf t') rfl]
        by_cases htt : t = t' <;> simp [isHSof, isDropOf, isEndOf, htt]
      · simp only [countSpec] at hc ⊢; omega
    | reply => exact InvC_same h rfl ⟨_, rfl, by simp [isCounted]⟩

theorem InvC_run (H : Hash) (cfg : Cfg) (conns : List Nat) (nD : Nat) (ls : List Label) :
    InvC (run H cfg (initWith conns nD) ls) :=
  run_preserves H cfg InvC (fun _ _ _ h hs => InvC_step h hs) ls _ (InvC_initWith conns nD)

def recvLabel : Label → Nat
  | .serveRecv .. => 1
  | _ => 0

def recvSteps (H : Hash) (cfg : Cfg) : St → List Label → Nat
  | _, [] => 0
  | s, l :: ls =>
    match step H cfg s l with
    | some s' => recvLabel l + recvSteps H cfg s' ls
    | none => recvSteps H cfg s ls

theorem step_tasks_length {H : Hash} {cfg : Cfg} {s s' : St} {l : Label} (hs : step H cfg s l = some s') :
    s'.tasks.length = s.tasks.length + recvLabel l := by
  cases step_iff.mp hs with
  | serve h' => rw [h'.keepsTasks.tasks]; cases h' <;> rfl
  | down h' => rw [h'.keepsTasks.tasks]; cases h' <;> rfl
  | task h' => cases h' <;> simp [recvLabel, activeDone_eq, spawn, activeAdd]

theorem tasks_length_run (H : Hash) (cfg : Cfg) :
    ∀ (ls : List Label) (s : St), (run H cfg s ls).tasks.length = s.tasks.length + recvSteps H cfg s ls := by
  intro ls
  induction ls with
  | nil => intro s; rfl
  | cons l ls ih =>
    intro s
    simp only [run, recvSteps]
    cases hs : step H cfg s l with
    | some s' => simp only []; rw [ih s', step_tasks_length hs]; omega
    | none => exact ih s

theorem hsCount_pos {s : St} {t : Nat} {key : Key} (h : Event.handlerStart t key ∈ s.log) : 1 ≤ hsCount s t :=
  List.length_pos_of_mem (List.mem_filter.mpr ⟨h, by simp [isHSof]⟩)

theorem InvC_hsCount_le {s : St} (h : InvC s) (t : Nat) : hsCount s t ≤ 1 := by
  have := h t
  cases hh : s.tasks[t]?.map (·.pc) with
  | none => rw [hh] at this; simp only [countSpec] at this; omega
  | some pc =>
    rw [hh] at this
    cases pc <;> simp only [countSpec] at this <;> omega

end RV.Server
