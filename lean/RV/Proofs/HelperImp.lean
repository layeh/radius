/-
  The imperative mirror of RV/Model/HelperImp.lean against the pure model of RV/Model/Helper.lean:
  each mirror computes `outcome (pure result) initial-state`, i.e. on success it ends in exactly
  the pure model's list, and on error / panic it ends in the list it started from.  The mirror of the
  statement order before commit db9cf48 (`setVendorOldImp`) does not.
-/
import RV.Model.HelperImp
import RV.Proofs.Helper
namespace RV
namespace Imp

/-- what an imperative helper that refines the pure result `r` returns when started in `as` -/
def outcome (r : Res Attrs) (as : Attrs) : Res Unit × Attrs :=
  match r with
  | .ok as' => (.ok (), as')
  | .err => (.err, as)
  | .fault => (.fault, as)

theorem bind_apply {α β} (m : Imp α) (f : α → Imp β) (as : Attrs) :
    (m >>= f) as = match m as with
      | (.ok a, as') => f a as'
      | (.err, as') => (.err, as')
      | (.fault, as') => (.fault, as') := rfl

theorem liftRes_bind {α β} (r : Res α) (f : α → Imp β) (as : Attrs) :
    (liftRes r >>= f) as = match r with
      | .ok a => f a as
      | .err => (.err, as)
      | .fault => (.fault, as) := by
  rw [bind_apply]; cases r <;> rfl

theorem prim_bind {β} (g : Attrs → Attrs) (f : Unit → Imp β) (as : Attrs) :
    ((fun as => (.ok (), g as) : Imp Unit) >>= f) as = f () (g as) := rfl

theorem addVendorImp_eq (vid : Nat) (typ : UInt8) (attr : Bytes) (as : Attrs) :
    addVendorImp vid typ attr as = outcome (addVendor vid typ attr as) as := by
  unfold addVendorImp addVendor
  rw [liftRes_bind]
  cases vendorAttr vid typ attr <;> rfl

theorem setVendorImp_eq (vid : Nat) (typ : UInt8) (attr : Bytes) (as : Attrs) :
    setVendorImp vid typ attr as = outcome (setVendor vid typ attr as) as := by
  unfold setVendorImp setVendor
  rw [liftRes_bind]
  cases vendorAttr vid typ attr <;> rfl

/-- the old order: the packet after an error is the packet with the sub-attributes removed -/
theorem setVendorOldImp_eq (vid : Nat) (typ : UInt8) (attr : Bytes) (as : Attrs) :
    setVendorOldImp vid typ attr as =
      match vendorAttr vid typ attr with
      | .ok vsa => (.ok (), (delVendor vid typ as).add vsaType vsa)
      | .err => (.err, delVendor vid typ as)
      | .fault => (.fault, delVendor vid typ as) := by
  unfold setVendorOldImp delVendorS
  rw [prim_bind, addVendorImp_eq]
  unfold addVendor
  cases vendorAttr vid typ attr <;> rfl

theorem chunkLoopImp_eq (typ : Int) (b : Bytes) (acc as : Attrs) :
    chunkLoopImp typ b acc as = (.ok (acc ++ (chunks253 b).map (fun c => ⟨typ, c⟩)), as) := by
  fun_induction chunkLoopImp typ b acc with
  | case1 acc => rw [chunks253_nil]; simp [ret]
  | case2 value acc hne ih =>
    rw [liftRes_bind]
    have hnb : newBytes (value.take 253) = .ok (value.take 253) := by
      unfold newBytes; rw [if_neg (by simp; omega)]
    rw [hnb]
    simp only []
    rw [ih, chunks253_ne value hne]
    simp

section
variable (H : Hash)

theorem hAddImp_eq (d : Desc) (tag : UInt8) (v : GVal) (secret auth salt : Bytes) (as : Attrs) :
    hAddImp H d tag v secret auth salt as = outcome (hAdd H d as tag v secret auth salt) as := by
  unfold hAddImp hAdd
  by_cases hk : d.kind = .concat
  · rw [if_pos hk, if_pos hk]; rfl
  · rw [if_neg hk, if_neg hk, liftRes_bind]
    cases encodeValue H d tag v secret auth salt with
    | ok a =>
      simp only []
      by_cases hv : d.vendorID = 0
      · rw [if_pos hv, if_pos hv]; rfl
      · rw [if_neg hv, if_neg hv, addVendorImp_eq]
    | err => rfl
    | fault => rfl

theorem hSetImp_eq (d : Desc) (tag : UInt8) (v : GVal) (secret auth salt : Bytes) (as : Attrs) :
    hSetImp H d tag v secret auth salt as = outcome (hSet H d as tag v secret auth salt) as := by
  unfold hSetImp hSet
  by_cases hk : d.kind = .concat
  · rw [if_pos hk, if_pos hk]
    cases v with
    | bytes b =>
      simp only []
      rw [bind_apply, chunkLoopImp_eq]
      simp only [List.nil_append]
      rfl
    | nat n => rfl
    | time u => rfl
    | pfx p => rfl
  · rw [if_neg hk, if_neg hk, liftRes_bind]
    cases encodeValue H d tag v secret auth salt with
    | ok a =>
      simp only []
      by_cases hv : d.vendorID = 0
      · rw [if_pos hv, if_pos hv]; rfl
      · rw [if_neg hv, if_neg hv, setVendorImp_eq]
    | err => rfl
    | fault => rfl

theorem hDelImp_eq (d : Desc) (as : Attrs) : hDelImp d as = (.ok (), hDel d as) := by
  unfold hDelImp hDel
  by_cases hv : d.vendorID = 0
  · rw [if_pos hv, if_pos hv]; rfl
  · rw [if_neg hv, if_neg hv]; rfl

end

theorem outcome_ok_iff (r : Res Attrs) (as as' : Attrs) : outcome r as = (.ok (), as') ↔ r = .ok as' := by
  cases r <;> simp [outcome]

theorem outcome_err_iff (r : Res Attrs) (as : Attrs) : (outcome r as).1 = .err ↔ r = .err := by
  cases r <;> simp [outcome]

theorem outcome_fault_iff (r : Res Attrs) (as : Attrs) : (outcome r as).1 = .fault ↔ r = .fault := by
  cases r <;> simp [outcome]

theorem outcome_cases {r : Res Attrs} (hf : r ≠ .fault) (as : Attrs) :
    (outcome r as = (.err, as) ∧ r = .err) ∨ ∃ as', outcome r as = (.ok (), as') ∧ r = .ok as' := by
  cases r with
  | ok as' => exact Or.inr ⟨as', rfl, rfl⟩
  | err => exact Or.inl ⟨rfl, rfl⟩
  | fault => exact absurd rfl hf

/-- THE point: when the result is not `.ok`, the final state is the initial state -/
theorem outcome_unchanged (r : Res Attrs) (as : Attrs) (h : (outcome r as).1 ≠ .ok ()) :
    (outcome r as).2 = as := by
  cases r with
  | ok a => exact absurd rfl h
  | err => rfl
  | fault => rfl

end Imp
end RV
