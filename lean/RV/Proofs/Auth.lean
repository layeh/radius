/- A datagram is head (`take 4`) ++ authenticator field (`(drop 4).take 16`) ++ tail (`drop 20`); the hash input
   `authInput` has the head and the tail of the datagram but not its field.  Acceptance by either predicate is
   "the field carries `H` of the hash input", so an encoded datagram verifies and an altered one is rejected
   unless the two hash values coincide.  Last, `readFull` (the `io.ReadFull` loop behind `New`): whatever the
   sizes of the single `Read`s, it returns `take need` / `drop need` of the source, and `none` only on a source
   that is too short (`readFull_eq`). -/
import RV.Model.Auth
import RV.Proofs.Wire
namespace RV

theorem parts_take (x a t : Bytes) {n : Nat} (hx : x.length = n) : (x ++ a ++ t).take n = x := by
  rw [List.append_assoc, List.take_left' hx]

theorem parts_mid (x a t : Bytes) {n m : Nat} (hx : x.length = n) (ha : a.length = m) :
    ((x ++ a ++ t).drop n).take m = a := by
  rw [List.append_assoc, List.drop_left' hx, List.take_left' ha]

theorem parts_drop (x a t : Bytes) {n m : Nat} (hx : x.length = n) (ha : a.length = m) :
    (x ++ a ++ t).drop (n + m) = t :=
  List.drop_left' (by rw [List.length_append, hx, ha])

theorem parts_eq (r : Bytes) : r.take 4 ++ (r.drop 4).take 16 ++ r.drop 20 = r := by
  rw [List.append_assoc, show 20 = 4 + 16 from rfl, ← List.drop_drop, List.take_append_drop,
    List.take_append_drop]

theorem getD_of_take4 (w b : Bytes) (h : w.take 4 = b.take 4) (i : Nat) (hi : i < 4) :
    w.getD i 0 = b.getD i 0 := by
  rw [← getD_take w i 4 hi, ← getD_take b i 4 hi, h]

theorem lengthField_of_take4 (w b : Bytes) (h : w.take 4 = b.take 4) :
    lengthField w = lengthField b := by
  unfold lengthField
  rw [getD_of_take4 w b h 2 (by omega), getD_of_take4 w b h 3 (by omega)]

theorem authInput_congr (r r' a s : Bytes) (h4 : r.take 4 = r'.take 4) (h20 : r.drop 20 = r'.drop 20) :
    authInput r a s = authInput r' a s := by
  unfold authInput
  rw [h4, h20]

/-- tail and secret are adjacent in the hash input, so only their concatenation is determined -/
theorem authInput_inj (r r' a a' s s' : Bytes) (hr : 4 ≤ r.length) (hr' : 4 ≤ r'.length)
    (ha : a.length = a'.length) (h : authInput r a s = authInput r' a' s') :
    r.take 4 = r'.take 4 ∧ a = a' ∧ r.drop 20 ++ s = r'.drop 20 ++ s' := by
  unfold authInput at h
  simp only [List.append_assoc] at h
  obtain ⟨e1, h⟩ := List.append_inj h (by rw [List.length_take_of_le hr, List.length_take_of_le hr'])
  obtain ⟨e2, h⟩ := List.append_inj h ha
  exact ⟨e1, e2, h⟩

theorem putAuth_take4 (b h : Bytes) (hb : 4 ≤ b.length) : (putAuth b h).take 4 = b.take 4 :=
  parts_take _ _ _ (List.length_take_of_le hb)

theorem putAuth_auth (b h : Bytes) (hb : 4 ≤ b.length) (hh : h.length = 16) :
    ((putAuth b h).drop 4).take 16 = h :=
  parts_mid _ _ _ (List.length_take_of_le hb) hh

theorem putAuth_drop20 (b h : Bytes) (hb : 4 ≤ b.length) (hh : h.length = 16) :
    (putAuth b h).drop 20 = b.drop 20 :=
  parts_drop _ _ _ (List.length_take_of_le hb) hh

theorem putAuth_getD0 (b h : Bytes) (hb : 4 ≤ b.length) :
    (putAuth b h).getD 0 0 = b.getD 0 0 :=
  getD_of_take4 _ _ (putAuth_take4 b h hb) 0 (by omega)

theorem hdr_auth (c : Int) (i : UInt8) (n : Nat) (a t : Bytes) (ha : a.length = 16) :
    ((header c i n a ++ t).drop 4).take 16 = a :=
  parts_mid [codeByte c, i, UInt8.ofNat (n / 256), UInt8.ofNat (n % 256)] a t rfl ha

theorem hdr_drop20 (c : Int) (i : UInt8) (n : Nat) (a t : Bytes) (ha : a.length = 16) :
    (header c i n a ++ t).drop 20 = t :=
  parts_drop [codeByte c, i, UInt8.ofNat (n / 256), UInt8.ofNat (n % 256)] a t rfl ha

theorem putAuth_header (c : Int) (i : UInt8) (n : Nat) (a t h : Bytes) (ha : a.length = 16) :
    putAuth (header c i n a ++ t) h = header c i n h ++ t := by
  show header c i n h ++ (header c i n a ++ t).drop 20 = _
  rw [hdr_drop20 c i n a t ha]

theorem encode_ok_iff_cases (H : Hash) (p : Packet) (w : Bytes) :
    encode H p = .ok w ↔ ∃ b, marshal p = .ok b ∧
      match encodeClass p.code with
      | .verbatim => b = w
      | .hashReqAuth => putAuth b (H (authInput b p.auth p.secret)) = w
      | .hashZero => putAuth b (H (authInput b (zeros 16) p.secret)) = w
      | .refused => False := by
  unfold encode
  cases marshal p with
  | ok b => cases encodeClass p.code <;> simp
  | err => simp
  | fault => simp

/-- the digest written into the field is also the digest over the datagram that carries it, since the field is
    not an input -/
theorem putAuth_hash_header (H : Hash) (hH : ∀ x, (H x).length = 16) (c : Int) (i : UInt8) (n : Nat)
    (a t y s w : Bytes) (ha : a.length = 16)
    (e : putAuth (header c i n a ++ t) (H (authInput (header c i n a ++ t) y s)) = w) :
    ∃ A, A.length = 16 ∧ w = header c i n A ++ t ∧ A = H (authInput w y s) := by
  rw [putAuth_header c i n a t _ ha] at e
  refine ⟨_, hH _, e.symm, ?_⟩
  rw [← e]
  exact congrArg H (authInput_congr _ _ _ _ rfl (by rw [hdr_drop20 c i n _ t (hH _), hdr_drop20 c i n a t ha]))

theorem encode_ok_shape (H : Hash) (hH : ∀ x, (H x).length = 16) (p : Packet) (w : Bytes)
    (ha : p.auth.length = 16) (h : encode H p = .ok w) :
    20 + (encodeBytes p.attrs).length ≤ 4096 ∧
    marshal p =
      .ok (header p.code p.id (20 + (encodeBytes p.attrs).length) p.auth ++ encodeBytes p.attrs) ∧
    ∃ A, A.length = 16 ∧
      w = header p.code p.id (20 + (encodeBytes p.attrs).length) A ++ encodeBytes p.attrs ∧
      match encodeClass p.code with
      | .verbatim => A = p.auth
      | .hashReqAuth => A = H (authInput w p.auth p.secret)
      | .hashZero => A = H (authInput w (zeros 16) p.secret)
      | .refused => False := by
  obtain ⟨b, hm, hc⟩ := (encode_ok_iff_cases H p w).1 h
  obtain ⟨⟨_, hle⟩, rfl⟩ := (marshal_eq_ok_iff p b).1 hm
  refine ⟨hle, hm, ?_⟩
  cases hcl : encodeClass p.code <;> rw [hcl] at hc
  · exact ⟨p.auth, ha, hc.symm, rfl⟩
  · exact putAuth_hash_header H hH _ _ _ _ _ _ _ w ha hc
  · exact putAuth_hash_header H hH _ _ _ _ _ _ _ w ha hc
  · exact hc.elim

theorem bytes_ne_nil_iff (s : Bytes) : ¬ s.length = 0 ↔ s ≠ [] := by
  simp

theorem isAuthenticResponse_eq_true_iff (H : Hash) (r q s : Bytes) :
    isAuthenticResponse H r q s = true ↔
      20 ≤ r.length ∧ 20 ≤ q.length ∧ s ≠ [] ∧
      (r.drop 4).take 16 = H (authInput r ((q.drop 4).take 16) s) := by
  unfold isAuthenticResponse
  rw [← bytes_ne_nil_iff]
  split
  · exact ⟨nofun, by omega⟩
  · rw [beq_iff_eq, eq_comm]
    exact ⟨fun e => ⟨by omega, by omega, by omega, e⟩, fun e => e.2.2.2⟩

theorem isAuthenticRequest_eq_true_iff (H : Hash) (q s : Bytes) :
    isAuthenticRequest H q s = true ↔
      20 ≤ q.length ∧ s ≠ [] ∧
      (requestClass (q.getD 0 0).toNat = .always ∨
       requestClass (q.getD 0 0).toNat = .hashZero ∧
        (q.drop 4).take 16 = H (authInput q (zeros 16) s)) := by
  unfold isAuthenticRequest
  rw [← bytes_ne_nil_iff]
  split
  · exact ⟨nofun, by omega⟩
  · have hl : 20 ≤ q.length ∧ ¬ s.length = 0 := by omega
    cases requestClass (q.getD 0 0).toNat
    · exact ⟨fun _ => ⟨hl.1, hl.2, .inl rfl⟩, fun _ => rfl⟩
    · rw [beq_iff_eq, eq_comm]
      exact ⟨fun e => ⟨hl.1, hl.2, .inr ⟨rfl, e⟩⟩, fun e => e.2.2.elim nofun (·.2)⟩
    · exact ⟨nofun, fun e => e.2.2.elim nofun (nomatch ·.1)⟩

theorem accepted_auth_eq_iff (H : Hash) (r r' q q' s s' : Bytes)
    (hok : isAuthenticResponse H r q s = true) (hok' : isAuthenticResponse H r' q' s' = true) :
    (r'.drop 4).take 16 = (r.drop 4).take 16 ↔
      H (authInput r' ((q'.drop 4).take 16) s') = H (authInput r ((q.drop 4).take 16) s) := by
  rw [((isAuthenticResponse_eq_true_iff H r q s).1 hok).2.2.2,
    ((isAuthenticResponse_eq_true_iff H r' q' s').1 hok').2.2.2]

theorem reject_of_hash_ne (H : Hash) (r r' q q' s s' : Bytes)
    (hok : isAuthenticResponse H r q s = true)
    (hauth : (r'.drop 4).take 16 = (r.drop 4).take 16)
    (hH : H (authInput r' ((q'.drop 4).take 16) s') ≠ H (authInput r ((q.drop 4).take 16) s)) :
    isAuthenticResponse H r' q' s' = false :=
  Bool.eq_false_iff.2 fun hok' => hH ((accepted_auth_eq_iff H r r' q q' s s' hok hok').1 hauth)

theorem reject_altered (H : Hash) (r r' q q' s s' : Bytes) (hok : isAuthenticResponse H r q s = true)
    (hr' : 4 ≤ r'.length) (hq' : 20 ≤ q'.length) (hauth : (r'.drop 4).take 16 = (r.drop 4).take 16)
    (hne : r'.take 4 ≠ r.take 4 ∨ (q'.drop 4).take 16 ≠ (q.drop 4).take 16 ∨
      r'.drop 20 ++ s' ≠ r.drop 20 ++ s) :
    authInput r' ((q'.drop 4).take 16) s' ≠ authInput r ((q.drop 4).take 16) s ∧
    (H (authInput r' ((q'.drop 4).take 16) s') ≠ H (authInput r ((q.drop 4).take 16) s) →
      isAuthenticResponse H r' q' s' = false) := by
  obtain ⟨hr, hq, _, _⟩ := (isAuthenticResponse_eq_true_iff H r q s).1 hok
  refine ⟨fun heq => ?_, reject_of_hash_ne H r r' q q' s s' hok hauth⟩
  obtain ⟨e1, e2, e3⟩ := authInput_inj _ _ _ _ _ _ hr' (by omega)
    (by rw [List.length_take, List.length_drop, List.length_take, List.length_drop]; omega) heq
  exact hne.elim (· e1) (·.elim (· e2) (· e3))

theorem isAuthenticResponse_short (H : Hash) (r q s : Bytes)
    (h : r.length < 20 ∨ q.length < 20 ∨ s = []) : isAuthenticResponse H r q s = false :=
  Bool.eq_false_iff.2 fun hok => by
    obtain ⟨h1, h2, h3, _⟩ := (isAuthenticResponse_eq_true_iff H r q s).1 hok
    rcases h with h | h | h
    · omega
    · omega
    · exact h3 h

theorem readFull_some (lims : List Nat) (need : Nat) (src got rest : Bytes)
    (h : readFull lims need src = some (got, rest)) :
    need ≤ src.length ∧ got = src.take need ∧ rest = src.drop need := by
  fun_induction readFull lims need src generalizing got rest with
  | case1 => cases h; exact ⟨Nat.zero_le _, rfl, rfl⟩  -- nothing left to read
  | case2 => cases h  -- no `Read` call left
  | case3 => cases h  -- the source holds less than this `Read` delivers
  | case4 l ls need src n hlen g r hrec ih =>  -- this `Read` delivers `n` octets, the remaining calls `g`
    cases h
    obtain ⟨h1, rfl, rfl⟩ := ih g r hrec
    have hn : n ≤ need + 1 := Nat.min_le_right _ _
    clear_value n
    rw [List.length_drop] at h1
    refine ⟨by omega, ?_, ?_⟩
    · rw [← List.take_add]; congr 1; omega
    · rw [List.drop_drop]; congr 1; omega
  | case5 => cases h  -- the remaining calls fail

theorem readFull_isSome (lims : List Nat) (need : Nat) (src : Bytes)
    (hl : need ≤ lims.length) (hs : need ≤ src.length) : (readFull lims need src).isSome := by
  fun_induction readFull lims need src with
  | case1 => rfl  -- nothing left to read
  | case2 => cases hl  -- no `Read` call left: excluded by `hl`
  | case3 l ls need src n hlen => omega  -- the source holds less than this `Read` delivers, yet `n ≤ need + 1`
  | case4 => rfl  -- the remaining calls succeed
  | case5 l ls need src n hlen hrec ih =>  -- the remaining calls fail: excluded by `ih`, this `Read` took `n ≥ 1`
    rw [hrec] at ih
    have hn : n ≤ need + 1 := Nat.min_le_right _ _
    have hn1 : 1 ≤ n := Nat.le_min.2 ⟨Nat.le_max_right _ _, Nat.succ_le_succ (Nat.zero_le _)⟩
    clear_value n
    rw [List.length_cons] at hl
    exact ih (by omega) (by rw [List.length_drop]; omega)

theorem readFull_eq (lims : List Nat) (need : Nat) (src : Bytes) (hl : need ≤ lims.length) :
    readFull lims need src =
      if src.length < need then none else some (src.take need, src.drop need) := by
  cases h : readFull lims need src with
  | none =>
    split
    · rfl
    · have := readFull_isSome lims need src hl (by omega)
      rw [h] at this; cases this
  | some v =>
    obtain ⟨h1, h2, h3⟩ := readFull_some lims need src v.1 v.2 h
    rw [if_neg (by omega), ← h2, ← h3]

end RV
