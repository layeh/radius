/- Guard chains `if c₁ then .err else if c₂ then .err else … .ok b`, as the codecs and the password functions are
   written.  A chain is folded from the inside out into a single `if g then .ok b else .err`: `err_else_ok` turns
   the last guard, `err_else_okIf` absorbs one more guard in front of a folded chain; `okIf_*` then read the three
   outcomes off the folded form.  `guard_*` are the same three readings for a chain of one guard, unfolded. -/
import RV.Model.Wire
namespace RV

variable {α : Type} {c g : Prop} [Decidable c] [Decidable g] {b x : α}

theorem err_else_ok : (if c then Res.err else .ok b) = if ¬c then .ok b else .err := by
  split <;> simp [*]

theorem err_else_okIf :
    (if c then Res.err else if g then .ok b else .err) = if ¬c ∧ g then .ok b else .err := by
  by_cases c <;> simp [*]

theorem okIf_ne_fault : (if g then Res.ok b else .err) ≠ .fault := by
  split <;> nofun

theorem okIf_eq_ok : (if g then Res.ok b else .err) = .ok x ↔ g ∧ x = b := by
  split <;> simp [*, eq_comm]

theorem okIf_isOk : (∃ x, (if g then Res.ok b else .err) = .ok x) ↔ g := by
  simp [okIf_eq_ok]

theorem guard_ok_iff : (∃ v, (if c then Res.err else .ok b) = .ok v) ↔ ¬c := by
  rw [err_else_ok]; exact okIf_isOk

theorem guard_eq_ok : (if c then Res.err else .ok b) = .ok x ↔ ¬c ∧ x = b := by
  rw [err_else_ok]; exact okIf_eq_ok

theorem guard_ne_fault : (if c then Res.err else .ok b) ≠ .fault := by
  rw [err_else_ok]; exact okIf_ne_fault


/-! `Res.bind` and the three outcomes -/

theorem Res.bind_eq_ok {α β} {r : Res α} {f : α → Res β} {y : β} :
    r.bind f = .ok y ↔ ∃ a, r = .ok a ∧ f a = .ok y := by
  cases r <;> simp [Res.bind]

theorem Res.err_iff {α} (r : Res α) (hf : r ≠ .fault) : r = .err ↔ ¬ ∃ a, r = .ok a := by
  cases r <;> simp_all

theorem Res.err_or_ok {α} {r : Res α} (hf : r ≠ .fault) : r = .err ∨ ∃ a, r = .ok a := by
  cases r with
  | ok a => exact Or.inr ⟨a, rfl⟩
  | err => exact Or.inl rfl
  | fault => exact absurd rfl hf

theorem Res.bind_eq_err {α β} {r : Res α} {f : α → Res β} (hr : r ≠ .fault) :
    r.bind f = .err ↔ r = .err ∨ ∃ a, r = .ok a ∧ f a = .err := by
  cases r <;> simp [Res.bind] at hr ⊢

theorem Res.bind_ne_fault {α β} {r : Res α} {f : α → Res β} (hr : r ≠ .fault) (hf : ∀ a, f a ≠ .fault) :
    r.bind f ≠ .fault := by
  cases r
  · exact hf _
  · exact fun h => nomatch h
  · exact absurd rfl hr

end RV
