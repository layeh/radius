/-
  C16, token level (L1): the three modules in which every token parser of the model is shown to accept
  exactly its token language of the grammar RV.Model.DictGrammar, with the value the grammar assigns.
-/
import RV.Proofs.DictTokBase
import RV.Proofs.DictTokNum
import RV.Proofs.DictTokType
