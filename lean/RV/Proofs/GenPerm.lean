/-
  C17 helper lemmas: permutation invariance of `generate`.

  The conditions under which the phases of `generate` succeed (GenRun: `AGood`, `VGood`, the VALUE checks,
  the format gates) do not depend on the order of the ATTRIBUTE and VENDOR declarations, and with
  `Cfg.repaired` the sorted attribute / vendor lists of two permuted dictionaries coincide
  (`sortStable_eq_of_perm`), so the outputs are equal.
-/
import RV.Proofs.GenOrder
import RV.Proofs.GenRun
namespace RV.Gen
open RV.Dict RV.Gen.Spec

private theorem perm_checkAttrValues_perm (cfg : Cfg) {as₁ as₂ : List Attribute} (vals : List Value) (hp : as₁.Perm as₂) :
    checkAttrValues cfg as₁ vals = .ok () ↔ checkAttrValues cfg as₂ vals = .ok () := by
  unfold checkAttrValues
  rw [forM_ok_iff, forM_ok_iff]
  exact ⟨fun h a ha => h a (hp.mem_iff.2 ha), fun h a ha => h a (hp.mem_iff.1 ha)⟩

private theorem perm_AGood_perm (cfg : Cfg) (vendor : Bool) {seen₁ seen₂ : List Bytes} {as₁ as₂ : List Attribute}
    (hs : ∀ x, x ∈ seen₁ ↔ x ∈ seen₂) (hp : as₁.Perm as₂) :
    AGood cfg vendor seen₁ as₁ ↔ AGood cfg vendor seen₂ as₂ := by
  have hm : (as₁.map ident).Perm (as₂.map ident) := hp.map _
  unfold AGood
  refine and_congr ?_ (and_congr hm.nodup_iff ?_)
  · exact ⟨fun h a ha => h a (hp.mem_iff.2 ha), fun h a ha => h a (hp.mem_iff.1 ha)⟩
  · exact ⟨fun h x hx => (not_congr (hs x)).1 (h x (hm.mem_iff.2 hx)), fun h x hx => (not_congr (hs x)).2 (h x (hm.mem_iff.1 hx))⟩

private theorem perm_vsrc (cfg : Cfg) (o : Options) {v w : Vendor} (h : VendorEquiv v w) :
    (vsrc cfg o v).Perm (vsrc cfg o w) := by
  unfold vsrc
  split
  · exact h.2.2.2.2.2.filter _
  · exact h.2.2.2.2.2

private theorem perm_vLocal_equiv (cfg : Cfg) (o : Options) {v w : Vendor} (h : VendorEquiv v w) :
    vLocal cfg o v ↔ vLocal cfg o w := by
  obtain ⟨h1, h2, h3, h4, h5, h6⟩ := h
  have hk : (kept o v.attributes).Perm (kept o w.attributes) := h6.filter _
  have hs : (sortAttrs cfg (vsrc cfg o v)).Perm (sortAttrs cfg (vsrc cfg o w)) :=
    ((sortStable_perm _ _).trans (perm_vsrc cfg o ⟨h1, h2, h3, h4, h5, h6⟩)).trans (sortStable_perm _ _).symm
  unfold vLocal
  rw [h2, h3, h4, h5, perm_checkAttrValues_perm cfg _ hs]
  refine and_congr Iff.rfl (and_congr Iff.rfl (and_congr ?_ Iff.rfl))
  exact ⟨fun h a ha => h a (hk.mem_iff.2 ha), fun h a ha => h a (hk.mem_iff.1 ha)⟩

/-- everything `generate` looks at in the vendor list, up to order -/
private structure VSame (cfg : Cfg) (o : Options) (vs ws : List Vendor) : Prop where
  loc : (∀ v ∈ vs, vLocal cfg o v) ↔ (∀ w ∈ ws, vLocal cfg o w)
  ids : (vs.flatMap (vids o)).Perm (ws.flatMap (vids o))
  vid : (vs.map vid).Perm (ws.map vid)
  imps : (vs.flatMap (vimps o)).Perm (ws.flatMap (vimps o))
  /-- the panic and format gates of the emission phase are `any` tests over the emitted vendor attributes -/
  any : ∀ P : Attribute → Bool, vs.any (fun v => (vsrc cfg o v).any P) = ws.any (fun v => (vsrc cfg o v).any P)

private theorem perm_VSame_trans {cfg : Cfg} {o : Options} {a b c : List Vendor} (h1 : VSame cfg o a b) (h2 : VSame cfg o b c) :
    VSame cfg o a c :=
  ⟨h1.loc.trans h2.loc, h1.ids.trans h2.ids, h1.vid.trans h2.vid, h1.imps.trans h2.imps, fun P => (h1.any P).trans (h2.any P)⟩

private theorem perm_VSame_of_perm (cfg : Cfg) (o : Options) {vs ws : List Vendor} (h : vs.Perm ws) : VSame cfg o vs ws :=
  ⟨⟨fun g w hw => g w (h.mem_iff.2 hw), fun g w hw => g w (h.mem_iff.1 hw)⟩,
   h.flatMap_right _, h.map _, h.flatMap_right _, fun _ => h.any_eq⟩

private theorem perm_VSame_of_equiv (cfg : Cfg) (o : Options) {vs ws : List Vendor} (h : VendorsEquiv vs ws) : VSame cfg o vs ws := by
  induction h with
  | nil => exact ⟨Iff.rfl, .refl _, .refl _, .refl _, fun _ => rfl⟩
  | @cons v w vs ws hvw _ ih =>
    have hk : (kept o v.attributes).Perm (kept o w.attributes) := hvw.2.2.2.2.2.filter _
    refine ⟨?_, ?_, ?_, ?_, ?_⟩
    · simp only [List.forall_mem_cons]
      exact and_congr (perm_vLocal_equiv cfg o hvw) ih.loc
    · simp only [List.flatMap_cons]
      exact List.Perm.append (hk.map _) ih.ids
    · simp only [List.map_cons]
      have : vid v = vid w := by unfold vid; rw [hvw.1]
      rw [this]
      exact ih.vid.cons _
    · simp only [List.flatMap_cons]
      exact List.Perm.append (hk.flatMap_right _) ih.imps
    · intro P
      simp only [List.any_cons]
      rw [ih.any P, (perm_vsrc cfg o hvw).any_eq]

private theorem perm_VSame_of_rel (cfg : Cfg) (o : Options) {vs ws : List Vendor}
    (h : ∃ vs', VendorsEquiv vs vs' ∧ vs'.Perm ws) : VSame cfg o vs ws := by
  obtain ⟨vs', he, hp⟩ := h
  exact perm_VSame_trans (perm_VSame_of_equiv cfg o he) (perm_VSame_of_perm cfg o hp)

private theorem perm_VGood_same {cfg : Cfg} {o : Options} {vs ws : List Vendor} (h : VSame cfg o vs ws)
    {seen₁ seen₂ : List Bytes} (hs : ∀ x, x ∈ seen₁ ↔ x ∈ seen₂) (vseen : List Bytes) :
    VGood cfg o seen₁ vseen vs ↔ VGood cfg o seen₂ vseen ws := by
  unfold VGood
  refine and_congr h.loc (and_congr h.ids.nodup_iff (and_congr ?_ (imp_congr Iff.rfl (and_congr h.vid.nodup_iff ?_))))
  · exact ⟨fun g x hx => (not_congr (hs x)).1 (g x (h.ids.mem_iff.2 hx)), fun g x hx => (not_congr (hs x)).2 (g x (h.ids.mem_iff.1 hx))⟩
  · exact ⟨fun g x hx => g x (h.vid.mem_iff.2 hx), fun g x hx => g x (h.vid.mem_iff.1 hx)⟩

private theorem perm_evs_any (cfg : Cfg) (o : Options) (vs : List Vendor) (P : Attribute → Bool) :
    (sortVendors cfg (vs.map (mkEV cfg o))).any (fun v => v.attrs.any P) = vs.any (fun v => (vsrc cfg o v).any P) := by
  unfold sortVendors
  rw [(sortStable_perm _ _).any_eq, List.any_map]
  congr 1
  funext v
  exact (sortStable_perm (attrLess cfg) (vsrc cfg o v)).any_eq

private theorem perm_gmid_ok_iff (cfg : Cfg) (o : Options) (values : List Value)
    (rt : List (Bytes × Bytes) → Value → Route) {as₁ as₂ : List Attribute} (hp : as₁.Perm as₂) :
    gmid cfg o values rt as₁ = .ok () ↔ gmid cfg o values rt as₂ = .ok () := by
  unfold gmid
  dsimp only
  generalize (List.any (List.filter (fun v => !o.ignore.contains v.attrName) values) _) = b
  cases b with
  | true => simp [bind, Except.bind, throw, throwThe, MonadExceptOf.throw]
  | false =>
    dsimp only [bind, Except.bind]
    have := perm_checkAttrValues_perm cfg (sortValues (List.filter (fun v => rt (sortStable (fun a b => bytesLt a.fst b.fst) o.refs) v == Route.loc)
      (List.filter (fun v => !o.ignore.contains v.attrName) values))) hp
    revert this
    generalize checkAttrValues cfg as₁ _ = r1
    generalize checkAttrValues cfg as₂ _ = r2
    intro h
    cases r1 with
    | error e =>
      cases r2 with
      | error e' => simp
      | ok u => cases u; simp at h
    | ok u =>
      cases u
      cases r2 with
      | error e' => simp at h
      | ok u => rfl

private theorem perm_accept_iff (cfg : Cfg) (d : Dictionary) (o : Options) :
    accept cfg d o = true ↔ ∃ out, generate cfg d o = .ok out := by
  unfold accept
  cases generate cfg d o <;> simp

private theorem perm_route_perm {as₁ as₂ : List Attribute} (hp : as₁.Perm as₂) : route as₁ = route as₂ := by
  funext exts v
  unfold route
  rw [hp.any_eq]

theorem accept_perm' (cfg : Cfg) (d₁ d₂ : Dictionary) (o : Options) (h : PermRel d₁ d₂) :
    accept cfg d₁ o = accept cfg d₂ o := by
  obtain ⟨ha, hv, hvs⟩ := h
  have hk : (kept o d₁.attributes).Perm (kept o d₂.attributes) := ha.filter _
  have hsa : (sortAttrs cfg (kept o d₁.attributes)).Perm (sortAttrs cfg (kept o d₂.attributes)) :=
    ((sortStable_perm _ _).trans hk).trans (sortStable_perm _ _).symm
  have hsame := perm_VSame_of_rel cfg o hvs
  rw [Bool.eq_iff_iff, perm_accept_iff, perm_accept_iff]
  simp only [generate_ok_iff, exists_and_left]
  refine and_congr (perm_AGood_perm cfg false (fun _ => Iff.rfl) hk) (and_congr ?_ (and_congr ?_ ?_))
  · rw [hv, perm_route_perm hsa]
    exact perm_gmid_ok_iff cfg o _ _ hsa
  · refine perm_VGood_same hsame (fun x => ?_) []
    simp only [List.append_nil, List.mem_reverse]
    exact (hk.map ident).mem_iff
  · rw [gtail_ok_iff, gtail_ok_iff, perm_evs_any, perm_evs_any, perm_evs_any, perm_evs_any,
      hsame.any, hsame.any, hsa.any_eq, hv, perm_route_perm hsa]

private theorem perm_sortAttrs_rep {l₁ l₂ : List Attribute} (hp : l₁.Perm l₂) (hn : (l₁.map ident).Nodup) :
    sortAttrs Cfg.repaired l₁ = sortAttrs Cfg.repaired l₂ := by
  unfold sortAttrs
  refine sortStable_eq_of_perm _ (attrLess_fixed_asym rfl) (attrLess_fixed_negtrans rfl) hp ?_
  intro a ha b hb h1 h2
  refine nodup_map_inj hn ha hb ?_
  show identifier a.name = identifier b.name
  rw [attrLess_fixed_name rfl a b h1 h2]

private theorem perm_vev_rep (o : Options) {v w : Vendor} (h : VendorEquiv v w) (hn : (vids o v).Nodup) :
    mkEV Cfg.repaired o v = mkEV Cfg.repaired o w := by
  have hs : sortAttrs Cfg.repaired (vsrc Cfg.repaired o v) = sortAttrs Cfg.repaired (vsrc Cfg.repaired o w) :=
    perm_sortAttrs_rep (perm_vsrc _ o h) hn
  unfold mkEV
  rw [hs, h.1, h.2.1, h.2.2.2.2.1]

private theorem perm_map_vev_rep (o : Options) {vs ws : List Vendor} (h : VendorsEquiv vs ws)
    (hn : (vs.flatMap (vids o)).Nodup) : vs.map (mkEV Cfg.repaired o) = ws.map (mkEV Cfg.repaired o) := by
  induction h with
  | nil => rfl
  | @cons v w vs ws hvw _ ih =>
    rw [List.flatMap_cons, List.nodup_append] at hn
    rw [List.map_cons, List.map_cons, perm_vev_rep o hvw hn.1, ih hn.2.1]

private theorem perm_sortVendors_rep (o : Options) {vs ws : List Vendor} (hp : vs.Perm ws) (hn : (vs.map vid).Nodup) :
    sortVendors Cfg.repaired (vs.map (mkEV Cfg.repaired o)) = sortVendors Cfg.repaired (ws.map (mkEV Cfg.repaired o)) := by
  unfold sortVendors
  refine sortStable_eq_of_perm _ (evendorLess_fixed_asym rfl) (evendorLess_fixed_negtrans rfl) (hp.map _) ?_
  intro a ha b hb h1 h2
  obtain ⟨v, hv, rfl⟩ := List.mem_map.1 ha
  obtain ⟨w, hw, rfl⟩ := List.mem_map.1 hb
  have hname : v.name = w.name := evendorLess_fixed_name rfl _ _ h1 h2
  have : v = w := nodup_map_inj hn hv hw (by show identifier v.name = identifier w.name; rw [hname])
  rw [this]

theorem perm_invariant_repaired' :
    ∀ (d₁ d₂ : Dictionary) (o : Options), PermRel d₁ d₂ →
    (generate Cfg.repaired d₁ o).toOption = (generate Cfg.repaired d₂ o).toOption := by
  intro d₁ d₂ o h
  have hacc := accept_perm' Cfg.repaired d₁ d₂ o h
  cases h₁ : generate Cfg.repaired d₁ o with
  | error e =>
    cases h₂ : generate Cfg.repaired d₂ o with
    | error e' => rfl
    | ok out => simp [accept, h₁, h₂] at hacc
  | ok out =>
    cases h₂ : generate Cfg.repaired d₂ o with
    | error e => simp [accept, h₁, h₂] at hacc
    | ok out' =>
    obtain ⟨g1, _, g3, g4⟩ := (generate_ok_iff _ _ _ _).1 h₁
    obtain ⟨_, _, _, g4'⟩ := (generate_ok_iff _ _ _ _).1 h₂
    obtain ⟨ha, hv, vs', he, hp⟩ := h
    have hk : (kept o d₁.attributes).Perm (kept o d₂.attributes) := ha.filter _
    have hsame := perm_VSame_of_rel Cfg.repaired o ⟨vs', he, hp⟩
    have eA : sortAttrs Cfg.repaired (kept o d₁.attributes) = sortAttrs Cfg.repaired (kept o d₂.attributes) :=
      perm_sortAttrs_rep hk g1.2.1
    have eV : sortVendors Cfg.repaired (d₁.vendors.map (mkEV Cfg.repaired o)) =
        sortVendors Cfg.repaired (d₂.vendors.map (mkEV Cfg.repaired o)) := by
      rw [perm_map_vev_rep o he g3.2.1]
      refine perm_sortVendors_rep o hp ?_
      have := (g3.2.2.2 rfl).1
      exact ((perm_VSame_of_equiv Cfg.repaired o he).vid.nodup_iff).1 this
    have eI : gstd ((kept o d₁.attributes).flatMap declaredImports) (d₁.vendors.flatMap (vimps o))
          (sortVendors Cfg.repaired (d₁.vendors.map (mkEV Cfg.repaired o))) =
        gstd ((kept o d₂.attributes).flatMap declaredImports) (d₂.vendors.flatMap (vimps o))
          (sortVendors Cfg.repaired (d₂.vendors.map (mkEV Cfg.repaired o))) := by
      rw [eV]
      unfold gstd
      apply List.filter_congr
      intro x _
      exact (List.Perm.append_right _ (List.Perm.append (hk.flatMap_right _) hsame.imps)).contains_eq
    rw [← eI, ← eA, ← eV, ← hv, g4] at g4'
    rw [Except.ok.inj g4']

end RV.Gen
