/- The Go index walks (`delLoop`, `setLoop`) are followed with the list split as `pre ++ post` and the
   index at `pre.length`, which makes them structural recursions on `post`; once `found` is set the Set
   loop is the Del loop (`setLoop_true`), so `setLoop_append` rests on `delLoop_append`.  Encoder and
   parser each get one equation (`marshal_eq`, `parse_ok_iff`) in terms of `encodeBytes` and `okLens`;
   the round trips rest on `parseAttrs_sound` and `parseAttrs_encodeBytes`. -/
import RV.Model.Wire
import RV.Proofs.Res
namespace RV

theorem specSet_nil (k : Int) (v : Bytes) : Spec.set [] k v = [⟨k, v⟩] := rfl

theorem specSet_cons (a : AVP) (as : Attrs) (k : Int) (v : Bytes) :
    Spec.set (a :: as) k v =
      if a.typ = k then ⟨k, v⟩ :: as.filter (fun a => a.typ ≠ k) else a :: Spec.set as k v := by
  unfold Spec.set
  by_cases hk : a.typ = k
  · simp [hk, Spec.setAux]
  · cases h : as.any (fun a => a.typ = k) <;> simp [hk, h, Spec.setAux]

theorem delLoop_cons (k : Int) (pre post : Attrs) (a : AVP) :
    delLoop k (pre ++ a :: post) pre.length =
      if a.typ = k then delLoop k (pre ++ post) pre.length
      else delLoop k ((pre ++ [a]) ++ post) (pre ++ [a]).length := by
  rw [delLoop, dif_pos (by simp)]
  simp [List.eraseIdx_append_of_length_le]

theorem delLoop_append (k : Int) (post pre : Attrs) :
    delLoop k (pre ++ post) pre.length = pre ++ post.filter (fun a => a.typ ≠ k) := by
  induction post generalizing pre with
  | nil => rw [delLoop, dif_neg (by simp)]; rfl
  | cons a post ih =>
    rw [delLoop_cons, ih, ih]
    by_cases hk : a.typ = k <;> simp [hk]

theorem del_eq_filter (as : Attrs) (k : Int) : as.del k = as.filter (fun a => a.typ ≠ k) :=
  delLoop_append k as []

/- After the first hit the Set loop only removes further attributes of the type and never touches
   `found` again: it is the Del loop, step for step (hence the induction along `delLoop`). -/
theorem setLoop_true (k : Int) (v : Bytes) (as : Attrs) (i : Nat) :
    setLoop k v as i true = (delLoop k as i, true) := by
  fun_induction delLoop k as i <;> rw [setLoop] <;> simp [*]

theorem setLoop_cons (k : Int) (v : Bytes) (pre post : Attrs) (a : AVP) :
    setLoop k v (pre ++ a :: post) pre.length false =
      if a.typ = k then setLoop k v ((pre ++ [⟨k, v⟩]) ++ post) (pre ++ [(⟨k, v⟩ : AVP)]).length true
      else setLoop k v ((pre ++ [a]) ++ post) (pre ++ [a]).length false := by
  rw [setLoop, dif_pos (by simp)]
  simp

theorem setLoop_append (k : Int) (v : Bytes) (post pre : Attrs) :
    setLoop k v (pre ++ post) pre.length false =
      if post.any (fun a => a.typ = k) then (pre ++ Spec.set post k v, true) else (pre ++ post, false) := by
  induction post generalizing pre with
  | nil => rw [setLoop, dif_neg (by simp)]; rfl
  | cons a post ih =>
    rw [setLoop_cons, setLoop_true, delLoop_append, ih, specSet_cons]
    by_cases hk : a.typ = k <;> simp [hk]

theorem set_eq_spec (as : Attrs) (k : Int) (v : Bytes) : as.set k v = Spec.set as k v := by
  unfold Attrs.set
  rw [show setLoop k v as 0 false = _ from setLoop_append k v as []]
  unfold Spec.set
  cases as.any (fun a => a.typ = k) <;> rfl

theorem filter_ne_idem (as : Attrs) (k : Int) :
    (as.filter (fun a => a.typ ≠ k)).filter (fun a => a.typ ≠ k) = as.filter (fun a => a.typ ≠ k) := by
  rw [List.filter_filter]; simp only [Bool.and_self]

theorem specSet_filter_eq (as : Attrs) (k : Int) (v : Bytes) :
    (Spec.set as k v).filter (fun a => a.typ = k) = [⟨k, v⟩] := by
  induction as with
  | nil => simp [specSet_nil]
  | cons a as ih =>
    rw [specSet_cons]
    by_cases hk : a.typ = k <;> simp [hk, ih]

theorem specSet_filter_ne (as : Attrs) (k : Int) (v : Bytes) :
    (Spec.set as k v).filter (fun a => a.typ ≠ k) = as.filter (fun a => a.typ ≠ k) := by
  induction as with
  | nil => simp [specSet_nil]
  | cons a as ih =>
    rw [specSet_cons]
    by_cases hk : a.typ = k <;> simp_all

theorem lookup_of_filter (as : Attrs) (k : Int) :
    as.lookup k = ((as.filter (fun a => a.typ = k)).head?).map (·.val) := by
  induction as with
  | nil => rfl
  | cons a as ih =>
    by_cases h : a.typ = k <;> simp [Attrs.lookup, h, ih]

theorem filter_key_of_ne (l : Attrs) {j k : Int} (hjk : j ≠ k) :
    (l.filter (fun a => a.typ ≠ k)).filter (fun a => a.typ = j) = l.filter (fun a => a.typ = j) := by
  rw [List.filter_filter]; congr 1; funext a
  by_cases ha : a.typ = j <;> simp [ha, hjk]

theorem attrsFilter_eq_of_filter_ne (as bs : Attrs) (j k : Int) (hjk : j ≠ k)
    (h : bs.filter (fun a => a.typ ≠ k) = as.filter (fun a => a.typ ≠ k)) :
    bs.filter (fun a => a.typ = j) = as.filter (fun a => a.typ = j) := by
  rw [← filter_key_of_ne bs hjk, h, filter_key_of_ne as hjk]

theorem u8_lt (x : UInt8) : x.toNat < 256 := x.toNat_lt

theorem u8_ofNat_toNat_lt {n : Nat} (h : n < 256) : (UInt8.ofNat n).toNat = n :=
  UInt8.toNat_ofNat_of_lt' h

theorem be16_div (hi lo : UInt8) : UInt8.ofNat (be16 hi lo / 256) = hi := by
  rw [be16, Nat.add_comm, Nat.add_mul_div_right _ _ (by decide), Nat.div_eq_of_lt (u8_lt lo),
    Nat.zero_add, UInt8.ofNat_toNat]

theorem be16_mod (hi lo : UInt8) : UInt8.ofNat (be16 hi lo % 256) = lo := by
  rw [be16, Nat.add_comm, Nat.add_mul_mod_self_right, Nat.mod_eq_of_lt (u8_lt lo), UInt8.ofNat_toNat]

theorem be16_ofNat {n : Nat} (h : n < 65536) :
    be16 (UInt8.ofNat (n / 256)) (UInt8.ofNat (n % 256)) = n := by
  rw [be16, u8_ofNat_toNat_lt (Nat.div_lt_of_lt_mul h), u8_ofNat_toNat_lt (Nat.mod_lt _ (by decide)),
    Nat.div_add_mod']

theorem codeByte_toNat (x : UInt8) : codeByte (x.toNat : Int) = x := by
  have h : (x.toNat : Int) < 256 := Int.ofNat_lt.2 (u8_lt x)
  rw [codeByte, Int.emod_eq_of_lt (Int.natCast_nonneg _) h, Int.toNat_natCast, UInt8.ofNat_toNat]

theorem codeByte_cast {c : Int} (h0 : 0 ≤ c) (h1 : c ≤ 255) : ((codeByte c).toNat : Int) = c := by
  rw [codeByte, Int.emod_eq_of_lt h0 (Int.lt_of_le_of_lt h1 (by decide)),
    u8_ofNat_toNat_lt (by omega), Int.toNat_of_nonneg h0]

theorem getD_append_left (b pad : Bytes) (i : Nat) (h : i < b.length) :
    (b ++ pad).getD i 0 = b.getD i 0 := by
  simp [List.getD_eq_getElem?_getD, List.getElem?_append_left h]

theorem getD_take (b : Bytes) (i n : Nat) (h : i < n) : (b.take n).getD i 0 = b.getD i 0 := by
  simp [List.getD_eq_getElem?_getD, h]

theorem take4_eq (b : Bytes) (h : 4 ≤ b.length) :
    b.take 4 = [b.getD 0 0, b.getD 1 0, b.getD 2 0, b.getD 3 0] := by
  match b, h with
  | a :: b :: c :: d :: rest, _ => rfl

theorem auth_append (b pad : Bytes) (h : 20 ≤ b.length) :
    ((b ++ pad).drop 4).take 16 = (b.drop 4).take 16 := by
  rw [List.drop_append_of_le_length (by omega), List.take_append_of_le_length (by simp; omega)]

theorem auth_take (b : Bytes) (n : Nat) (h : 20 ≤ n) :
    ((b.take n).drop 4).take 16 = (b.drop 4).take 16 := by
  rw [List.drop_take, List.take_take, Nat.min_eq_left (by omega)]

theorem lengthField_append (b pad : Bytes) (h : 4 ≤ b.length) :
    lengthField (b ++ pad) = lengthField b := by
  unfold lengthField
  rw [getD_append_left b pad 2 (by omega), getD_append_left b pad 3 (by omega)]

theorem lengthField_header (c : Int) (i : UInt8) (n : Nat) (auth rest : Bytes) (h : n < 65536) :
    lengthField (header c i n auth ++ rest) = n :=
  be16_ofNat h

theorem header_length (c : Int) (i : UInt8) (n : Nat) (auth : Bytes) :
    (header c i n auth).length = 4 + auth.length := by
  simp [header]; omega

theorem hdr_length (c : Int) (i : UInt8) (n : Nat) (a t : Bytes) (ha : a.length = 16) :
    (header c i n a ++ t).length = 20 + t.length := by
  rw [List.length_append, header_length, ha]

theorem take20_eq_header (b : Bytes) (h : 20 ≤ b.length) :
    b.take 20 = header ((b.getD 0 0).toNat : Int) (b.getD 1 0) (lengthField b) ((b.drop 4).take 16) := by
  have : b.take 20 = b.take 4 ++ (b.drop 4).take 16 := List.take_add (i := 4) (j := 16)
  rw [this, take4_eq b (by omega)]
  simp only [header, lengthField, codeByte_toNat, be16_div, be16_mod]

/-- `encodedLen` succeeds exactly on these lists: 2 + 253 is the largest length octet.  Not part of the
    model: it is the condition under which `encodedLen_eq`, `marshal_eq` and the round trips are stated,
    a `Bool` so that those equations can branch on it with `if`. -/
def okLens (as : Attrs) : Bool :=
  as.all (fun a => !validType a || decide (a.val.length ≤ 253))

theorem okLens_iff (as : Attrs) :
    okLens as = true ↔ ∀ a ∈ as, validType a = true → a.val.length ≤ 253 := by
  unfold okLens
  simp only [List.all_eq_true, Bool.or_eq_true, Bool.not_eq_true', decide_eq_true_eq]
  exact forall₂_congr fun a _ => by cases validType a <;> simp

@[simp] theorem okLens_nil : okLens [] = true := rfl

theorem okLens_cons (a : AVP) (as : Attrs) :
    okLens (a :: as) = ((!validType a || decide (a.val.length ≤ 253)) && okLens as) := by
  simp [okLens]

theorem okLens_cons_iff (a : AVP) (as : Attrs) :
    okLens (a :: as) = true ↔ (validType a = true → a.val.length ≤ 253) ∧ okLens as = true := by
  rw [okLens_cons]; cases validType a <;> simp

theorem avpBytes_length (a : AVP) : (avpBytes a).length = 2 + a.val.length := by
  simp [avpBytes]; omega

theorem encodeBytes_eq_flatten (as : Attrs) :
    encodeBytes as = ((as.filter validType).map avpBytes).flatten := by
  induction as with
  | nil => rfl
  | cons a as ih =>
    cases h : validType a <;> simp [encodeBytes, h, ih]

theorem encodeBytes_length (as : Attrs) :
    (encodeBytes as).length = ((as.filter validType).map (fun a => 2 + a.val.length)).sum := by
  rw [encodeBytes_eq_flatten, List.length_flatten, List.map_map]
  congr 2; funext a; exact avpBytes_length a

theorem okLens_size_iff (as : Attrs) :
    (okLens as = true ∧ 20 + (encodeBytes as).length ≤ 4096) ↔
      (∀ a ∈ as, validType a = true → a.val.length ≤ 253) ∧
        20 + ((as.filter validType).map (fun a => 2 + a.val.length)).sum ≤ 4096 := by
  rw [okLens_iff, encodeBytes_length]

theorem encodedLenFrom_eq (as : Attrs) (m : Nat) :
    encodedLenFrom m as =
      if okLens as then .ok (m + (encodeBytes as).length) else .err := by
  induction as generalizing m with
  | nil => rfl
  | cons a as ih =>
    rw [encodedLenFrom, ih, ih, okLens_cons, encodeBytes]
    cases hv : validType a with
    | false => simp
    | true =>
      by_cases hl : a.val.length ≤ 253
      · simp [hl, Nat.not_lt.2 hl, avpBytes_length, Nat.add_assoc]
      · simp [hl, Nat.lt_of_not_le hl]

theorem encodedLen_eq (as : Attrs) :
    encodedLen as = if okLens as then .ok (encodeBytes as).length else .err := by
  simp [encodedLen, encodedLenFrom_eq]

theorem encodeTo_exact (as : Attrs) (buf : Bytes) (hok : okLens as = true)
    (hlen : buf.length = (encodeBytes as).length) : encodeTo as buf = .ok (encodeBytes as) := by
  induction as generalizing buf with
  | nil => rw [List.length_eq_zero_iff.1 hlen]; rfl
  | cons a as ih =>
    obtain ⟨h1, h2⟩ := (okLens_cons_iff a as).1 hok
    rw [encodeBytes] at hlen ⊢
    rw [encodeTo]
    cases hv : validType a with
    | false =>
      rw [hv] at hlen
      simpa using ih buf h2 hlen
    | true =>
      have hl := h1 hv
      simp only [hv, if_true, List.length_append, avpBytes_length] at hlen ⊢
      have hd : (buf.drop (2 + a.val.length)).length = (encodeBytes as).length := by
        simp; omega
      have hlt : ¬ buf.length < 2 + a.val.length := by omega
      simp [Nat.not_lt.2 hl, hlt, ih _ h2 hd]

theorem encodeTo_of_encodedLen (as : Attrs) (n : Nat) (h : encodedLen as = .ok n) :
    encodeTo as (zeros n) = .ok (encodeBytes as) ∧ (encodeBytes as).length = n := by
  rw [encodedLen_eq] at h
  split at h
  · cases h; exact ⟨encodeTo_exact as _ ‹_› (by simp [zeros]), rfl⟩
  · cases h

theorem parseAttrs_ne_fault (b : Bytes) : parseAttrs b ≠ .fault := by
  fun_induction parseAttrs b
  -- case6: the recursive call on the rest returned `.fault` and is passed on; the induction hypothesis
  -- excludes it.  Every other branch returns `.ok _` or `.err`, which `nofun` tells apart from `.fault`.
  case case6 => contradiction
  all_goals nofun

theorem parseAttrs_cons_ok (t l : UInt8) (v rest : Bytes) (as : Attrs)
    (h2 : 2 ≤ l.toNat) (hv : v.length = l.toNat - 2) (hr : parseAttrs rest = .ok as) :
    parseAttrs (t :: l :: (v ++ rest)) = .ok (⟨t.toNat, v⟩ :: as) := by
  unfold parseAttrs
  have hg : ¬ (l.toNat < minAttrLength ∨ l.toNat - 2 > (v ++ rest).length) := by
    simp only [minAttrLength, List.length_append]; omega
  rw [if_neg hg, ← hv, List.drop_left, List.take_left, hr]

theorem validType_nat (t : UInt8) (v : Bytes) : validType ⟨(t.toNat : Int), v⟩ = true := by
  have := u8_lt t
  simp [validType]; omega

theorem parseAttrs_sound (b : Bytes) (as : Attrs) (h : parseAttrs b = .ok as) :
    WellFormedTLV b ∧ encodeBytes as = b ∧ okLens as = true := by
  fun_induction parseAttrs b generalizing as with
  | case1 => cases h; exact ⟨.nil, rfl, rfl⟩
  | case2 => cases h
  | case3 => cases h
  | case4 t l rest hg as' has ih =>
    cases h
    have hl := u8_lt l
    have hg' : 2 ≤ l.toNat ∧ l.toNat - 2 ≤ rest.length := by
      simp only [minAttrLength] at hg; omega
    obtain ⟨ihw, ihe, iho⟩ := ih as' has
    have hlen : (rest.take (l.toNat - 2)).length = l.toNat - 2 := by simp; omega
    have h2 : 2 + (l.toNat - 2) = l.toNat := by omega
    refine ⟨?_, ?_, ?_⟩
    · have := WellFormedTLV.cons t l _ _ hg'.1 hlen ihw
      rwa [List.take_append_drop] at this
    · simp only [encodeBytes, validType_nat, if_true, avpBytes, hlen, h2, ihe,
        Int.toNat_natCast, UInt8.ofNat_toNat, List.cons_append, List.take_append_drop]
    · exact (okLens_cons_iff _ _).2 ⟨fun _ => by rw [hlen]; omega, iho⟩
  | case5 => cases h
  | case6 => cases h

theorem encode_parseAttrs (b : Bytes) (as : Attrs) (h : parseAttrs b = .ok as) :
    encodeBytes as = b ∧ okLens as = true :=
  (parseAttrs_sound b as h).2

theorem parseAttrs_ok_iff_wf (b : Bytes) : (∃ as, parseAttrs b = .ok as) ↔ WellFormedTLV b := by
  refine ⟨fun ⟨as, h⟩ => (parseAttrs_sound b as h).1, fun h => ?_⟩
  induction h with
  | nil => exact ⟨[], by rw [parseAttrs]⟩
  | cons t l v rest h2 hv _ ih =>
    obtain ⟨as, has⟩ := ih
    exact ⟨_, parseAttrs_cons_ok t l v rest as h2 hv has⟩

theorem wellFormedTLV_eq_isOk (b : Bytes) : wellFormedTLV b = (parseAttrs b).isOk := by
  fun_induction parseAttrs b <;> rw [wellFormedTLV] <;> simp [*, Res.isOk]

theorem parseAttrs_encodeBytes (as : Attrs) (hok : okLens as = true) :
    parseAttrs (encodeBytes as) = .ok (as.filter validType) := by
  induction as with
  | nil => simp [encodeBytes, parseAttrs]
  | cons a as ih =>
    obtain ⟨h1, h2⟩ := (okLens_cons_iff a as).1 hok
    cases hv : validType a with
    | false => simp [encodeBytes, hv, ih h2]
    | true =>
      have h1 := h1 hv
      have hvt := hv
      simp [validType] at hvt
      have ht : (UInt8.ofNat a.typ.toNat).toNat = a.typ.toNat := u8_ofNat_toNat_lt (by omega)
      have hl : (UInt8.ofNat (2 + a.val.length)).toNat = 2 + a.val.length :=
        u8_ofNat_toNat_lt (by omega)
      have := parseAttrs_cons_ok (UInt8.ofNat a.typ.toNat) (UInt8.ofNat (2 + a.val.length))
        a.val (encodeBytes as) _ (by omega) (by omega) (ih h2)
      simp only [encodeBytes, hv, if_true, avpBytes, List.cons_append, this, List.filter_cons]
      have ha : (⟨((UInt8.ofNat a.typ.toNat).toNat : Int), a.val⟩ : AVP) = a := by
        rw [ht]; cases a; simp at hvt ⊢; omega
      rw [ha]

theorem marshal_eq (p : Packet) :
    marshal p =
      if okLens p.attrs = true ∧ 20 + (encodeBytes p.attrs).length ≤ 4096 then
        .ok (header p.code p.id (20 + (encodeBytes p.attrs).length) p.auth ++ encodeBytes p.attrs)
      else .err := by
  unfold marshal
  rw [encodedLen_eq]
  cases hok : okLens p.attrs with
  | false => simp
  | true =>
    simp only [if_true, true_and]
    rw [encodeTo_exact _ _ hok (by simp [zeros])]
    by_cases hs : 20 + (encodeBytes p.attrs).length ≤ 4096
    · rw [if_neg (Nat.not_lt.2 hs), if_pos hs]
    · rw [if_pos (Nat.lt_of_not_le hs), if_neg hs]

theorem marshal_ne_fault (p : Packet) : marshal p ≠ .fault := by
  rw [marshal_eq]
  exact okIf_ne_fault

theorem marshal_eq_ok_iff (p : Packet) (w : Bytes) :
    marshal p = .ok w ↔
      (okLens p.attrs = true ∧ 20 + (encodeBytes p.attrs).length ≤ 4096) ∧
        w = header p.code p.id (20 + (encodeBytes p.attrs).length) p.auth ++ encodeBytes p.attrs := by
  rw [marshal_eq]
  exact okIf_eq_ok

theorem marshal_ok_size (p : Packet) (w : Bytes) (hm : marshal p = .ok w) (ha : p.auth.length = 16) :
    w.length = 20 + (encodeBytes p.attrs).length ∧ lengthField w = w.length ∧ w.length ≤ 4096 := by
  obtain ⟨⟨_, hsz⟩, rfl⟩ := (marshal_eq_ok_iff p w).1 hm
  have hwl := hdr_length p.code p.id (20 + (encodeBytes p.attrs).length) p.auth (encodeBytes p.attrs) ha
  exact ⟨hwl, by rw [hwl]; exact lengthField_header _ _ _ _ _ (by omega), by omega⟩

theorem parse_ok_iff (b s : Bytes) (p : Packet) :
    parse b s = .ok p ↔
      20 ≤ b.length ∧ 20 ≤ lengthField b ∧ lengthField b ≤ 4096 ∧ lengthField b ≤ b.length ∧
      ∃ as, parseAttrs ((b.take (lengthField b)).drop 20) = .ok as ∧
        p = ⟨(b.getD 0 0).toNat, b.getD 1 0, (b.drop 4).take 16, s, as⟩ := by
  unfold parse
  simp only [minPacketLength, maxPacketLength]
  split
  · exact ⟨nofun, fun h => by omega⟩
  · split
    · exact ⟨nofun, fun h => by omega⟩
    · cases parseAttrs ((b.take (lengthField b)).drop 20) with
      | ok as =>
        rw [Res.ok.injEq]
        exact ⟨fun h => ⟨by omega, by omega, by omega, by omega, as, rfl, h.symm⟩,
          fun ⟨_, _, _, _, _, h, e⟩ => by cases h; exact e.symm⟩
      | err => exact ⟨nofun, fun ⟨_, _, _, _, _, h, _⟩ => nomatch h⟩
      | fault => exact ⟨nofun, fun ⟨_, _, _, _, _, h, _⟩ => nomatch h⟩

theorem parse_ne_fault (b s : Bytes) : parse b s ≠ .fault := by
  unfold parse
  split
  · nofun
  · simp only []
    split
    · nofun
    · have := parseAttrs_ne_fault ((b.take (lengthField b)).drop 20)
      split
      · nofun
      · nofun
      · contradiction

theorem parse_of_take_eq (b b' s : Bytes) (p : Packet) (h : parse b s = .ok p)
    (ht : b'.take (lengthField b) = b.take (lengthField b)) : parse b' s = .ok p := by
  obtain ⟨h1, h2, h3, h4, as, hp, rfl⟩ := (parse_ok_iff b s p).1 h
  have hl : lengthField b ≤ b'.length := by
    have := congrArg List.length ht
    rw [List.length_take, List.length_take] at this
    omega
  have hg (i : Nat) (hi : i < lengthField b) : b'.getD i 0 = b.getD i 0 := by
    rw [← getD_take b' i _ hi, ht, getD_take b i _ hi]
  have hlf : lengthField b' = lengthField b := by
    rw [lengthField, hg 2 (by omega), hg 3 (by omega), lengthField]
  rw [parse_ok_iff, hlf]
  refine ⟨by omega, h2, h3, hl, as, ?_, ?_⟩
  · rw [ht]; exact hp
  · rw [hg 0 (by omega), hg 1 (by omega), ← auth_take b' _ h2, ht, auth_take b _ h2]

end RV
