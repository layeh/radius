/-
  Helper lemmas for C20 (dictionary Merge): the check loops decide the statement's conflict condition,
  the assembly loop computes the ordered union, the repaired Merge only allocates.
-/
import RV.Model.DictMerge
namespace RV.DictMerge
open RV.Dict

theorem find?_congr' {α} {p q : α → Bool} {l : List α} (h : ∀ x ∈ l, p x = q x) :
    l.find? p = l.find? q := by
  rw [← List.head?_filter, ← List.head?_filter, List.filter_congr h]

theorem filter_key_of_nodup {α β} [BEq β] [LawfulBEq β] (f : α → β) {l : List α} (hn : (l.map f).Nodup)
    {a : α} (ha : a ∈ l) : l.filter (fun x => f x == f a) = [a] := by
  induction l with
  | nil => cases ha
  | cons x xs ih =>
    rw [List.map_cons, List.nodup_cons] at hn
    rcases List.mem_cons.mp ha with rfl | hxs
    · rw [List.filter_cons, if_pos (beq_self_eq_true _), List.filter_eq_nil_iff.mpr]
      exact fun y hy hk => hn.1 (List.mem_map.mpr ⟨y, hy, eq_of_beq hk⟩)
    · rw [List.filter_cons, if_neg, ih hn.2 hxs]
      exact fun hk => hn.1 (List.mem_map.mpr ⟨a, hxs, (eq_of_beq hk).symm⟩)

theorem eq_of_nodup_map {α β} [BEq β] [LawfulBEq β] (f : α → β) {l : List α} (hn : (l.map f).Nodup)
    {a b : α} (ha : a ∈ l) (hb : b ∈ l) (h : f a = f b) : a = b :=
  List.mem_singleton.mp (filter_key_of_nodup f hn hb ▸ List.mem_filter.mpr ⟨ha, beq_iff_eq.mpr h⟩)

theorem find?_key_eq_some_iff {α β} [BEq β] [LawfulBEq β] (f : α → β) {l : List α}
    (hn : (l.map f).Nodup) {n : β} {a : α} :
    l.find? (fun x => f x == n) = some a ↔ a ∈ l ∧ f a = n :=
  ⟨fun h => ⟨List.mem_of_find?_eq_some h, eq_of_beq (List.find?_some (p := fun x => f x == n) h)⟩,
   fun ⟨ha, hf⟩ => by rw [← hf, ← List.head?_filter, filter_key_of_nodup f hn ha]; rfl⟩

theorem nodup_of_nodup_map {α β} (f : α → β) {l : List α} (h : (l.map f).Nodup) : l.Nodup :=
  List.Pairwise.of_map f (fun _ _ hne e => hne (congrArg f e)) h

theorem set_eq_map_of_nodup {α β} [BEq β] [LawfulBEq β] (k : α → β) (g : α → α) {l : List α} {i : Nat}
    (hn : (l.map k).Nodup) (hi : i < l.length) :
    l.set i (g l[i]) = l.map (fun a => if k a == k l[i] then g a else a) := by
  apply List.ext_getElem (by simp)
  intro j _ hj
  rw [List.length_map] at hj
  -- positions with the key of position `i` are position `i`
  have hinj := List.getElem_inj (i := j) (j := i) (h₀ := by simpa using hj) (h₁ := by simpa using hi) hn
  simp only [List.getElem_map] at hinj
  simp only [List.getElem_set, List.getElem_map, beq_iff_eq, hinj, eq_comm (a := i)]
  split
  · rename_i h; subst h; rfl
  · rfl

theorem deref_append_left {st ext : Store} {r : Ref} (h : r < st.length) :
    deref (st ++ ext) r = deref st r := by
  simp [deref, List.getElem?_append_left h]

theorem deref_append_length (st : Store) (v : Vendor) : deref (st ++ [v]) st.length = v := by
  simp [deref]

theorem map_deref_append {st ext : Store} {rs : List Ref} (h : ∀ r ∈ rs, r < st.length) :
    rs.map (deref (st ++ ext)) = rs.map (deref st) :=
  List.map_congr_left (fun r hr => deref_append_left (h r hr))

theorem deref_set {st : Store} {q x : Ref} {nv : Vendor} (hq : q < st.length) :
    deref (st.set q nv) x = if q = x then nv else deref st x := by
  simp only [deref, List.getElem?_set, hq, if_true]
  split <;> rfl

theorem map_deref_set {st : Store} {nv : Vendor} {acc : List Ref} {i : Nat} (hn : acc.Nodup)
    (hi : i < acc.length) (hq : acc[i] < st.length) :
    acc.map (deref (st.set acc[i] nv)) = (acc.map (deref st)).set i nv := by
  apply List.ext_getElem (by simp)
  intro j _ _
  simp only [List.getElem_map, List.getElem_set, deref_set hq, List.getElem_inj hn]

theorem attrConflict_iff (ex : List Attribute) (a : Attribute) :
    attrConflict ex a = true ↔ ∃ b ∈ ex, b.name = a.name ∨ b.oid = a.oid := by
  unfold attrConflict attributeByName attributeByOID
  split
  · rename_i b hn
    have hp := List.find?_some hn
    exact iff_of_true rfl ⟨b, List.mem_of_find?_eq_some hn, .inl (eq_of_beq hp)⟩
  · rename_i hn
    -- no attribute has the name, so a conflict is one by OID
    simp only [List.find?_isSome, beq_iff_eq]
    refine exists_congr fun b => and_congr_right fun hb => (or_iff_right fun e => ?_).symm
    exact List.find?_eq_none.mp hn b hb (beq_iff_eq.mpr e)

theorem any_attrConflict_false_iff (a1 a2 : List Attribute) :
    a2.any (attrConflict a1) = false ↔ Spec.AttrsDisjoint a1 a2 := by
  simp only [Spec.AttrsDisjoint, List.any_eq_false, attrConflict_iff, not_exists, not_and, not_or, ne_eq]

theorem checkTop_ok_iff (a1 a2 : List Attribute) :
    checkTop a1 a2 = .ok () ↔ Spec.AttrsDisjoint a1 a2 := by
  rw [← any_attrConflict_false_iff]
  induction a2 with
  | nil => simp [checkTop]
  | cons a rest ih =>
    unfold checkTop
    cases hc : attrConflict a1 a <;> simp [ih, hc]

/-- what the vendor loop checks, reference by reference -/
def VendorPass (st : Store) (vs1 : List Ref) (r : Ref) : Prop :=
  refByName st vs1 (deref st r).name = refByNumber st vs1 (deref st r).number ∧
  ∀ q, refByName st vs1 (deref st r).name = some q →
    Spec.AttrsDisjoint (deref st q).attributes (deref st r).attributes

theorem checkVendors_ok_iff (st : Store) (vs1 vs2 : List Ref) :
    checkVendors st vs1 vs2 = .ok () ↔ ∀ r ∈ vs2, VendorPass st vs1 r := by
  induction vs2 with
  | nil => simp [checkVendors]
  | cons r rest ih =>
    rw [List.forall_mem_cons, ← ih, checkVendors, VendorPass]
    simp only [bne_iff_ne, ne_eq, ite_not, ← any_attrConflict_false_iff]
    -- the branches of the loop body: lookups agree or not; nothing found or `q` found
    split
    · rename_i hag
      rw [hag]
      split
      · rename_i hq
        simp only [hq, reduceCtorEq, false_implies, implies_true, and_true, true_and]
      · rename_i q hq
        simp only [hq, Option.some.injEq, forall_eq', true_and]
        cases (deref st r).attributes.any (attrConflict (deref st q).attributes) <;> simp
    · rename_i hne
      simp only [reduceCtorEq, hne, false_and]

/-- under unique names and numbers in `vs1`, pointer equality of the two lookups is the statement's
    "matches on both name and number or on neither", and the vendor the lookups find is the only one
    with that name and number -/
theorem vendorPass_iff (st : Store) (vs1 : List Ref) (r : Ref)
    (hn : (vs1.map (fun r => (deref st r).name)).Nodup)
    (hk : (vs1.map (fun r => (deref st r).number)).Nodup) :
    VendorPass st vs1 r ↔ Spec.VendorOK (vs1.map (deref st)) (deref st r) ∧
      ∀ v1 ∈ vs1.map (deref st), v1.name = (deref st r).name → v1.number = (deref st r).number →
        Spec.AttrsDisjoint v1.attributes (deref st r).attributes := by
  have hN := @find?_key_eq_some_iff _ _ _ _ (fun r => (deref st r).name) _ hn (deref st r).name
  have hK := @find?_key_eq_some_iff _ _ _ _ (fun r => (deref st r).number) _ hk (deref st r).number
  unfold VendorPass Spec.VendorOK refByName refByNumber
  simp only [List.forall_mem_map]
  constructor
  · rintro ⟨hag, hd⟩
    refine ⟨?_, fun q hq h1 _ => hd q (hN.mpr ⟨hq, h1⟩)⟩
    cases hq : vs1.find? (fun r' => (deref st r').name == (deref st r).name) with
    | none =>
      refine .inr fun q hq' => ⟨fun e => ?_, fun e => ?_⟩
      · cases hq.symm.trans (hN.mpr ⟨hq', e⟩)
      · cases (hq.symm.trans hag).trans (hK.mpr ⟨hq', e⟩)
    | some q =>
      exact .inl ⟨_, List.mem_map_of_mem (hN.mp hq).1, (hN.mp hq).2, (hK.mp (hag ▸ hq)).2⟩
  · rintro ⟨hok, hd⟩
    have hag : vs1.find? (fun r' => (deref st r').name == (deref st r).name) =
        vs1.find? (fun r' => (deref st r').number == (deref st r).number) := by
      refine Option.ext fun q => hN.trans (Iff.trans ?_ hK.symm)
      rcases hok with ⟨v1, hv1, h1, h2⟩ | hno
      · obtain ⟨q0, hq0, rfl⟩ := List.mem_map.mp hv1
        exact ⟨fun ⟨hq, e⟩ => ⟨hq, eq_of_nodup_map _ hn hq hq0 (e.trans h1.symm) ▸ h2⟩,
          fun ⟨hq, e⟩ => ⟨hq, eq_of_nodup_map _ hk hq hq0 (e.trans h2.symm) ▸ h1⟩⟩
      · exact ⟨fun ⟨hq, e⟩ => absurd e (hno q hq).1, fun ⟨hq, e⟩ => absurd e (hno q hq).2⟩
    exact ⟨hag, fun q hq => hd q (hN.mp hq).1 (hN.mp hq).2 (hK.mp (hag ▸ hq)).2⟩

theorem wf_resolve (st : Store) (d : DictR) :
    Spec.WF (resolve st d) ↔
      (d.vendors.map (fun r => (deref st r).name)).Nodup ∧
      (d.vendors.map (fun r => (deref st r).number)).Nodup := by
  simp [Spec.WF, resolve, List.map_map, Function.comp_def]

theorem checkVendors_ok_iff_spec (st : Store) (vs1 vs2 : List Ref)
    (hn : (vs1.map (fun r => (deref st r).name)).Nodup)
    (hk : (vs1.map (fun r => (deref st r).number)).Nodup) :
    checkVendors st vs1 vs2 = .ok () ↔
      (∀ v2 ∈ vs2.map (deref st), Spec.VendorOK (vs1.map (deref st)) v2) ∧
      (∀ v2 ∈ vs2.map (deref st), ∀ v1 ∈ vs1.map (deref st), v1.name = v2.name → v1.number = v2.number →
          Spec.AttrsDisjoint v1.attributes v2.attributes) := by
  simp only [checkVendors_ok_iff, vendorPass_iff st vs1 _ hn hk, List.forall_mem_map, imp_and, forall_and]

/-- one iteration of the assembly loop on vendor *values* (what the loop computes when no vendor
    object is shared) -/
def absorb (acc : List Vendor) (v : Vendor) : List Vendor :=
  match acc.findIdx? (fun w => w.number == v.number) with
  | none => acc ++ [v]
  | some i => acc.set i (extend (acc.getD i nilVendor) v)

/-- Both variants of the loop, read through the final store, compute `absorb` folded over the values
    the references had at the start.  The repaired loop needs only that the references are allocated;
    it writes at the fresh reference alone, so the store grows.  The unrepaired loop writes through a
    reference of `acc`, so it needs that no reference occurs twice in `acc ++ vs2`. -/
theorem assemble_spec (m : Mode) : ∀ (vs2 : List Ref) (st : Store) (acc : List Ref),
    (∀ x ∈ acc ++ vs2, x < st.length) → (m = .current → (acc ++ vs2).Nodup) →
    (m = .fixed → st <+: (assemble m st acc vs2).2) ∧
    (∀ x ∈ (assemble m st acc vs2).1, x < (assemble m st acc vs2).2.length) ∧
    (assemble m st acc vs2).1.map (deref (assemble m st acc vs2).2) =
      (vs2.map (deref st)).foldl absorb (acc.map (deref st)) := by
  intro vs2
  induction vs2 with
  | nil =>
    intro st acc hb _
    exact ⟨fun _ => List.prefix_rfl, by simpa [assemble] using hb, rfl⟩
  | cons r rest ih =>
    intro st acc hb hn
    have hfi : acc.findIdx? (fun q => (deref st q).number == (deref st r).number) =
        (acc.map (deref st)).findIdx? (fun w => w.number == (deref st r).number) := by
      rw [List.findIdx?_map]; rfl
    unfold assemble
    simp only [List.map_cons, List.foldl_cons, absorb]
    rw [← hfi]
    cases hq : acc.findIdx? (fun q => (deref st q).number == (deref st r).number) with
    | none =>
      rw [List.append_cons] at hb hn
      simpa only [List.map_append, List.map_cons, List.map_nil] using ih st (acc ++ [r]) hb hn
    | some i =>
      have hi : i < acc.length := (List.findIdx?_eq_some_iff_getElem.mp hq).1
      have hg : (acc.map (deref st)).getD i nilVendor = deref st acc[i] := by
        simp [List.getD_eq_getElem?_getD, hi]
      simp only [← List.getElem_eq_getD (h := hi) 0, hg]
      have hsub := List.Sublist.append_left (List.sublist_cons_self r rest) acc
      obtain ⟨hacc, hrest⟩ := List.forall_mem_append.mp fun x hx => hb x (hsub.subset hx)
      cases m with
      | current =>
        -- the write goes through `acc[i]`, which no other reference of `acc` or `rest` equals
        have hnd := (hn rfl).sublist hsub
        obtain ⟨hna, _, hdis⟩ := List.nodup_append.mp hnd
        have hq' := hacc _ (List.getElem_mem hi)
        have := ih (st.set acc[i] (extend (deref st acc[i]) (deref st r))) acc
          (fun x hx => List.length_set ▸ hb x (hsub.subset hx)) (fun _ => hnd)
        have hr : rest.map (deref (st.set acc[i] (extend (deref st acc[i]) (deref st r)))) =
            rest.map (deref st) := List.map_congr_left fun x hx => by
          rw [deref_set hq', if_neg (hdis _ (List.getElem_mem hi) x hx)]
        rw [map_deref_set hna hi hq', hr] at this
        exact ⟨nofun, this.2⟩
      | fixed =>
        -- the new vendor sits at the fresh reference `st.length`; allocated references read as before
        have hb' : ∀ x ∈ acc.set i st.length ++ rest,
            x < (st ++ [extend (deref st acc[i]) (deref st r)]).length := by
          intro x hx
          rw [List.length_append, List.length_singleton, Nat.lt_succ_iff]
          rcases List.mem_append.mp hx with h | h
          · exact (List.mem_or_eq_of_mem_set h).elim (fun h => Nat.le_of_lt (hacc x h)) Nat.le_of_eq
          · exact Nat.le_of_lt (hrest x h)
        have := ih _ _ hb' nofun
        rw [List.map_set, deref_append_length, map_deref_append hacc, map_deref_append hrest] at this
        exact ⟨fun _ => (List.prefix_append st _).trans (this.1 rfl), this.2⟩

/-- The loop as the code runs it matches by NUMBER only and starts from any `acc` (which grows as
    unmatched vendors are appended): that is the statement an induction over `vs2` goes through for.
    `foldl_absorb_spec` then turns "same number" into the statement's "same name and number". -/
theorem foldl_absorb_eq : ∀ (vs2 acc : List Vendor),
    (acc.map (·.number)).Nodup → (vs2.map (·.number)).Nodup →
    vs2.foldl absorb acc =
      acc.map (fun a => (vs2.find? (·.number == a.number)).elim a (extend a)) ++
      vs2.filter (fun v => (acc.find? (·.number == v.number)).isNone) := by
  intro vs2
  induction vs2 with
  | nil => intro acc _ _; simp
  | cons v rest ih =>
    intro acc hacc hvs
    rw [List.map_cons, List.nodup_cons] at hvs
    have hv : rest.find? (·.number == v.number) = none :=
      List.find?_eq_none.mpr fun w hw e => hvs.1 (List.mem_map.mpr ⟨w, hw, eq_of_beq e⟩)
    rw [List.foldl_cons, absorb]
    cases hq : acc.findIdx? (fun w => w.number == v.number) with
    | none =>
      have hno : ∀ a ∈ acc, (a.number == v.number) = false := List.findIdx?_eq_none_iff.mp hq
      have hacc' : ((acc ++ [v]).map (·.number)).Nodup := by
        rw [List.map_append, List.nodup_append]
        refine ⟨hacc, by simp, ?_⟩
        intro x hx y hy
        obtain ⟨a, ha, rfl⟩ := List.mem_map.mp hx
        rw [List.mem_singleton.mp hy]
        exact ne_of_beq_false (hno a ha)
      have hav : acc.find? (·.number == v.number) = none :=
        List.find?_eq_none.mpr fun a ha => by rw [hno a ha]; nofun
      simp only []
      rw [ih _ hacc' hvs.2, List.map_append, List.append_assoc, List.filter_cons, hav]
      congr 1
      · apply List.map_congr_left
        intro a ha
        rw [List.find?_cons_of_neg]
        rw [BEq.comm, hno a ha]; nofun
      · simp only [List.map_cons, List.map_nil, hv, Option.elim_none, Option.isNone_none, if_true,
          List.singleton_append]
        congr 1
        apply List.filter_congr
        intro w hw
        rw [List.find?_append, List.find?_cons_of_neg, List.find?_nil, Option.or_none]
        exact fun e => hvs.1 (List.mem_map.mpr ⟨w, hw, (eq_of_beq e).symm⟩)
    | some i =>
      obtain ⟨hi, hp, _⟩ := List.findIdx?_eq_some_iff_getElem.mp hq
      have hset := set_eq_map_of_nodup (·.number) (extend · v) hacc hi
      rw [eq_of_beq hp] at hset
      have hnum : ∀ a : Vendor, (if a.number == v.number then extend a v else a).number = a.number := by
        intro a; split <;> rfl
      have hacc' : ((acc.map fun a => if a.number == v.number then extend a v else a).map
          (·.number)).Nodup := by simpa only [List.map_map, Function.comp_def, hnum] using hacc
      have hav : (acc.find? (·.number == v.number)).isNone = false := by
        rw [← Option.not_isSome, List.find?_isSome.mpr ⟨_, List.getElem_mem hi, hp⟩]; rfl
      simp only []
      rw [← List.getElem_eq_getD (h := hi), hset, ih _ hacc' hvs.2, List.map_map, List.filter_cons, hav]
      congr 1
      · apply List.map_congr_left
        intro a _
        simp only [Function.comp]
        by_cases hav : a.number = v.number
        · rw [if_pos (beq_iff_eq.mpr hav)]
          show (rest.find? (·.number == a.number)).elim _ _ = _
          simp only [hav, hv, List.find?_cons, beq_self_eq_true]
          rfl
        · rw [if_neg (fun e => hav (eq_of_beq e))]
          simp only [List.find?_cons, beq_false_of_ne (Ne.symm hav)]
      · apply List.filter_congr
        intro w _
        simp only [List.find?_map, Option.isNone_map, Function.comp_def, hnum]


theorem combine_eq (vs2 : List Vendor) (v : Vendor) :
    Spec.combine vs2 v = (Spec.matchOf vs2 v).elim v (extend v) := by
  unfold Spec.combine; cases Spec.matchOf vs2 v <;> rfl

theorem name_eq_of_number_eq {vs1 : List Vendor} {v2 a : Vendor} (hk1 : (vs1.map (·.number)).Nodup)
    (hok : Spec.VendorOK vs1 v2) (ha : a ∈ vs1) (h : a.number = v2.number) : a.name = v2.name := by
  rcases hok with ⟨v1, hv1, hn, hk⟩ | hnone
  · rw [← eq_of_nodup_map (·.number) hk1 hv1 ha (hk.trans h.symm)]; exact hn
  · exact absurd h (hnone a ha).2

theorem number_beq_eq_key_beq {x y : Vendor} (h : x.number = y.number → x.name = y.name) :
    (x.number == y.number) = (x.name == y.name && x.number == y.number) := by
  by_cases e : x.number = y.number
  · simp [e, h e]
  · simp [e]

/-- from "by number" to the statement's "same name and number": the loop computes the vendor list of
    `Spec.merge` -/
theorem foldl_absorb_spec {vs1 vs2 : List Vendor} (hk1 : (vs1.map (·.number)).Nodup)
    (hk2 : (vs2.map (·.number)).Nodup) (hok : ∀ v2 ∈ vs2, Spec.VendorOK vs1 v2) :
    vs2.foldl absorb vs1 =
      vs1.map (Spec.combine vs2) ++ vs2.filter (fun v2 => (Spec.matchOf vs1 v2).isNone) := by
  rw [foldl_absorb_eq vs2 vs1 hk1 hk2]
  congr 1
  · apply List.map_congr_left
    intro a ha
    rw [combine_eq, Spec.matchOf, find?_congr' fun w hw => number_beq_eq_key_beq fun e =>
      (name_eq_of_number_eq hk1 (hok w hw) ha e.symm).symm]
  · apply List.filter_congr
    intro v hv
    rw [Spec.matchOf, find?_congr' fun a ha =>
      number_beq_eq_key_beq (name_eq_of_number_eq hk1 (hok v hv) ha)]

theorem merge_eq_ok_iff {m : Mode} {d1 d2 r : DictR} {st st' : Store} :
    merge m d1 d2 st = .ok (r, st') ↔
      checkTop d1.attributes d2.attributes = .ok () ∧ checkVendors st d1.vendors d2.vendors = .ok () ∧
      r = ⟨d1.attributes ++ d2.attributes, d1.values ++ d2.values,
            (assemble m st d1.vendors d2.vendors).1⟩ ∧
      st' = (assemble m st d1.vendors d2.vendors).2 := by
  unfold merge
  cases checkTop d1.attributes d2.attributes with
  | error e => simp
  | ok u =>
    cases checkVendors st d1.vendors d2.vendors with
    | error e => simp
    | ok u' => simp [eq_comm]

theorem merge_ok_iff_conflictFree (m : Mode) (d1 d2 : DictR) (st : Store) (hw1 : Spec.WF (resolve st d1)) :
    (∃ out, merge m d1 d2 st = .ok out) ↔ Spec.ConflictFree (resolve st d1) (resolve st d2) := by
  obtain ⟨hn, hk⟩ := (wf_resolve st d1).mp hw1
  simp only [Prod.exists, merge_eq_ok_iff, exists_and_left, exists_eq, and_true, checkTop_ok_iff,
    checkVendors_ok_iff_spec st _ _ hn hk]
  rfl

theorem resolve_append {st : Store} {d : DictR} (ext : Store) (hv : Valid st d) :
    resolve (st ++ ext) d = resolve st d := by
  simp only [resolve, map_deref_append hv]

theorem valid_append {st : Store} {d : DictR} (ext : Store) (hv : Valid st d) : Valid (st ++ ext) d := by
  intro r hr; exact Nat.lt_of_lt_of_le (hv r hr) (by simp)

theorem merge_result {m : Mode} {d1 d2 r : DictR} {st st' : Store}
    (hv1 : Valid st d1) (hv2 : Valid st d2)
    (hw1 : Spec.WF (resolve st d1)) (hw2 : Spec.WF (resolve st d2))
    (hn : m = .current → (d1.vendors ++ d2.vendors).Nodup)
    (h : merge m d1 d2 st = .ok (r, st')) :
    (m = .fixed → st <+: st') ∧ Valid st' r ∧
      Spec.merge (resolve st d1) (resolve st d2) = some (resolve st' r) := by
  have hcf := (merge_ok_iff_conflictFree m d1 d2 st hw1).mp ⟨_, h⟩
  obtain ⟨-, -, rfl, rfl⟩ := merge_eq_ok_iff.mp h
  obtain ⟨h1, h2, h3⟩ :=
    assemble_spec m d2.vendors st d1.vendors (List.forall_mem_append.mpr ⟨hv1, hv2⟩) hn
  refine ⟨h1, h2, ?_⟩
  rw [Spec.merge, if_pos hcf, ← foldl_absorb_spec hw1.2 hw2.2 hcf.2.1]
  simp only [resolve, h3]

theorem merge_fixed_result {d1 d2 r : DictR} {st st' : Store}
    (hv1 : Valid st d1) (hv2 : Valid st d2)
    (hw1 : Spec.WF (resolve st d1)) (hw2 : Spec.WF (resolve st d2))
    (h : merge .fixed d1 d2 st = .ok (r, st')) :
    st <+: st' ∧ Valid st' r ∧ Spec.merge (resolve st d1) (resolve st d2) = some (resolve st' r) :=
  have hr := merge_result (m := .fixed) hv1 hv2 hw1 hw2 nofun h
  ⟨hr.1 rfl, hr.2⟩

/-- inside one well-formed input the vendor objects are distinct, their names being unique -/
theorem merge_current_result {d1 d2 r : DictR} {st st' : Store}
    (hv1 : Valid st d1) (hv2 : Valid st d2)
    (hw1 : Spec.WF (resolve st d1)) (hw2 : Spec.WF (resolve st d2))
    (hdis : ∀ x ∈ d2.vendors, x ∉ d1.vendors)
    (h : merge .current d1 d2 st = .ok (r, st')) :
    Spec.merge (resolve st d1) (resolve st d2) = some (resolve st' r) :=
  (merge_result hv1 hv2 hw1 hw2 (fun _ => List.nodup_append.mpr
    ⟨nodup_of_nodup_map _ ((wf_resolve st d1).mp hw1).1, nodup_of_nodup_map _ ((wf_resolve st d2).mp hw2).1,
      fun _ ha b hb e => hdis b hb (e ▸ ha)⟩) h).2.2

/-- what a Merge call lets an observer see of its result -/
def observe : Except Err (DictR × Store) → Option Dictionary
  | .ok (r, st') => some (resolve st' r)
  | .error _ => none

theorem observe_merge {m : Mode} {d1 d2 : DictR} {st : Store} (hw1 : Spec.WF (resolve st d1))
    (hres : ∀ r st', merge m d1 d2 st = .ok (r, st') →
      Spec.merge (resolve st d1) (resolve st d2) = some (resolve st' r)) :
    observe (merge m d1 d2 st) = Spec.merge (resolve st d1) (resolve st d2) := by
  cases h : merge m d1 d2 st with
  | ok out => exact (hres out.1 out.2 h).symm
  | error e =>
    refine (if_neg fun hcf => ?_).symm
    obtain ⟨out, ho⟩ := (merge_ok_iff_conflictFree m d1 d2 st hw1).mpr hcf
    cases h.symm.trans ho

theorem merge_fixed_refines {d1 d2 : DictR} {st : Store}
    (hv1 : Valid st d1) (hv2 : Valid st d2)
    (hw1 : Spec.WF (resolve st d1)) (hw2 : Spec.WF (resolve st d2)) :
    observe (merge .fixed d1 d2 st) = Spec.merge (resolve st d1) (resolve st d2) :=
  observe_merge hw1 fun _ _ h => (merge_fixed_result hv1 hv2 hw1 hw2 h).2.2

theorem combine_key (vs2 : List Vendor) (v : Vendor) : Spec.key (Spec.combine vs2 v) = Spec.key v := by
  unfold Spec.combine; split <;> rfl

theorem spec_merge_eq {d1 d2 r : Dictionary} (h : Spec.merge d1 d2 = some r) :
    Spec.ConflictFree d1 d2 ∧
    r = { attributes := d1.attributes ++ d2.attributes, values := d1.values ++ d2.values,
          vendors := d1.vendors.map (Spec.combine d2.vendors) ++
                     d2.vendors.filter (fun v2 => (Spec.matchOf d1.vendors v2).isNone) } := by
  unfold Spec.merge at h
  split at h
  · rename_i hcf; exact ⟨hcf, (Option.some.inj h).symm⟩
  · cases h

theorem unmatched_fresh {vs1 : List Vendor} {v2 : Vendor} (hok : Spec.VendorOK vs1 v2)
    (hm : Spec.matchOf vs1 v2 = none) : ∀ v1 ∈ vs1, v1.name ≠ v2.name ∧ v1.number ≠ v2.number := by
  rcases hok with ⟨v1, hv1, hn, hk⟩ | h
  · have := List.find?_eq_none.mp hm v1 hv1
    simp [hn, hk] at this
  · exact h

theorem nodup_map_merged {β} (f : Vendor → β) {vs1 vs2 : List Vendor}
    (hf : ∀ v, f (Spec.combine vs2 v) = f v) (h1 : (vs1.map f).Nodup) (h2 : (vs2.map f).Nodup)
    (hfresh : ∀ v2 ∈ vs2, Spec.matchOf vs1 v2 = none → ∀ v1 ∈ vs1, f v1 ≠ f v2) :
    ((vs1.map (Spec.combine vs2) ++ vs2.filter (fun v2 => (Spec.matchOf vs1 v2).isNone)).map f).Nodup := by
  simp only [List.map_append, List.map_map, Function.comp_def, hf, List.nodup_append]
  refine ⟨h1, h2.sublist (List.filter_sublist.map f), ?_⟩
  intro x hx y hy
  obtain ⟨v1, hv1, rfl⟩ := List.mem_map.mp hx
  obtain ⟨v2, hv2, rfl⟩ := List.mem_map.mp hy
  rw [List.mem_filter] at hv2
  exact hfresh v2 hv2.1 (Option.isNone_iff_eq_none.mp hv2.2) v1 hv1

theorem spec_merge_wf {d1 d2 r : Dictionary} (h1 : Spec.WF d1) (h2 : Spec.WF d2)
    (h : Spec.merge d1 d2 = some r) : Spec.WF r := by
  obtain ⟨hcf, rfl⟩ := spec_merge_eq h
  have hfresh := fun v2 hv2 hm => unmatched_fresh (hcf.2.1 v2 hv2) hm
  exact ⟨nodup_map_merged (·.name) (fun v => congrArg Prod.fst (combine_key _ v)) h1.1 h2.1
      fun v2 hv2 hm v1 hv1 => (hfresh v2 hv2 hm v1 hv1).1,
    nodup_map_merged (·.number) (fun v => congrArg Prod.snd (combine_key _ v)) h1.2 h2.2
      fun v2 hv2 hm v1 hv1 => (hfresh v2 hv2 hm v1 hv1).2⟩

theorem nodup_key_of_nodup_name {l : List Vendor} (h : (l.map (·.name)).Nodup) :
    (l.map Spec.key).Nodup := by
  rw [List.nodup_iff_pairwise_ne, List.pairwise_map] at *
  exact h.imp (fun hne heq => hne (congrArg Prod.fst heq))

theorem filter_key_singleton {l : List Vendor} (hn : (l.map (·.name)).Nodup) {a : Vendor} (ha : a ∈ l) :
    l.filter (fun v => Spec.key v == Spec.key a) = [a] :=
  filter_key_of_nodup Spec.key (nodup_key_of_nodup_name hn) ha

theorem filter_key_nil {l : List Vendor} {a : Vendor} (h : Spec.matchOf l a = none) :
    l.filter (fun v => Spec.key v == Spec.key a) = [] :=
  List.filter_eq_nil_iff.mpr (List.find?_eq_none.mp h)

theorem matchOf_some {l : List Vendor} {a b : Vendor} (h : Spec.matchOf l a = some b) :
    b ∈ l ∧ Spec.key b = Spec.key a := by
  have hp := List.find?_some h
  exact ⟨List.mem_of_find?_eq_some h, eq_of_beq hp⟩

/-- `f` is the field (`attributes` or `values`): all the proof needs of it is that `extend` appends it -/
theorem decl_count {β} [BEq β] (f : Vendor → List β)
    (hext : ∀ v1 v2 : Vendor, f (extend v1 v2) = f v1 ++ f v2)
    {d1 d2 : Dictionary} (h1 : Spec.WF d1) (h2 : Spec.WF d2) :
    ∀ w ∈ d1.vendors.map (Spec.combine d2.vendors) ++
          d2.vendors.filter (fun v2 => (Spec.matchOf d1.vendors v2).isNone), ∀ x,
      (f w).count x =
        ((d1.vendors.filter (fun v => Spec.key v == Spec.key w)).flatMap f).count x +
        ((d2.vendors.filter (fun v => Spec.key v == Spec.key w)).flatMap f).count x := by
  intro w hw x
  rcases List.mem_append.mp hw with hw | hw
  · obtain ⟨v1, hv1, rfl⟩ := List.mem_map.mp hw
    rw [combine_key, filter_key_singleton h1.1 hv1, combine_eq]
    cases hm : Spec.matchOf d2.vendors v1 with
    | none => rw [filter_key_nil hm]; simp
    | some v2 =>
      obtain ⟨hv2, hk⟩ := matchOf_some hm
      rw [← hk, filter_key_singleton h2.1 hv2, Option.elim_some, hext]; simp [List.count_append]
  · rw [List.mem_filter] at hw
    have hm : Spec.matchOf d1.vendors w = none := by simpa using hw.2
    rw [filter_key_nil hm, filter_key_singleton h2.1 hw.1]; simp

theorem spec_exactly_once {d1 d2 r : Dictionary} (h1 : Spec.WF d1) (h2 : Spec.WF d2)
    (h : Spec.merge d1 d2 = some r) : Spec.ExactlyOnce d1 d2 r := by
  have hwf := spec_merge_wf h1 h2 h
  obtain ⟨_, rfl⟩ := spec_merge_eq h
  refine ⟨fun a => List.count_append, fun v => List.count_append, nodup_key_of_nodup_name hwf.1, ?_,
    decl_count (fun v => v.attributes) (fun _ _ => rfl) h1 h2,
    decl_count (fun v => v.values) (fun _ _ => rfl) h1 h2⟩
  intro k
  simp only [List.map_append, List.map_map, Function.comp_def, combine_key, List.mem_append,
    List.mem_map, List.mem_filter]
  constructor
  · rintro (h | ⟨v2, ⟨hv2, _⟩, rfl⟩)
    · exact .inl h
    · exact .inr ⟨v2, hv2, rfl⟩
  · rintro (h | ⟨v2, hv2, rfl⟩)
    · exact .inl h
    · cases hm : Spec.matchOf d1.vendors v2 with
      | none => exact .inr ⟨v2, ⟨hv2, by rw [hm]; rfl⟩, rfl⟩
      | some v1 => exact .inl ⟨v1, matchOf_some hm⟩

theorem exactlyOnce_of_ExactlyOnce {d1 d2 r : Dictionary} (h : Spec.ExactlyOnce d1 d2 r) :
    Spec.exactlyOnce d1 d2 r = true := by
  unfold Spec.exactlyOnce
  simp only [Bool.and_eq_true, List.all_eq_true, beq_iff_eq, decide_eq_true_eq, List.contains_iff_mem]
  refine ⟨⟨⟨⟨fun a _ => h.attrs a, fun v _ => h.values v⟩, h.entries_nodup⟩, ?_⟩, ?_⟩
  · intro v hv
    rw [h.entries]
    rcases List.mem_append.mp hv with hv | hv
    · exact Or.inl (List.mem_map.mpr ⟨v, hv, rfl⟩)
    · exact Or.inr (List.mem_map.mpr ⟨v, hv, rfl⟩)
  · intro w hw
    refine ⟨⟨?_, fun a _ => h.vendor_attrs w hw a⟩, fun v _ => h.vendor_values w hw v⟩
    rw [List.map_append, List.mem_append]
    exact (h.entries _).mp (List.mem_map.mpr ⟨w, hw, rfl⟩)

theorem wf_resolve_append {st : Store} {d : DictR} (ext : Store) (hv : Valid st d)
    (hw : Spec.WF (resolve st d)) : Spec.WF (resolve (st ++ ext) d) := by
  rw [resolve_append ext hv]; exact hw

theorem mergeChain_fixed_refines : ∀ (ds : List DictR) (acc : DictR) (st : Store),
    Valid st acc → Spec.WF (resolve st acc) →
    (∀ d ∈ ds, Valid st d ∧ Spec.WF (resolve st d)) →
    observe (mergeChain .fixed acc ds st) = Spec.mergeChain (resolve st acc) (ds.map (resolve st)) ∧
    ∀ r st', mergeChain .fixed acc ds st = .ok (r, st') → st <+: st' := by
  intro ds
  induction ds with
  | nil =>
    intro acc st _ _ _
    exact ⟨rfl, fun r st' h => (Prod.mk.inj (Except.ok.inj h)).2 ▸ List.prefix_rfl⟩
  | cons d ds ih =>
    intro acc st hva hwa hds
    obtain ⟨⟨hvd, hwd⟩, hds⟩ := List.forall_mem_cons.mp hds
    rw [mergeChain, List.map_cons, Spec.mergeChain, ← merge_fixed_refines hva hvd hwa hwd]
    cases hm : merge .fixed acc d st with
    | error e => exact ⟨rfl, nofun⟩
    | ok out =>
      obtain ⟨r, st1⟩ := out
      -- everything valid before the call is valid, and denotes the same, in the grown store
      obtain ⟨⟨ext, rfl⟩, hvr, hspec⟩ := merge_fixed_result hva hvd hwa hwd hm
      obtain ⟨ih1, ih2⟩ := ih r (st ++ ext) hvr (spec_merge_wf hwa hwd hspec) fun d' hd' =>
        ⟨valid_append ext (hds d' hd').1, wf_resolve_append ext (hds d' hd').1 (hds d' hd').2⟩
      rw [← List.map_congr_left fun d' hd' => resolve_append ext (hds d' hd').1]
      exact ⟨ih1, fun r' st' h => (List.prefix_append st ext).trans (ih2 r' st' h)⟩

theorem assemble_unmatched (m : Mode) : ∀ (vs2 acc : List Ref) (st : Store),
    (∀ r2 ∈ vs2, ∀ r1 ∈ acc, (deref st r1).number ≠ (deref st r2).number) →
    (vs2.map (fun r => (deref st r).number)).Nodup →
    assemble m st acc vs2 = (acc ++ vs2, st) := by
  intro vs2
  induction vs2 with
  | nil => intro acc st _ _; simp [assemble]
  | cons r rest ih =>
    intro acc st hno hk
    rw [List.map_cons, List.nodup_cons] at hk
    have hnone : acc.findIdx? (fun q => (deref st q).number == (deref st r).number) = none :=
      List.findIdx?_eq_none_iff.mpr fun q hq => beq_false_of_ne (hno r List.mem_cons_self q hq)
    unfold assemble
    simp only [hnone]
    rw [List.append_cons acc r rest]
    refine ih (acc ++ [r]) st (fun r2 hr2 r1 hr1 => ?_) hk.2
    rcases List.mem_append.mp hr1 with h | h
    · exact hno r2 (List.mem_cons_of_mem _ hr2) r1 h
    · rw [List.mem_singleton.mp h]
      exact fun he => hk.1 (List.mem_map.mpr ⟨r2, hr2, he.symm⟩)

end RV.DictMerge
