/-
  The named value constants and `String()` of an integer-kind attribute against the dictionary's
  VALUE declarations (RV/Model/ValueConsts.lean), over an arbitrary VALUE list.
-/
import RV.Model.ValueConsts
import RV.Proofs.GenBasic
namespace RV.Gen
open RV.Dict

def avStep (attrName : Bytes) (acc : List Value) (v : Value) : List Value :=
  if v.attrName == attrName then
    match acc.getLast? with
    | some l => if l.number == v.number then acc.dropLast ++ [v] else acc ++ [v]
    | none => [v]
  else acc

theorem attrValues_eq_foldl (attrName : Bytes) (all : List Value) :
    attrValues attrName all = all.foldl (avStep attrName) [] := rfl

theorem foldl_avStep_snoc (attrName : Bytes) (l : List Value) (init : List Value) (x : Value) :
    l.foldl (avStep attrName) (init ++ [x]) =
      init ++ lastWins (x :: l.filter (fun v => v.attrName == attrName)) := by
  induction l generalizing init x with
  | nil => simp [lastWins]
  | cons v l ih =>
    rw [List.foldl_cons]
    by_cases hm : (v.attrName == attrName) = true
    · have hf : (v :: l).filter (fun v => v.attrName == attrName) = v :: l.filter (fun v => v.attrName == attrName) := by
        rw [List.filter_cons, if_pos hm]
      rw [hf]
      by_cases he : (x.number == v.number) = true
      · have hs : avStep attrName (init ++ [x]) v = init ++ [v] := by
          unfold avStep
          rw [if_pos hm]
          simp [he]
        rw [hs, ih, lastWins, if_pos he]
      · have hs : avStep attrName (init ++ [x]) v = (init ++ [x]) ++ [v] := by
          unfold avStep
          rw [if_pos hm]
          simp [he]
        rw [hs, ih, lastWins, if_neg he]
        simp
    · have hf : (v :: l).filter (fun v => v.attrName == attrName) = l.filter (fun v => v.attrName == attrName) := by
        rw [List.filter_cons, if_neg hm]
      have hs : avStep attrName (init ++ [x]) v = init ++ [x] := by
        unfold avStep; rw [if_neg hm]
      rw [hf, hs, ih]

/-- the generator's loop keeps, of this attribute's VALUEs, the last of each run of equal numbers -/
theorem attrValues_eq_lastWins (attrName : Bytes) (all : List Value) :
    attrValues attrName all = lastWins (all.filter (fun v => v.attrName == attrName)) := by
  rw [attrValues_eq_foldl]
  induction all with
  | nil => rfl
  | cons v l ih =>
    rw [List.foldl_cons]
    by_cases hm : (v.attrName == attrName) = true
    · have hs : avStep attrName [] v = [] ++ [v] := by unfold avStep; rw [if_pos hm]; rfl
      rw [hs, foldl_avStep_snoc, List.filter_cons, if_pos hm]; rfl
    · have hs : avStep attrName [] v = [] := by unfold avStep; rw [if_neg hm]
      rw [hs, ih, List.filter_cons, if_neg hm]

theorem lastWins_sublist (l : List Value) : (lastWins l).Sublist l := by
  fun_induction lastWins l with
  | case1 => exact List.Sublist.refl _
  | case2 v => exact List.Sublist.refl _
  | case3 v w rest he ih => exact List.Sublist.cons _ ih
  | case4 v w rest he ih => exact List.Sublist.cons_cons _ ih

theorem lastWins_mem (l : List Value) (v : Value) (h : v ∈ lastWins l) : v ∈ l :=
  (lastWins_sublist l).subset h

theorem lastWins_covers (l : List Value) (v : Value) (h : v ∈ l) :
    ∃ v' ∈ lastWins l, v'.number = v.number := by
  fun_induction lastWins l generalizing v with
  | case1 => cases h
  | case2 x => exact ⟨v, by simpa [lastWins] using h, rfl⟩
  | case3 x w rest he ih =>
    rcases List.mem_cons.1 h with rfl | h'
    · obtain ⟨v', hv', hn⟩ := ih w List.mem_cons_self
      exact ⟨v', hv', by rw [hn]; exact (beq_iff_eq.1 he).symm⟩
    · exact ih v h'
  | case4 x w rest he ih =>
    rcases List.mem_cons.1 h with rfl | h'
    · exact ⟨v, List.mem_cons_self, rfl⟩
    · obtain ⟨v', hv', hn⟩ := ih v h'
      exact ⟨v', List.mem_cons_of_mem _ hv', hn⟩

theorem lt_of_sorted_ne {v w : Value} {rest : List Value}
    (hs : (v :: w :: rest).Pairwise (fun a b => a.number ≤ b.number)) (he : ¬ (v.number == w.number) = true) :
    ∀ u ∈ w :: rest, v.number < u.number := by
  intro u hu
  have hvw : v.number ≤ w.number := (List.pairwise_cons.1 hs).1 w List.mem_cons_self
  have hne : v.number ≠ w.number := fun e => he (beq_iff_eq.2 e)
  have hwu : w.number ≤ u.number := by
    rcases List.mem_cons.1 hu with rfl | h
    · exact Nat.le_refl _
    · exact (List.pairwise_cons.1 (List.Pairwise.of_cons hs)).1 u h
  omega

theorem lastWins_strict (l : List Value) (hs : l.Pairwise (fun a b => a.number ≤ b.number)) :
    (lastWins l).Pairwise (fun a b => a.number < b.number) := by
  fun_induction lastWins l with
  | case1 => exact List.Pairwise.nil
  | case2 v => exact List.pairwise_singleton _ _
  | case3 v w rest he ih => exact ih (List.Pairwise.of_cons hs)
  | case4 v w rest he ih =>
    exact List.Pairwise.cons (fun u hu => lt_of_sorted_ne hs he u (lastWins_mem _ _ hu))
      (ih (List.Pairwise.of_cons hs))

theorem lastWins_mem_iff (l : List Value) (hs : l.Pairwise (fun a b => a.number ≤ b.number)) (v : Value) :
    v ∈ lastWins l ↔ ∃ pre post, l = pre ++ v :: post ∧ ∀ w ∈ post, v.number < w.number := by
  constructor
  · intro h
    fun_induction lastWins l with
    | case1 => cases h
    | case2 x =>
      have : v = x := by simpa using h
      subst this
      exact ⟨[], [], rfl, fun w hw => by cases hw⟩
    | case3 x w rest he ih =>
      obtain ⟨pre, post, e, hp⟩ := ih (List.Pairwise.of_cons hs) h
      exact ⟨x :: pre, post, by rw [e]; rfl, hp⟩
    | case4 x w rest he ih =>
      have hs' := List.Pairwise.of_cons hs
      rcases List.mem_cons.1 h with rfl | h'
      · exact ⟨[], w :: rest, rfl, lt_of_sorted_ne hs he⟩
      · obtain ⟨pre, post, e, hp⟩ := ih hs' h'
        exact ⟨x :: pre, post, by rw [e]; rfl, hp⟩
  · rintro ⟨pre, post, e, hp⟩
    clear hs
    fun_induction lastWins l generalizing pre with
    | case1 => cases pre <;> cases e
    | case2 x =>
      cases pre with
      | nil => cases e; exact List.mem_cons_self
      | cons p pre => cases pre <;> cases e
    | case3 x w rest he ih =>
      cases pre with
      | nil =>
        cases e
        have := hp w List.mem_cons_self
        have := beq_iff_eq.1 he
        omega
      | cons p pre =>
        simp only [List.cons_append, List.cons.injEq] at e
        exact ih pre e.2
    | case4 x w rest he ih =>
      cases pre with
      | nil => cases e; exact List.mem_cons_self
      | cons p pre =>
        simp only [List.cons_append, List.cons.injEq] at e
        exact List.mem_cons_of_mem _ (ih pre e.2)

theorem mapLookup_of_mem (m : List (Nat × Bytes)) (hn : (m.map (·.1)).Nodup) (k : Nat) (s : Bytes)
    (h : (k, s) ∈ m) : mapLookup m k = some s := by
  induction m with
  | nil => cases h
  | cons e m ih =>
    unfold mapLookup
    rw [List.map_cons, List.nodup_cons] at hn
    rcases List.mem_cons.1 h with rfl | h'
    · simp
    · have hne : e.1 ≠ k := by
        intro he
        apply hn.1
        rw [he]
        exact List.mem_map.2 ⟨(k, s), h', rfl⟩
      rw [List.find?_cons_of_neg (by simpa using hne)]
      exact ih hn.2 h'

theorem mapLookup_none (m : List (Nat × Bytes)) (k : Nat) (h : ∀ e ∈ m, e.1 ≠ k) : mapLookup m k = none := by
  unfold mapLookup
  rw [List.find?_eq_none.2 (by intro e he; simpa using h e he)]
  rfl

theorem sortValues_sorted (vs : List Value) :
    (sortValues vs).Pairwise (fun a b => a.number ≤ b.number) := by
  have := sortStable_pairwise (fun a b : Value => decide (a.number < b.number))
    (by intro a b h; simp at h ⊢; omega) (by intro a b c h1 h2; simp at h1 h2 ⊢; omega) vs
  refine List.Pairwise.imp ?_ this
  intro a b h; simp at h; exact h

end RV.Gen
