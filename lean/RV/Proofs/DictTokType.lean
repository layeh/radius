/-
  C16, token level (L1), part 3: type names and flags.
  `strings.EqualFold` against the parser's lower-case constants is the relation `FoldsTo` of the
  grammar; the type switch of `parseAttribute` accepts exactly the type tokens `TypeTok`;
  `strings.Split(s, ",")` is `FlagField`; the flag loop accepts exactly the item lists `FlagItems`
  in which no flag kind occurs twice.
-/
import RV.Proofs.DictTokBase
namespace RV.DictParser
open RV RV.Dict RV.DictParser.Spec RV.DictParser.Grammar

/-- the equation of `foldEq` on two non-empty strings, so that one step of it can be rewritten -/
theorem foldEq_cons_cons (c d : UInt8) (s t : Bytes) : foldEq (c :: s) (d :: t) =
    if c == d || (65 ≤ c && c ≤ 90 && c + 32 == d) then foldEq s t
    else if c == 0xC5 && d == 115 then
      match s with
      | e :: s' => if e == 0xBF then foldEq s' t else false
      | [] => false
    else if c == 0xE2 && d == 107 then
      match s with
      | e :: f :: s' => if e == 0x84 && f == 0xAA then foldEq s' t else false
      | _ => false
    else false := by
  conv => lhs; unfold foldEq
  rfl

theorem foldEq_cons_of_match (c d : UInt8) (s t : Bytes)
    (h : (c == d || (65 ≤ c && c ≤ 90 && c + 32 == d)) = true) : foldEq (c :: s) (d :: t) = foldEq s t := by
  rw [foldEq_cons_cons, if_pos h]

@[simp] theorem foldEq_nil_cons (d : UInt8) (t : Bytes) : foldEq [] (d :: t) = false := by
  unfold foldEq; rfl
@[simp] theorem foldEq_cons_nil (c : UInt8) (s : Bytes) : foldEq (c :: s) [] = false := by
  unfold foldEq; rfl

theorem foldsTo_foldEq {s t : Bytes} (h : FoldsTo s t) : foldEq s t = true := by
  induction h with
  | nil => simp [foldEq]
  | same c _ ih => rw [foldEq_cons_of_match _ _ _ _ (by simp)]; exact ih
  | upper c h1 h2 _ ih => rw [foldEq_cons_of_match _ _ _ _ (by simp [h1, h2])]; exact ih
  | longS _ ih =>
    rw [foldEq_cons_cons]
    simp only [show ((0xC5 : UInt8) == 115 || (65 ≤ (0xC5 : UInt8) && (0xC5 : UInt8) ≤ 90 && (0xC5 : UInt8) + 32 == 115)) = false by decide,
      Bool.false_eq_true, if_false, beq_self_eq_true, Bool.and_self, if_true]
    exact ih
  | kelvin _ ih =>
    rw [foldEq_cons_cons]
    simp only [show ((0xE2 : UInt8) == 107 || (65 ≤ (0xE2 : UInt8) && (0xE2 : UInt8) ≤ 90 && (0xE2 : UInt8) + 32 == 107)) = false by decide,
      show ((0xE2 : UInt8) == 0xC5) = false by decide,
      Bool.false_eq_true, if_false, beq_self_eq_true, Bool.and_self, if_true, Bool.false_and]
    exact ih

theorem foldEq_foldsTo (s t : Bytes) : foldEq s t = true → FoldsTo s t := by
  -- the cases follow the branches of `foldEq` in the order of its text
  fun_induction foldEq s t
  case case1 => exact fun _ => .nil
  case case2 c s d t hm ih =>  -- same byte, or capital for small letter
    intro h
    simp only [Bool.or_eq_true, Bool.and_eq_true, beq_iff_eq, decide_eq_true_eq] at hm
    rcases hm with rfl | ⟨⟨h1, h2⟩, rfl⟩
    · exact .same c (ih h)
    · exact .upper c h1 h2 (ih h)
  case case3 c d t _ hc e tail he ih =>  -- C5 BF for `s`
    intro h
    simp only [Bool.and_eq_true, beq_iff_eq] at hc he
    obtain ⟨rfl, rfl⟩ := hc
    subst he
    exact .longS (ih h)
  case case6 c d t _ _ hc e f tail he ih =>  -- E2 84 AA for `k`
    intro h
    simp only [Bool.and_eq_true, beq_iff_eq] at hc he
    obtain ⟨rfl, rfl⟩ := hc
    obtain ⟨rfl, rfl⟩ := he
    exact .kelvin (ih h)
  -- all other cases: `foldEq` is `false`
  all_goals exact fun h => Bool.noConfusion h

theorem foldEq_iff (s t : Bytes) : foldEq s t = true ↔ FoldsTo s t :=
  ⟨foldEq_foldsTo s t, foldsTo_foldEq⟩

/-- bytes of the parser's lower-case constants: a–z, 0–9, `[` -/
def lowerTok (b : UInt8) : Bool := (97 ≤ b && b ≤ 122) || (48 ≤ b && b ≤ 57) || b == 91

theorem typeName_lower (ty : AttrType) : (typeName ty).all lowerTok = true := by cases ty <;> decide

theorem typeTable_names : typeTable.all (fun e => e.1 == typeName e.2) = true := by decide

theorem lowerTok_facts {c : UInt8} (h : lowerTok c = true) :
    ¬ (65 ≤ c ∧ c ≤ 90) ∧ c ≠ 0xC5 ∧ c ≠ 0xE2 := by
  have hlt := c.toNat_lt
  simp only [lowerTok, Bool.or_eq_true, Bool.and_eq_true, decide_eq_true_eq, beq_iff_eq, UInt8.le_iff_toNat_le,
    ne_eq, ← UInt8.toNat_inj] at *
  simp at *
  omega

theorem upper_ne {c : UInt8} (h : c ≤ 90) : c ≠ 0xC5 ∧ c ≠ 0xE2 := by
  have hlt := c.toNat_lt
  simp only [UInt8.le_iff_toNat_le, ne_eq, ← UInt8.toNat_inj] at *
  simp at *
  omega

theorem foldsTo_cons_inv {x b : Bytes} (h : FoldsTo x b) : ∀ (c : UInt8) (s : Bytes), x = c :: s →
    (∃ b', b = c :: b' ∧ FoldsTo s b') ∨
    (∃ b', 65 ≤ c ∧ c ≤ 90 ∧ b = (c + 32) :: b' ∧ FoldsTo s b') ∨
    (∃ s' b', c = 0xC5 ∧ s = 0xBF :: s' ∧ b = 115 :: b' ∧ FoldsTo s' b') ∨
    (∃ s' b', c = 0xE2 ∧ s = 0x84 :: 0xAA :: s' ∧ b = 107 :: b' ∧ FoldsTo s' b') := by
  cases h with
  | nil => intro c s e; cases e
  | same c' h' =>
    intro c s e; injection e with e1 e2; subst e1 e2
    exact Or.inl ⟨_, rfl, h'⟩
  | upper c' h1 h2 h' =>
    intro c s e; injection e with e1 e2; subst e1 e2
    exact Or.inr (Or.inl ⟨_, h1, h2, rfl, h'⟩)
  | longS h' =>
    intro c s e; injection e with e1 e2; subst e1 e2
    exact Or.inr (Or.inr (Or.inl ⟨_, _, rfl, rfl, rfl, h'⟩))
  | kelvin h' =>
    intro c s e; injection e with e1 e2; subst e1 e2
    exact Or.inr (Or.inr (Or.inr ⟨_, _, rfl, rfl, rfl, h'⟩))

theorem foldsTo_nil_inv {b : Bytes} (h : FoldsTo [] b) : b = [] := by
  cases h; rfl

theorem foldsTo_unique {t a b : Bytes} (h1 : FoldsTo t a) (h2 : FoldsTo t b)
    (ha : a.all lowerTok = true) (hb : b.all lowerTok = true) : a = b := by
  induction h1 generalizing b with
  | nil => exact (foldsTo_nil_inv h2).symm
  | same c _ ih =>
    simp only [List.all_cons, Bool.and_eq_true] at ha
    obtain ⟨hup, hC5, hE2⟩ := lowerTok_facts ha.1
    rcases foldsTo_cons_inv h2 _ _ rfl with ⟨b', rfl, h'⟩ | ⟨b', l1, l2, rfl, h'⟩ | ⟨s', b', e, _⟩ | ⟨s', b', e, _⟩
    · simp only [List.all_cons, Bool.and_eq_true] at hb
      rw [ih h' ha.2 hb.2]
    · exact absurd ⟨l1, l2⟩ hup
    · exact absurd e hC5
    · exact absurd e hE2
  | upper c l1 l2 _ ih =>
    simp only [List.all_cons, Bool.and_eq_true] at ha
    obtain ⟨hC5, hE2⟩ := upper_ne l2
    rcases foldsTo_cons_inv h2 _ _ rfl with ⟨b', rfl, h'⟩ | ⟨b', _, _, rfl, h'⟩ | ⟨s', b', e, _⟩ | ⟨s', b', e, _⟩
    · simp only [List.all_cons, Bool.and_eq_true] at hb
      exact absurd ⟨l1, l2⟩ (lowerTok_facts hb.1).1
    · simp only [List.all_cons, Bool.and_eq_true] at hb
      rw [ih h' ha.2 hb.2]
    · exact absurd e hC5
    · exact absurd e hE2
  | longS _ ih =>
    simp only [List.all_cons, Bool.and_eq_true] at ha
    rcases foldsTo_cons_inv h2 _ _ rfl with ⟨b', rfl, h'⟩ | ⟨b', _, l2, rfl, h'⟩ | ⟨s', b', _, e, rfl, h'⟩ | ⟨s', b', e, _⟩
    · simp only [List.all_cons, Bool.and_eq_true] at hb
      exact absurd hb.1 (by decide)
    · exact absurd l2 (by decide)
    · injection e with _ e; subst e
      simp only [List.all_cons, Bool.and_eq_true] at hb
      rw [ih h' ha.2 hb.2]
    · exact absurd e (by decide)
  | kelvin _ ih =>
    simp only [List.all_cons, Bool.and_eq_true] at ha
    rcases foldsTo_cons_inv h2 _ _ rfl with ⟨b', rfl, h'⟩ | ⟨b', _, l2, rfl, h'⟩ | ⟨s', b', e, _⟩ | ⟨s', b', _, e, rfl, h'⟩
    · simp only [List.all_cons, Bool.and_eq_true] at hb
      exact absurd hb.1 (by decide)
    · exact absurd l2 (by decide)
    · exact absurd e (by decide)
    · injection e with _ e; injection e with _ e; subst e
      simp only [List.all_cons, Bool.and_eq_true] at hb
      rw [ih h' ha.2 hb.2]

/-- What a byte of a token that folds to `a` can be.  Used for `[` and `]`: being ASCII above `Z`, they
    must occur in `a` itself (`foldsTo_mem_ascii`), and no type name has them. -/
theorem foldsTo_mem {t a : Bytes} (h : FoldsTo t a) : ∀ x ∈ t,
    x ∈ a ∨ (x ≤ 90 ∧ x + 32 ∈ a) ∨ x = 0xC5 ∨ x = 0xBF ∨ x = 0xE2 ∨ x = 0x84 ∨ x = 0xAA := by
  have lift : ∀ {x : UInt8} {a : Bytes} (b : UInt8),
      (x ∈ a ∨ (x ≤ 90 ∧ x + 32 ∈ a) ∨ x = 0xC5 ∨ x = 0xBF ∨ x = 0xE2 ∨ x = 0x84 ∨ x = 0xAA) →
      (x ∈ b :: a ∨ (x ≤ 90 ∧ x + 32 ∈ b :: a) ∨ x = 0xC5 ∨ x = 0xBF ∨ x = 0xE2 ∨ x = 0x84 ∨ x = 0xAA) :=
    fun b h => h.imp (List.mem_cons_of_mem b) (Or.imp_left (And.imp_right (List.mem_cons_of_mem b)))
  induction h with
  | nil => intro x hx; cases hx
  | same c _ ih =>
    intro x hx
    rcases List.mem_cons.mp hx with rfl | hx
    · exact Or.inl List.mem_cons_self
    · exact lift c (ih x hx)
  | upper c _ l2 _ ih =>
    intro x hx
    rcases List.mem_cons.mp hx with rfl | hx
    · exact Or.inr (Or.inl ⟨l2, List.mem_cons_self⟩)
    · exact lift _ (ih x hx)
  | longS _ ih =>
    intro x hx
    simp only [List.mem_cons] at hx
    rcases hx with rfl | rfl | hx
    · exact Or.inr (Or.inr (Or.inl rfl))
    · exact Or.inr (Or.inr (Or.inr (Or.inl rfl)))
    · exact lift _ (ih x hx)
  | kelvin _ ih =>
    intro x hx
    simp only [List.mem_cons] at hx
    rcases hx with rfl | rfl | rfl | hx
    · exact Or.inr (Or.inr (Or.inr (Or.inr (Or.inl rfl))))
    · exact Or.inr (Or.inr (Or.inr (Or.inr (Or.inr (Or.inl rfl)))))
    · exact Or.inr (Or.inr (Or.inr (Or.inr (Or.inr (Or.inr rfl)))))
    · exact lift _ (ih x hx)

theorem foldsTo_mem_ascii {t a : Bytes} (h : FoldsTo t a) {x : UInt8} (hx : x ∈ t) (h1 : 90 < x) (h2 : x < 128) :
    x ∈ a := by
  rcases foldsTo_mem h x hx with h | ⟨h', _⟩ | rfl | rfl | rfl | rfl | rfl
  · exact h
  · exact absurd h1 (UInt8.not_lt.mpr h')
  all_goals exact absurd h2 (by decide)

theorem foldsTo_no_bracket {t a : Bytes} (h : FoldsTo t a) (ha : a.all lowerTok = true) : (93 : UInt8) ∉ t :=
  fun hx => absurd (List.all_eq_true.mp ha 93 (foldsTo_mem_ascii h hx (by decide) (by decide))) (by decide)

/-- the type names are pairwise different: the table of the type switch reads each of them back -/
theorem typeName_inj (ty ty' : AttrType) (h : typeName ty = typeName ty') : ty = ty' := by
  have back : ∀ t : AttrType,
      (if typeName t == nmString then AttrType.string else if typeName t == nmOctets then AttrType.octets
        else ((typeTable.find? (·.1 == typeName t)).map (·.2)).getD .string) = t := by
    intro t; cases t <;> decide
  rw [← back ty, ← back ty', h]

theorem foldEq_typeName {t : Bytes} {ty : AttrType} (h : FoldsTo t (typeName ty)) (ty' : AttrType)
    (h' : foldEq t (typeName ty') = true) : ty' = ty :=
  typeName_inj _ _ (foldsTo_unique ((foldEq_iff _ _).mp h') h (typeName_lower ty') (typeName_lower ty))

theorem find?_unique {α : Type} {l : List α} {p : α → Bool} {x : α} (hx : x ∈ l) (hp : p x = true)
    (hu : ∀ y ∈ l, p y = true → y = x) : l.find? p = some x := by
  cases h : l.find? p with
  | none => exact absurd hp (List.find?_eq_none.mp h x hx)
  | some y => rw [hu y (List.mem_of_find?_eq_some h) (List.find?_some h)]

theorem typeTable_name {e : Bytes × AttrType} (he : e ∈ typeTable) : e.1 = typeName e.2 := by
  have := List.all_eq_true.mp typeTable_names e he
  simpa using this

theorem parseType_ok_typeTok {t : Bytes} {ty : AttrType} {size : Option Int}
    (h : parseType t = .ok (ty, size)) : TypeTok t ty size := by
  unfold parseType at h
  split at h
  · rename_i h1
    cases h
    exact Or.inl ⟨rfl, (foldEq_iff _ _).mp h1⟩
  · split at h
    · rename_i h2
      cases h
      exact Or.inl ⟨rfl, (foldEq_iff _ _).mp h2⟩
    · split at h
      · rename_i h3
        simp only [Bool.and_eq_true, decide_eq_true_eq, beq_iff_eq] at h3
        obtain ⟨⟨hlen, hfold⟩, hlast⟩ := h3
        split at h
        · rename_i n hn
          cases h
          have hlast' : (t.drop 7).getLast? = some 93 := by
            rw [List.getLast?_drop, if_neg (by omega)]; exact hlast
          obtain ⟨ys, hys⟩ := List.getLast?_eq_some_iff.mp hlast'
          have hdl : (t.drop 7).dropLast = ys := by rw [hys]; simp
          refine Or.inr ⟨rfl, t.take 7, (t.drop 7).dropLast, n, ?_, ?_, (foldEq_iff _ _).mp hfold,
            (parseInt32_iff _ _).mp hn, rfl⟩
          · rw [hdl, List.append_assoc, ← hys, List.take_append_drop]
          · rw [List.length_take]; omega
        · cases h
      · split at h
        · rename_i e he
          cases h
          have hn := typeTable_name (List.mem_of_find?_eq_some he)
          have hf := List.find?_some he
          rw [hn] at hf
          exact Or.inl ⟨rfl, (foldEq_iff _ _).mp hf⟩
        · cases h

theorem parseType_of_plain {t : Bytes} {ty : AttrType} (h : FoldsTo t (typeName ty)) :
    parseType t = .ok (ty, none) := by
  have hbr : (t.getLast? == some 93) = false := by
    apply Bool.eq_false_iff.mpr
    intro hl
    exact foldsTo_no_bracket h (typeName_lower ty) (List.mem_of_getLast? (by simpa using hl))
  unfold parseType
  by_cases hs : foldEq t nmString = true
  · have : AttrType.string = ty := foldEq_typeName h .string hs
    subst this
    simp [hs]
  · by_cases ho : foldEq t nmOctets = true
    · have : AttrType.octets = ty := foldEq_typeName h .octets ho
      subst this
      simp [hs, ho]
    · have hmem : (typeName ty, ty) ∈ typeTable := by
        cases ty
        · exact absurd ((foldEq_iff _ _).mpr h) hs
        · exact absurd ((foldEq_iff _ _).mpr h) ho
        all_goals decide
      have hfind : typeTable.find? (fun e => foldEq t e.1) = some (typeName ty, ty) := by
        apply find?_unique hmem ((foldEq_iff _ _).mpr h)
        intro e he hp
        have hn := typeTable_name he
        rw [hn] at hp
        have := foldEq_typeName h e.2 hp
        exact Prod.ext (by rw [hn, this]) this
      simp [hs, ho, hbr, hfind]

theorem parseType_of_noName {t : Bytes} (h : ∀ ty, foldEq t (typeName ty) = false) :
    parseType t =
      if t.length > 8 && foldEq (t.take 7) kwOctetsBr && t.getLast? == some 93 then
        match parseInt32 (t.drop 7).dropLast with
        | some n => .ok (.octets, some n)
        | none => .error .unknownAttributeType
      else .error .unknownAttributeType := by
  have h1 : foldEq t nmString = false := h .string
  have h2 : foldEq t nmOctets = false := h .octets
  have h4 : typeTable.find? (fun e => foldEq t e.1) = none := by
    rw [List.find?_eq_none]
    intro e he
    rw [typeTable_name he, h e.2]; simp
  simp only [parseType, h1, h2, h4, Bool.false_eq_true, if_false]
  rfl

theorem parseType_of_sized {p lit : Bytes} {n : Int} (hp : p.length = 7) (hf : FoldsTo p kwOctetsBr)
    (hl : Int32Lit lit n) : parseType (p ++ lit ++ [93]) = .ok (.octets, some n) := by
  have hpos : 0 < lit.length := List.length_pos_iff.mpr (int32Lit_ne_nil hl)
  have hnot : ∀ ty, foldEq (p ++ lit ++ [93]) (typeName ty) = false := fun ty =>
    Bool.eq_false_iff.mpr fun hh => foldsTo_no_bracket ((foldEq_iff _ _).mp hh) (typeName_lower ty) (by simp)
  have hlen : (8 < (p ++ lit ++ [93]).length) = True := by simp [hp]; omega
  have htake : (p ++ lit ++ [93]).take 7 = p := by
    rw [List.append_assoc, List.take_append_of_le_length (by omega)]
    exact List.take_of_length_le (by omega)
  have hdrop : ((p ++ lit ++ [93]).drop 7).dropLast = lit := by
    rw [List.append_assoc, List.drop_append_of_le_length (by omega), List.drop_of_length_le (by omega)]
    simp
  have hlast : (p ++ lit ++ [93]).getLast? = some 93 := by simp
  rw [parseType_of_noName hnot]
  simp only [gt_iff_lt, hlen, htake, (foldEq_iff _ _).mpr hf, hlast, hdrop, (parseInt32_iff _ _).mpr hl, decide_true,
    beq_self_eq_true, Bool.and_self, if_true]

theorem parseType_iff (t : Bytes) (ty : AttrType) (size : Option Int) :
    parseType t = .ok (ty, size) ↔ TypeTok t ty size := by
  constructor
  · exact parseType_ok_typeTok
  · rintro (⟨rfl, h⟩ | ⟨rfl, p, lit, n, rfl, hp, hf, hl, rfl⟩)
    · exact parseType_of_plain h
    · exact parseType_of_sized hp hf hl

theorem parseType_error (t : Bytes) (e : ErrClass) (h : parseType t = .error e) : e = .unknownAttributeType := by
  -- the switch has two `.error` results, both UnknownAttributeTypeError: a bad size in `octets[n]`, no name in the table
  unfold parseType at h
  split at h
  · cases h
  split at h
  · cases h
  split at h <;> split at h
  · cases h
  · cases h; rfl
  · cases h
  · cases h; rfl

theorem upper_of_lower {c : UInt8} (h1 : 97 ≤ c) (h2 : c ≤ 122) : 65 ≤ c - 32 ∧ c - 32 ≤ 90 ∧ c - 32 + 32 = c := by
  have hlt := c.toNat_lt
  simp only [UInt8.le_iff_toNat_le, ← UInt8.toNat_inj, UInt8.toNat_sub, UInt8.toNat_add] at *
  simp at *
  omega

theorem foldsTo_refl (t : Bytes) : FoldsTo t t := by
  induction t with
  | nil => exact .nil
  | cons c t ih => exact .same c ih

theorem foldsTo_applyCase : ∀ (m : List Bool) (t : Bytes), FoldsTo (applyCase m t) t
  | m, [] => by cases m <;> exact .nil
  | [], c :: t => foldsTo_refl _
  | u :: m, c :: t => by
    have ih := foldsTo_applyCase m t
    rw [applyCase]
    split
    · rename_i h
      simp only [Bool.and_eq_true, decide_eq_true_eq] at h
      obtain ⟨l1, l2, e⟩ := upper_of_lower h.1.2 h.2
      have := FoldsTo.upper (c - 32) l1 l2 ih
      rwa [e] at this
    · exact .same c ih

@[simp] theorem length_applyCase : ∀ (m : List Bool) (s : Bytes), (applyCase m s).length = s.length
  | m, [] => by cases m <;> rfl
  | [], c :: s => rfl
  | u :: m, c :: s => by simp [applyCase, length_applyCase m s]

theorem typeTok_typeToken (m : List Bool) (a : AAttr) (h : a.ok = true) : TypeTok (typeToken m a) a.typ a.size := by
  unfold typeToken
  cases hs : a.size with
  | none => exact Or.inl ⟨rfl, foldsTo_applyCase m _⟩
  | some n =>
    simp only [AAttr.ok, Bool.and_eq_true, hs, beq_iff_eq] at h
    exact Or.inr ⟨h.1.2.1, _, _, n, rfl, by simp [kwOctetsBr], foldsTo_applyCase m _, int32Lit_showInt n h.1.2.2, rfl⟩

theorem parseType_typeToken (m : List Bool) (a : AAttr) (h : a.ok = true) : parseType (typeToken m a) = .ok (a.typ, a.size) :=
  (parseType_iff _ _ _).mpr (typeTok_typeToken m a h)

theorem splitComma_token (t rest : Bytes) (h : t.all (· != 44) = true) : splitComma (t ++ 44 :: rest) = t :: splitComma rest := by
  induction t with
  | nil => simp [splitComma]
  | cons b t ih =>
    simp only [List.all_cons, Bool.and_eq_true, bne_iff_ne, ne_eq] at h
    have hb : (b == 44) = false := by simpa using h.1
    simp [splitComma, hb, ih (by simpa using h.2)]

theorem splitComma_last (t : Bytes) (h : t.all (· != 44) = true) : splitComma t = [t] := by
  induction t with
  | nil => simp [splitComma]
  | cons b t ih =>
    simp only [List.all_cons, Bool.and_eq_true, bne_iff_ne, ne_eq] at h
    have hb : (b == 44) = false := by simpa using h.1
    rw [splitComma]
    simp only [hb, Bool.false_eq_true, if_false, ih (by simpa using h.2)]

theorem splitComma_intercalate : ∀ (toks : List Bytes), toks ≠ [] → (∀ t ∈ toks, t.all (· != 44) = true) →
    splitComma (Spec.intercalate 44 toks) = toks
  | [], h, _ => absurd rfl h
  | [t], _, h => by simpa [Spec.intercalate] using splitComma_last t (h t (by simp))
  | t :: u :: rest, _, h => by
    simp only [Spec.intercalate]
    rw [splitComma_token t _ (h t (by simp)), splitComma_intercalate (u :: rest) (by simp) (fun x hx => h x (by simp [hx]))]

theorem noComma_iff (t : Bytes) : t.all (· != 44) = true ↔ ∀ b ∈ t, b ≠ 44 := by
  simp [List.all_eq_true]

theorem splitComma_flagField (s : Bytes) : FlagField s (splitComma s) := by
  fun_induction splitComma s
  case case1 => exact ⟨by simp, by simp, rfl⟩  -- the empty field has one empty item
  case case2 b rest hb ih =>  -- a comma: a new, empty first item
    obtain ⟨hne, hno, hjoin⟩ := ih
    refine ⟨by simp, ?_, ?_⟩
    · intro t ht
      rcases List.mem_cons.mp ht with rfl | ht
      · intro x hx; cases hx
      · exact hno t ht
    · cases hsr : splitComma rest with
      | nil => exact absurd hsr hne
      | cons y r =>
        rw [hsr] at hjoin
        simp only [Spec.intercalate, List.nil_append, eq_of_beq hb, ← hjoin]
  case case3 b rest hb hnil ih => exact absurd hnil ih.1  -- `splitComma rest = []` does not happen
  case case4 b rest hb l ls hsr ih =>  -- another byte: put in front of the first item
    rw [hsr] at ih
    obtain ⟨_, hno, hjoin⟩ := ih
    have hb' : b ≠ 44 := by simpa using hb
    refine ⟨by simp, ?_, ?_⟩
    · intro t ht
      rcases List.mem_cons.mp ht with rfl | ht
      · intro x hx
        rcases List.mem_cons.mp hx with rfl | hx
        · exact hb'
        · exact hno l (by simp) x hx
      · exact hno t (by simp [ht])
    · cases ls with
      | nil => simpa [Spec.intercalate] using hjoin
      | cons y r =>
        simp only [Spec.intercalate] at hjoin ⊢
        rw [hjoin]; rfl

theorem splitComma_iff (s : Bytes) (items : List Bytes) : splitComma s = items ↔ FlagField s items := by
  constructor
  · rintro rfl; exact splitComma_flagField s
  · rintro ⟨hne, hno, rfl⟩
    exact splitComma_intercalate items hne (fun t ht => (noComma_iff t).mpr (hno t ht))

theorem parseFlags_ok (items : List Bytes) (a a' : Attribute) : parseFlags items a = .ok a' →
    ∃ fl, FlagItems items fl ∧ FlagsOnce a fl ∧ a' = fl.foldl applyFlag a := by
  -- the cases follow the branches of `parseFlags` in the order of its text
  fun_induction parseFlags items a
  case case1 => exact fun h => ⟨[], .nil, rfl, by cases h; rfl⟩
  case case3 f fs a he hnone n hn ih =>  -- `encrypt=` not yet set, with an int32
    intro h
    obtain ⟨fl, hfl, honce, rfl⟩ := ih h
    have hlit := (parseInt32_iff _ _).mp hn
    have hf : kwEncrypt ++ f.drop 8 = f := by rw [← eq_of_beq he, List.take_append_drop]
    refine ⟨.encrypt n :: fl, .cons (hf ▸ FlagItem.encrypt _ n hlit) hfl, ?_, rfl⟩
    have hn' : a.encrypt.isNone = true := by cases hen : a.encrypt <;> simp [hen] at hnone ⊢
    simp only [FlagsOnce, flagsOK, hn', int32Lit_ok hlit, Bool.true_and]
    exact honce
  case case6 f fs a _ he hnone ih =>  -- `has_tag` not yet set
    intro h
    obtain ⟨fl, hfl, honce, rfl⟩ := ih h
    refine ⟨.hasTag :: fl, .cons (eq_of_beq he ▸ .hasTag) hfl, ?_, rfl⟩
    have hn' : a.hasTag.isNone = true := by cases hen : a.hasTag <;> simp [hen] at hnone ⊢
    simp only [FlagsOnce, flagsOK, hn', Bool.true_and]
    exact honce
  case case8 f fs a _ _ he hnone ih =>  -- `concat` not yet set
    intro h
    obtain ⟨fl, hfl, honce, rfl⟩ := ih h
    refine ⟨.concat :: fl, .cons (eq_of_beq he ▸ .concat) hfl, ?_, rfl⟩
    have hn' : a.isConcat.isNone = true := by cases hen : a.isConcat <;> simp [hen] at hnone ⊢
    simp only [FlagsOnce, flagsOK, hn', Bool.true_and]
    exact honce
  -- all other cases: `parseFlags` is an `.error`
  all_goals exact fun h => nomatch h

theorem parseFlags_append {items : List Bytes} {fl : List Flag} (hi : FlagItems items fl) (rest : List Bytes) :
    ∀ (a : Attribute), FlagsOnce a fl → parseFlags (items ++ rest) a = parseFlags rest (fl.foldl applyFlag a) := by
  induction hi with
  | nil => intro a _; rfl
  | cons hitem _ ih =>
    intro a honce
    cases hitem with
    | hasTag =>
      simp only [FlagsOnce, flagsOK, Bool.and_eq_true] at honce
      have h1 : (kwHasTag.take 8 == kwEncrypt) = false := by decide
      have hnone : a.hasTag.isSome = false := by
        cases he : a.hasTag <;> simp [he] at honce ⊢
      simp only [List.cons_append, parseFlags, h1, Bool.false_eq_true, if_false, beq_self_eq_true, if_true, hnone,
        List.foldl_cons, applyFlag]
      exact ih _ honce.2
    | concat =>
      simp only [FlagsOnce, flagsOK, Bool.and_eq_true] at honce
      have h1 : (kwConcat.take 8 == kwEncrypt) = false := by decide
      have h2 : (kwConcat == kwHasTag) = false := by decide
      have hnone : a.isConcat.isSome = false := by
        cases he : a.isConcat <;> simp [he] at honce ⊢
      simp only [List.cons_append, parseFlags, h1, h2, Bool.false_eq_true, if_false, beq_self_eq_true, if_true, hnone,
        List.foldl_cons, applyFlag]
      exact ih _ honce.2
    | encrypt lit n hlit =>
      simp only [FlagsOnce, flagsOK, Bool.and_eq_true] at honce
      have ht : (kwEncrypt ++ lit).take 8 = kwEncrypt := by simp [kwEncrypt]
      have hd : (kwEncrypt ++ lit).drop 8 = lit := by simp [kwEncrypt]
      have hnone : a.encrypt.isSome = false := by
        cases he : a.encrypt <;> simp [he] at honce ⊢
      simp only [List.cons_append, parseFlags, ht, beq_self_eq_true, if_true, hnone, Bool.false_eq_true, if_false, hd,
        (parseInt32_iff _ _).mpr hlit, List.foldl_cons, applyFlag]
      exact ih _ honce.2

theorem parseFlags_of_items {items : List Bytes} {fl : List Flag} (hi : FlagItems items fl) (a : Attribute)
    (h : FlagsOnce a fl) : parseFlags items a = .ok (fl.foldl applyFlag a) := by
  have := parseFlags_append hi [] a h
  rwa [List.append_nil] at this

theorem parseFlags_iff (items : List Bytes) (a a' : Attribute) :
    parseFlags items a = .ok a' ↔ ∃ fl, FlagItems items fl ∧ FlagsOnce a fl ∧ a' = fl.foldl applyFlag a := by
  constructor
  · exact parseFlags_ok items a a'
  · rintro ⟨fl, hi, honce, rfl⟩
    exact parseFlags_of_items hi a honce

theorem flagItems_flagToken : ∀ (fs : List Flag) (a : Attribute), flagsOK a fs = true → FlagItems (fs.map flagToken) fs
  | [], _, _ => .nil
  | .encrypt n :: fs, a, h => by
    simp only [flagsOK, Bool.and_eq_true] at h
    exact .cons (.encrypt _ n (int32Lit_showInt n h.1.2)) (flagItems_flagToken fs _ h.2)
  | .hasTag :: fs, a, h => by
    simp only [flagsOK, Bool.and_eq_true] at h
    exact .cons .hasTag (flagItems_flagToken fs _ h.2)
  | .concat :: fs, a, h => by
    simp only [flagsOK, Bool.and_eq_true] at h
    exact .cons .concat (flagItems_flagToken fs _ h.2)

theorem showInt_chars (i : Int) : ∀ b ∈ showInt i, isDigit b = true ∨ b = 45 := by
  have hd : ∀ n, ∀ b ∈ showDec n, isDigit b = true := fun n b hb => (isDigit_iff b).mpr ((showDec_spec n).1.2 b hb)
  unfold showInt
  split
  · intro b hb
    rcases List.mem_cons.mp hb with rfl | hb
    · exact Or.inr rfl
    · exact Or.inl (hd _ b hb)
  · exact fun b hb => Or.inl (hd _ b hb)

theorem flagToken_noComma (f : Flag) : (flagToken f).all (· != 44) = true := by
  cases f with
  | hasTag => decide
  | concat => decide
  | encrypt n =>
    simp only [flagToken, List.all_append, Bool.and_eq_true, List.all_eq_true, bne_iff_ne, ne_eq]
    refine ⟨by decide, fun b hb => ?_⟩
    rcases showInt_chars n b hb with h | rfl
    · rintro rfl; exact absurd h (by decide)
    · decide

/-- `ſtring` (U+017F LATIN SMALL LETTER LONG S) folds to `string` -/
example : FoldsTo [0xC5, 0xBF, 116, 114, 105, 110, 103] nmString :=
  .longS (.same _ (.same _ (.same _ (.same _ (.same _ .nil)))))
/-- `KELVIN SIGN` folds to `k`, a capital to its small letter -/
example : FoldsTo [0xE2, 0x84, 0xAA, 69] [107, 101] := .kelvin (.upper 69 (by decide) (by decide) .nil)
example : ¬ FoldsTo [0xC5, 116] [115, 116] := fun h => absurd ((foldEq_iff _ _).mpr h) (by decide)
example : ¬ FoldsTo [115] [83] := fun h => absurd ((foldEq_iff _ _).mpr h) (by decide)

/-- `OcTeTs[+16]` -/
example : TypeTok [79, 99, 84, 101, 84, 115, 91, 43, 49, 54, 93] .octets (some 16) :=
  Or.inr ⟨rfl, [79, 99, 84, 101, 84, 115, 91], [43, 49, 54], 16, rfl, rfl,
    .upper 79 (by decide) (by decide) (.same _ (.upper 84 (by decide) (by decide) (.same _
      (.upper 84 (by decide) (by decide) (.same _ (.same _ .nil)))))),
    ⟨[49, 54], by decide, Or.inl ⟨Or.inr rfl, by decide⟩, by decide, by decide⟩, rfl⟩
example : parseType [79, 99, 84, 101, 84, 115, 91, 43, 49, 54, 93] = .ok (.octets, some 16) := rfl
/-- `vſa` is the type `vsa`, `IPADDR` is `ipaddr` -/
example : TypeTok [118, 0xC5, 0xBF, 97] .vsa none := (parseType_iff _ _ _).mp rfl
example : TypeTok [73, 80, 65, 68, 68, 82] .ipaddr none := (parseType_iff _ _ _).mp rfl
/-- `octetſ[1]` (the long s makes the prefix 8 bytes), `octets[]` and `strin` are no type tokens -/
example : ∀ ty size, ¬ TypeTok [111, 99, 116, 101, 116, 0xC5, 0xBF, 91, 49, 93] ty size := by
  intro ty size h
  have := (parseType_iff _ _ _).mpr h
  rw [show parseType [111, 99, 116, 101, 116, 0xC5, 0xBF, 91, 49, 93] = .error .unknownAttributeType from rfl] at this
  cases this
example : ∀ ty size, ¬ TypeTok [111, 99, 116, 101, 116, 115, 91, 93] ty size := by
  intro ty size h
  have := (parseType_iff _ _ _).mpr h
  rw [show parseType [111, 99, 116, 101, 116, 115, 91, 93] = .error .unknownAttributeType from rfl] at this
  cases this
example : ∀ ty size, ¬ TypeTok [115, 116, 114, 105, 110] ty size := by
  intro ty size h
  have := (parseType_iff _ _ _).mpr h
  rw [show parseType [115, 116, 114, 105, 110] = .error .unknownAttributeType from rfl] at this
  cases this

/-- `has_tag,encrypt=1` -/
example : FlagField (kwHasTag ++ 44 :: kwEncrypt ++ [49]) [kwHasTag, kwEncrypt ++ [49]] :=
  (splitComma_iff _ _).mp (by decide)
/-- `a,,b` has an empty item; the empty field has one (empty) item -/
example : FlagField [97, 44, 44, 98] [[97], [], [98]] ∧ FlagField [] [[]] :=
  ⟨(splitComma_iff _ _).mp (by decide), (splitComma_iff _ _).mp (by decide)⟩
example : ¬ FlagField [97, 44, 98] [[97, 44, 98]] := fun h => absurd ((splitComma_iff _ _).mpr h) (by decide)

example : FlagItems [kwHasTag, kwEncrypt ++ [49]] [.hasTag, .encrypt 1] :=
  .cons .hasTag (.cons (.encrypt [49] 1 ⟨[49], by decide, Or.inl ⟨Or.inl rfl, by decide⟩, by decide, by decide⟩) .nil)
example : parseFlags [kwHasTag, kwEncrypt ++ [49]] { name := [], oid := [], typ := .string } =
    .ok { name := [], oid := [], typ := .string, hasTag := some true, encrypt := some 1 } := rfl
/-- the same flag kind twice, or an empty item, is refused -/
example : ¬ ∃ fl, FlagItems [kwHasTag, kwHasTag] fl ∧ FlagsOnce { name := [], oid := [], typ := .string } fl ∧
    ({ name := [], oid := [], typ := .string } : Attribute) = fl.foldl applyFlag { name := [], oid := [], typ := .string } := by
  intro h
  have := (parseFlags_iff _ _ _).mpr h
  rw [show parseFlags [kwHasTag, kwHasTag] { name := [], oid := [], typ := .string } = .error .duplicateAttributeFlag from rfl] at this
  cases this
example : ∀ fl, ¬ FlagItems [[]] fl := by
  intro fl h
  cases h with
  | cons hi _ => cases hi

end RV.DictParser
