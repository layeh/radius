/- Refinement: the Exchange logic machine (`RV.Exchange.step`) restricted to the datagrams it reads
   is the receive loop `RV.Client.recvLoop`. -/
import RV.Proofs.Client
namespace RV
namespace Exchange
open RV.Client RV.Exchange

variable (H : Hash) (P : Params)

theorem recvLoop_snoc (hist : List Bytes) (d : Bytes)
    (h : recvLoop H P.cfg P.wireBytes P.secret hist = .waiting) :
    recvLoop H P.cfg P.wireBytes P.secret (hist ++ [d]) =
      match stepDatagram H P.cfg P.wireBytes P.secret (hist.length : Int) d with
      | .ret p => .returned hist.length p
      | .fail e => .failed hist.length e
      | .cont _ => .waiting := by
  obtain ⟨hall, hb⟩ := (recvLoop_waiting_iff H P.cfg P.wireBytes P.secret hist).1 h
  unfold recvLoop
  rw [recvLoopFrom_skip H P.cfg P.wireBytes P.secret hist [d] 0 0 hall (by simpa using hb), Nat.zero_add,
    Int.zero_add, recvLoopFrom]
  cases stepDatagram H P.cfg P.wireBytes P.secret (hist.length : Int) d <;> rfl

/-- the relation between a machine state and the datagrams it has read so far -/
def RefinesAt (phase : Phase) (ec : Int) (hist : List Bytes) : Prop :=
  match phase with
  | .dialing => hist = [] ∧ ec = 0
  | .waiting =>
    recvLoop H P.cfg P.wireBytes P.secret hist = .waiting ∧ ec = (hist.length : Int)
  | .returned (.reply p) =>
    ∃ pre d, hist = pre ++ [d] ∧ recvLoop H P.cfg P.wireBytes P.secret pre = .waiting ∧
      recvLoop H P.cfg P.wireBytes P.secret hist = .returned pre.length p
  | .returned (.pktErr e) =>
    ∃ pre d, hist = pre ++ [d] ∧ recvLoop H P.cfg P.wireBytes P.secret pre = .waiting ∧
      recvLoop H P.cfg P.wireBytes P.secret hist = .failed pre.length e
  -- encode, dial, context and network errors: the call returns while the loop has not decided
  | .returned _ => recvLoop H P.cfg P.wireBytes P.secret hist = .waiting

def Refines (s : State) (hist : List Bytes) : Prop := RefinesAt H P s.phase s.errCount hist

theorem deliveredBy_not_waiting (s : State) (e : Event) (h : s.phase ≠ .waiting) :
    deliveredBy s e = [] := by
  cases e <;> simp [deliveredBy, h]

theorem refines_step (s : State) (e : Event) (hist : List Bytes) (h : Refines H P s hist) :
    Refines H P (step H P s e) (hist ++ deliveredBy s e) := by
  unfold Refines at h ⊢
  cases hp : s.phase with
  | dialing =>
    rw [hp] at h
    obtain ⟨rfl, h0⟩ := h
    rw [deliveredBy_not_waiting _ e (by simp [hp]), step_dialing H P hp]
    cases e <;> cases hcd : s.ctxDone <;> simp [RefinesAt, hp, h0, recvLoop, recvLoopFrom]
  | returned r =>
    obtain ⟨hr, -, hec⟩ := step_returned H P s e r hp
    rw [deliveredBy_not_waiting _ e (by simp [hp]), List.append_nil, hr, hec, ← hp]
    exact h
  | waiting =>
    rw [hp] at h
    obtain ⟨hw, hc⟩ := h
    by_cases hd : ∃ d, e = .datagram d ∧ s.connClosed = false
    · -- a datagram is read: one more iteration of the loop
      obtain ⟨d, rfl, hcc⟩ := hd
      have hsn := recvLoop_snoc H P hist d hw
      rw [step_datagram_open H P s d hp hcc, show deliveredBy s (.datagram d) = [d] by simp [deliveredBy, hp, hcc], hc]
      cases hs : stepDatagram H P.cfg P.wireBytes P.secret (hist.length : Int) d with
      | ret p => rw [hs] at hsn; exact ⟨hist, d, rfl, hw, hsn⟩
      | fail err => rw [hs] at hsn; exact ⟨hist, d, rfl, hw, hsn⟩
      | cont c =>
        rw [hs] at hsn
        simp only [hp, RefinesAt]
        exact ⟨hsn, by simp [step_cont_eq H P.cfg P.wireBytes P.secret _ d c hs]⟩
    · -- nothing is read: phase and counter stay, except that a read error leaves the loop
      have keep : ∀ s' : State, s'.phase = s.phase → s'.errCount = s.errCount →
          RefinesAt H P s'.phase s'.errCount hist := fun s' h1 h2 => by rw [h1, h2, hp]; exact ⟨hw, hc⟩
      have hnil : deliveredBy s e = [] := by
        cases e <;> simp_all [deliveredBy]
      rw [hnil, List.append_nil, step_waiting H P hp]
      cases e with
      | readError => cases s.ctxDone <;> exact hw
      | datagram d =>
        have : s.connClosed = true := by simpa using hd
        simp only [this, if_true]
        exact keep s rfl rfl
      | tick => dsimp only; split <;> exact keep _ rfl rfl
      | helperObservesCtx => dsimp only; split <;> exact keep _ rfl rfl
      | _ => exact keep _ rfl rfl

theorem deliveredFrom_append (s : State) (a b : List Event) :
    deliveredFrom H P s (a ++ b) = deliveredFrom H P s a ++ deliveredFrom H P (run H P s a) b := by
  induction a generalizing s with
  | nil => rfl
  | cons x xs ih => simp [deliveredFrom, run_cons, ih]

theorem refines_run (s : State) (evs : List Event) (hist : List Bytes) (h : Refines H P s hist) :
    Refines H P (run H P s evs) (hist ++ deliveredFrom H P s evs) := by
  induction evs generalizing s hist with
  | nil => simpa [deliveredFrom, run_nil] using h
  | cons e es ih =>
    rw [run_cons]
    have := ih (step H P s e) (hist ++ deliveredBy s e) (refines_step H P s e hist h)
    simpa [deliveredFrom, List.append_assoc] using this

theorem refines_reach (evs : List Event) : Refines H P (reach H P evs) (delivered H P evs) := by
  have := refines_run H P (init P) evs [] (by
    unfold init
    cases P.wire <;> simp [Refines, RefinesAt, recvLoop, recvLoopFrom])
  simpa [reach, delivered] using this

theorem run_datagrams (s : State) (hist : List Bytes) (i : Nat)
    (hw : s.phase = .waiting) (hc : s.connClosed = false) :
    (run H P s (hist.map .datagram)).phase =
      phaseOf (recvLoopFrom H P.cfg P.wireBytes P.secret i s.errCount hist) := by
  induction hist generalizing s i with
  | nil => simp [run_nil, recvLoopFrom, phaseOf, hw]
  | cons d ds ih =>
    simp only [List.map_cons]
    rw [run_cons, step_datagram_open H P s d hw hc]
    unfold recvLoopFrom
    cases hs : stepDatagram H P.cfg P.wireBytes P.secret s.errCount d with
    | ret p =>
      simp only [phaseOf]
      exact (run_returned H P _ _ (.reply p) (by simp [finish])).1
    | fail e =>
      simp only [phaseOf]
      exact (run_returned H P _ _ (.pktErr e) (by simp [finish])).1
    | cont c =>
      simp only
      exact ih { s with errCount := c } (i + 1) hw hc

end Exchange
end RV
