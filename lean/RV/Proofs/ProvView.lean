/-
  Value-level agreement of the heap mirrors (RV/Model/Prov.lean) with the total models: the password decoders,
  the body of the generated getters for every `encrypt=`, the vendor walkers, the concat loop and `X_Lookup`.
  The mirrors of the decoders only ever append buffers to the heap they were started in and store into buffers
  they appended themselves; their final heap is computed exactly (`h ++ …`).
-/
import RV.Proofs.Prov
import RV.Proofs.Password
import RV.Proofs.Helper
namespace RV
namespace Prov

/-- what the caller reads, through `vw`, of a result in the heap the call left -/
def seen {α β : Type} (vw : Heap → α → β) (r : α × Heap) : β := vw r.2 r.1

/-- The returned slice reads as `v` in the heap the call left.  Second conjunct: its `len` is the length of what
    it shows (the slice lies inside its buffer) — the generated `octets[n]` check compares `len`, the model the
    length of the value. -/
def Shows (r : Res Slice × Heap) (v : Res Bytes) : Prop :=
  seen viewRes r = v ∧ ∀ s, r.1 = .ok s → s.len = (r.2.read s).length

theorem shows_ok {s : Slice} {g : Heap} {v : Bytes} (hr : g.read s = v) (hl : s.len = v.length) :
    Shows (.ok s, g) (.ok v) :=
  ⟨congrArg Res.ok hr, fun x hx => by cases hx; rw [hr]; exact hl⟩

theorem shows_err (g : Heap) : Shows (.err, g) .err := ⟨rfl, fun _ hx => by cases hx⟩
theorem shows_fault (g : Heap) : Shows (.fault, g) .fault := ⟨rfl, fun _ hx => by cases hx⟩


theorem set_mid (g e : Heap) (B X : Bytes) : (g ++ B :: e).set g.length X = g ++ X :: e := by
  simp

theorem write_last (g : Heap) (B : Bytes) (L i : Nat) (v : UInt8) (hi : i < L) :
    (g ++ [B]).write ⟨g.length, 0, L⟩ i v = g ++ [B.set i v] := by
  unfold Heap.write
  rw [if_pos hi, buffer_mid, set_mid]
  simp

/-- `for j, b := range data { s[base+j] = b }` on the last buffer -/
theorem writeRange_last (g : Heap) (post : Bytes) (L : Nat) (data : Bytes) : ∀ (pre old : Bytes),
    old.length = data.length → pre.length + data.length ≤ L →
    writeRange ⟨g.length, 0, L⟩ pre.length data (g ++ [pre ++ old ++ post]) = ((), g ++ [pre ++ data ++ post]) := by
  induction data with
  | nil =>
    intro pre old ho _
    rw [List.eq_nil_of_length_eq_zero ho]
    rfl
  | cons b bs ih =>
    intro pre old ho hL
    obtain _ | ⟨o, os⟩ := old
    · cases ho
    unfold writeRange
    rw [bind_apply]
    have hw : writeS ⟨g.length, 0, L⟩ pre.length b (g ++ [pre ++ o :: os ++ post]) =
        ((), g ++ [(pre ++ [b]) ++ os ++ post]) := by
      unfold writeS
      rw [write_last g _ L _ b (Nat.lt_of_lt_of_le (Nat.lt_add_of_pos_right (Nat.succ_pos _)) hL)]
      simp
    rw [hw]
    have := ih (pre ++ [b]) os (Nat.succ.inj ho)
      (by rw [List.length_append]; simpa [Nat.add_assoc, Nat.add_comm 1] using hL)
    rw [List.length_append] at this
    simp only [List.length_singleton, List.append_assoc, List.singleton_append] at this ⊢
    exact this

/-- `append(s, data...)` / `hash.Sum(s)` on the last buffer -/
theorem appendS_last (g : Heap) (B : Bytes) (n : Nat) (data : Bytes) :
    appendS ⟨g.length, 0, n⟩ data (g ++ [B]) =
      (⟨g.length, 0, n + data.length⟩, g ++ [B.take n ++ data]) := by
  unfold appendS
  simp only [buffer_mid, set_mid, Nat.zero_add]


/-- `dec` is the last buffer of the heap and holds `done`, all of it shown by the slice -/
theorem upBlocksH_last (H : Hash) (hH : ∀ x, (H x).length = 16) (sv : Bytes) (g : Heap) (rest : Bytes) :
    ∀ (done prev : Bytes), rest.length % 16 = 0 →
    upBlocksH H sv ⟨g.length, 0, done.length⟩ done.length prev (Rfc2865.blocks rest) (g ++ [done]) =
      (⟨g.length, 0, (done ++ upDecLoop H sv prev rest).length⟩, g ++ [done ++ upDecLoop H sv prev rest]) := by
  induction rest using Rfc2865.blocks.induct with
  | case1 =>
    intro done prev _
    rw [blocks_nil, upDecLoop_nil, List.append_nil]
    rfl
  | case2 rest hne ih =>
    intro done prev hmod
    have hl : 16 ≤ rest.length := Nat.le_of_dvd (List.length_pos_iff.2 hne) (Nat.dvd_of_mod_eq_zero hmod)
    have hdl : (H (sv ++ prev)).length = 16 := hH _
    rw [blocks_ne rest hne, upDecLoop_ne H sv prev rest hne, ← List.append_assoc]
    unfold upBlocksH
    generalize H (sv ++ prev) = hd at hdl ⊢
    have hx : (xorBytes hd (rest.take 16)).length = 16 := by
      rw [xorBytes_length, hdl, List.length_take, Nat.min_eq_left hl, Nat.min_self]
    rw [bind_apply, appendS_last, List.take_length]
    simp only []
    rw [bind_apply, readS_apply]
    simp only []
    have hcur : (g ++ [done ++ hd]).read (Slice.sub ⟨g.length, 0, done.length + hd.length⟩ done.length (done.length + 16)) =
        hd := by
      show (g ++ [done ++ hd]).read ⟨g.length, 0 + done.length, done.length + 16 - done.length⟩ = _
      rw [read_mid, Nat.zero_add, List.drop_left, Nat.add_sub_cancel_left, List.take_of_length_le (Nat.le_of_eq hdl)]
    rw [hcur, bind_apply]
    generalize xorBytes hd (rest.take 16) = x at hx ⊢
    rw [← List.append_nil (done ++ hd), writeRange_last g [] _ x done hd (hdl.trans hx.symm)
      (by rw [hx, hdl]; exact Nat.le_refl _), List.append_nil]
    simp only []
    have hlen : done.length + hd.length = (done ++ x).length := by rw [List.length_append, hx, hdl]
    have hi : done.length + 16 = (done ++ x).length := by rw [List.length_append, hx]
    rw [hlen, hi, ih (done ++ x) (rest.take 16) (by rw [List.length_drop]; exact Nat.sub_mod_eq_zero_of_mod_eq hmod)]

theorem takeWhile_eq_take_length {α} (p : α → Bool) (l : List α) :
    l.take (l.takeWhile p).length = l.takeWhile p := by
  induction l with
  | nil => rfl
  | cons x xs ih =>
    by_cases hp : p x = true
    · simp [hp, ih]
    · simp [hp]

/-- `radius.UserPassword` in the heap: the result is a slice of ONE new buffer (holding the whole
    decryption); the heap is otherwise as it was -/
theorem userPasswordH_apply (H : Hash) (hH : ∀ x, (H x).length = 16) (a secret : Slice) (ra : Bytes) (h : Heap) :
    userPasswordH H a secret ra h =
      match userPassword H (h.read a) (h.read secret) ra with
      | .ok v => (.ok ⟨h.length, 0, v.length⟩, h ++ [upDecLoop H (h.read secret) ra (h.read a)])
      | .err => (.err, h)
      | .fault => (.fault, h) := by
  unfold userPasswordH userPassword
  rw [bind_apply, readS_apply]
  simp only []
  rw [bind_apply, readS_apply]
  simp only []
  by_cases h1 : (h.read a).length < 16 ∨ (h.read a).length > 128 ∨ (h.read a).length % 16 ≠ 0
  · rw [if_pos h1, if_pos h1]; rfl
  rw [if_neg h1, if_neg h1]
  by_cases h2 : (h.read secret).length = 0
  · rw [if_pos h2, if_pos h2]; rfl
  rw [if_neg h2, if_neg h2]
  by_cases h3 : ra.length ≠ 16
  · rw [if_pos h3, if_pos h3]; rfl
  rw [if_neg h3, if_neg h3, bind_apply, copyNew_apply]
  simp only []
  have hmod : (h.read a).length % 16 = 0 := by omega
  rw [bind_apply, show upBlocksH H (h.read secret) ⟨h.length, 0, ([] : Bytes).length⟩ 0 ra (Rfc2865.blocks (h.read a)) (h ++ [[]]) = _
    from upBlocksH_last H hH (h.read secret) h (h.read a) [] ra hmod]
  simp only [List.nil_append]
  rw [bind_apply, readS_apply]
  simp only [pure_apply]
  rw [read_mid, List.drop_zero, List.take_length]
  rfl

theorem userPasswordH_shows (H : Hash) (hH : ∀ x, (H x).length = 16) (a secret : Slice) (ra : Bytes) (h : Heap) :
    Shows (userPasswordH H a secret ra h) (userPassword H (h.read a) (h.read secret) ra) := by
  rw [userPasswordH_apply H hH]
  cases hu : userPassword H (h.read a) (h.read secret) ra with
  | ok v =>
    have hv : v = cutAtNul (upDecLoop H (h.read secret) ra (h.read a)) := by
      unfold userPassword at hu
      split at hu
      · cases hu
      · split at hu
        · cases hu
        · split at hu
          · cases hu
          · cases hu; rfl
    refine shows_ok ?_ rfl
    rw [read_mid, List.drop_zero, hv]
    unfold cutAtNul
    rw [takeWhile_eq_take_length]
  | err => exact shows_err h
  | fault => exact shows_fault h


theorem take_length_take {α} (l : List α) (n : Nat) : l.take (l.take n).length = l.take n := by
  rw [List.length_take]
  by_cases hn : n ≤ l.length
  · rw [Nat.min_eq_left hn]
  · rw [Nat.min_eq_right (by omega), List.take_length, List.take_of_length_le (by omega)]

theorem tunnelPassword_pw (H : Hash) (a s ra pw salt : Bytes) (h : tunnelPassword H a s ra = .ok (pw, salt)) :
    ∃ n, pw = ((tpDecLoop H s (ra ++ a.take 2) (a.drop 2)).drop 1).take n := by
  unfold tunnelPassword at h
  -- one condition at a time: `split at h` through the whole chain is slow to check
  by_cases c1 : a.length > 252 ∨ a.length < 18 ∨ (a.length - 2) % 16 ≠ 0
  · rw [if_pos c1] at h; cases h
  by_cases c2 : s.length = 0
  · rw [if_neg c1, if_pos c2] at h; cases h
  by_cases c3 : ra.length ≠ 16
  · rw [if_neg c1, if_neg c2, if_pos c3] at h; cases h
  by_cases c4 : (a.getD 0 0) &&& 0x80 ≠ 0x80
  · rw [if_neg c1, if_neg c2, if_neg c3, if_pos c4] at h; cases h
  rw [if_neg c1, if_neg c2, if_neg c3, if_neg c4] at h
  simp only [] at h
  split at h
  · cases h
  · cases h; exact ⟨_, rfl⟩

/-- `radius.TunnelPassword` in the heap: two new buffers (the salt copy, the plaintext), the
    password is a slice of the second; nothing older is touched -/
theorem tunnelPasswordH_apply (H : Hash) (hH : ∀ x, (H x).length = 16) (a secret : Slice) (ra : Bytes) (h : Heap) :
    tunnelPasswordH H a secret ra h =
      match tunnelPassword H (h.read a) (h.read secret) ra with
      | .ok (pw, _) =>
        (.ok (⟨h.length + 1, 1, pw.length⟩, ⟨h.length, 0, ((h.read a).take 2).length⟩),
          h ++ [(h.read a).take 2] ++
            [tpDecLoop H (h.read secret) (ra ++ (h.read a).take 2) ((h.read a).drop 2)])
      | .err => (.err, h)
      | .fault => (.fault, h) := by
  unfold tunnelPasswordH
  rw [bind_apply, readS_apply]
  simp only []
  rw [bind_apply, readS_apply]
  simp only []
  cases htp : tunnelPassword H (h.read a) (h.read secret) ra with
  | ok r =>
    obtain ⟨pw, sl⟩ := r
    simp only []
    rw [bind_apply, copyNew_apply]
    simp only []
    rw [bind_apply, copyNew_apply]
    simp only []
    rw [bind_apply]
    have hdl : (tpDecLoop H (h.read secret) (ra ++ (h.read a).take 2) ((h.read a).drop 2)).length =
        (h.read a).length - 2 := by
      rw [tpDecLoop_length H hH, List.length_drop]
    have hw := writeRange_last (h ++ [(h.read a).take 2]) [] (zeros ((h.read a).length - 2)).length
      (tpDecLoop H (h.read secret) (ra ++ (h.read a).take 2) ((h.read a).drop 2)) [] (zeros ((h.read a).length - 2))
      (by rw [hdl, zeros_length]) (by rw [hdl, zeros_length]; exact Nat.le_of_eq (Nat.zero_add _))
    simp only [List.nil_append, List.append_nil, List.length_nil] at hw
    rw [hw]
    simp only [pure_apply]
    congr 1
    simp [Slice.sub]
  | err => rfl
  | fault => rfl

theorem tpPlainH_apply (H : Hash) (hH : ∀ x, (H x).length = 16) (a secret : Slice) (ra : Bytes) (h : Heap) :
    tpPlainH H a secret ra h =
      match tpPlain H (h.read a) (h.read secret) ra with
      | .ok pw =>
        (.ok ⟨h.length + 1, 1, pw.length⟩,
          h ++ [(h.read a).take 2] ++
            [tpDecLoop H (h.read secret) (ra ++ (h.read a).take 2) ((h.read a).drop 2)])
      | .err => (.err, h)
      | .fault => (.fault, h) := by
  unfold tpPlainH tpPlain
  rw [bind_apply, tunnelPasswordH_apply H hH]
  cases tunnelPassword H (h.read a) (h.read secret) ra with
  | ok r => obtain ⟨pw, sl⟩ := r; rfl
  | err => rfl
  | fault => rfl

theorem tpPlainH_read (H : Hash) (a s ra pw : Bytes) (g : Heap) (hp : tpPlain H a s ra = .ok pw) :
    (g ++ [a.take 2] ++ [tpDecLoop H s (ra ++ a.take 2) (a.drop 2)]).read ⟨g.length + 1, 1, pw.length⟩ = pw := by
  have hk : g.length + 1 = (g ++ [a.take 2]).length := by simp
  rw [hk, read_mid]
  unfold tpPlain at hp
  cases ht : tunnelPassword H a s ra with
  | ok r =>
    obtain ⟨pw', sl⟩ := r
    rw [ht] at hp
    simp only [Res.ok.injEq] at hp
    subst hp
    obtain ⟨n, hn⟩ := tunnelPassword_pw H a s ra pw' sl ht
    rw [hn, take_length_take]
  | err => rw [ht] at hp; cases hp
  | fault => rw [ht] at hp; cases hp

theorem tpPlainH_shows (H : Hash) (hH : ∀ x, (H x).length = 16) (a secret : Slice) (ra : Bytes) (h : Heap) :
    Shows (tpPlainH H a secret ra h) (tpPlain H (h.read a) (h.read secret) ra) := by
  rw [tpPlainH_apply H hH]
  cases hp : tpPlain H (h.read a) (h.read secret) ra with
  | ok pw => exact shows_ok (tpPlainH_read H _ _ _ pw h hp) rfl
  | err => exact shows_err h
  | fault => exact shows_fault h


def viewDec (h : Heap) : Res (UInt8 × GValH) → Res (UInt8 × GVal)
  | .ok (t, v) => .ok (t, v.view h)
  | .err => .err
  | .fault => .fault

theorem bytesH_apply (a : Slice) (h : Heap) :
    bytesH a h = (⟨h.length, 0, (h.read a).length⟩, h ++ [h.read a]) := rfl

theorem copyDecH_apply (dec : Bytes → Res Bytes) (a : Slice) (h : Heap) :
    copyDecH dec a h =
      match dec (h.read a) with
      | .ok v => (.ok ⟨h.length, 0, v.length⟩, h ++ [v])
      | .err => (.err, h)
      | .fault => (.fault, h) := by
  simp only [copyDecH, bind_apply, readS_apply]
  cases dec (h.read a) <;> rfl

theorem ipv6PrefixH_apply (a : Slice) (h : Heap) :
    ipv6PrefixH a h =
      match ipv6Prefix (h.read a) with
      | .ok (ip, mask) => (.ok (⟨h.length, 0, ip.length⟩, ⟨(h ++ [ip]).length, 0, mask.length⟩), h ++ [ip] ++ [mask])
      | .err => (.err, h)
      | .fault => (.fault, h) := by
  simp only [ipv6PrefixH, bind_apply, readS_apply]
  cases ipv6Prefix (h.read a) with
  | ok r => obtain ⟨ip, mask⟩ := r; rfl
  | err => rfl
  | fault => rfl

theorem untag_read (d : Desc) (a : Slice) (h : Heap) :
    untag d (h.read a) = ((if d.hasTag = true then tagStripH (h.read a) a else (0, a)).1,
      h.read (if d.hasTag = true then tagStripH (h.read a) a else (0, a)).2) := by
  unfold untag
  by_cases ht : d.hasTag = true
  · rw [if_pos ht, (tagStripH_view a h).2]
    simp only [ht, true_and]
  · rw [if_neg ht, if_neg (fun hc => ht hc.1)]

/-- the `match` on `encrypt=` of the getter templates as a chain of `if`s -/
theorem encrypt_match {β : Type} (n : Nat) (x y z : β) :
    (match n with | 1 => x | 2 => y | _ => z) = if n = 1 then x else if n = 2 then y else z := by
  split
  · rfl
  · rfl
  · next h1 h2 => rw [if_neg h1, if_neg h2]

theorem textDecH_eq (H : Hash) (d : Desc) (s secret : Slice) (auth : Bytes) :
    textDecH H d s secret auth =
      if d.encrypt = 1 then userPasswordH H s secret auth
      else if d.encrypt = 2 then tpPlainH H s secret auth
      else (do let x ← bytesH s; pure (.ok x)) :=
  encrypt_match _ _ _ _

/-- `hH`, here and below: the digests are 16 octets long wherever the descriptor makes the body decrypt; with
    `encrypt=0` any hash will do -/
theorem textDecH_shows (H : Hash) (d : Desc) (hH : d.encrypt = 0 ∨ ∀ x, (H x).length = 16) (s secret : Slice)
    (auth : Bytes) (h : Heap) :
    Shows (textDecH H d s secret auth h) (textPlain H d (h.read s) (h.read secret) auth) := by
  rw [textDecH_eq, textPlain]
  by_cases h1 : d.encrypt = 1
  · rw [if_pos h1, if_pos h1]; exact userPasswordH_shows H (hH.resolve_left (by omega)) s secret auth h
  · rw [if_neg h1, if_neg h1]
    by_cases h2 : d.encrypt = 2
    · rw [if_pos h2, if_pos h2]; exact tpPlainH_shows H (hH.resolve_left (by omega)) s secret auth h
    · rw [if_neg h2, if_neg h2]; exact shows_ok (read_new1 h _) rfl

theorem sizeTail_seen (d : Desc) (t : UInt8) {m : M (Res Slice)} {h : Heap} {v : Res Bytes} (hs : Shows (m h) v) :
    seen viewDec ((m >>= fun r => (match r with
        | .ok s => if d.size.isSome ∧ d.size ≠ some s.len then pure .err else pure (.ok (t, GValH.bytes s))
        | .err => pure .err
        | .fault => pure .fault : M (Res (UInt8 × GValH)))) h) =
      (match (generalizing := false) v with
       | .ok v => if d.size.isSome ∧ d.size ≠ some v.length then .err else .ok (t, GVal.bytes v)
       | .err => .err
       | .fault => .fault) := by
  rw [bind_apply]
  obtain ⟨rfl, hl⟩ := hs
  cases hm : (m h).1 with
  | ok s =>
    simp only [seen, viewRes, hm]
    rw [hl s hm]
    split <;> rfl
  | err => simp only [seen, viewRes, hm]; rfl
  | fault => simp only [seen, viewRes, hm]; rfl

/-- The optional salt decryption in front of a decoder `k`: if `k`, run on a slice, shows `km` of its bytes, the
    whole shows `km` of the decrypted (or plain) bytes; `err` / `fault`, returned when the decryption fails, show
    `zerr` / `zfault`. -/
theorem saltFirstH_seen {β γ : Type} (H : Hash) (d : Desc) (hH : d.encrypt = 0 ∨ ∀ x, (H x).length = 16)
    (a secret : Slice) (auth : Bytes) (h : Heap) {k : Slice → M β} {err fault : β} {vw : Heap → β → γ}
    {km : Bytes → γ} {zerr zfault : γ}
    (hk : ∀ s g, seen vw (k s g) = km (g.read s)) (he : ∀ g, vw g err = zerr) (hf : ∀ g, vw g fault = zfault) :
    seen vw ((saltFirstH H d a secret auth >>= fun r =>
        (match r with
         | .ok a => k a
         | .err => pure err
         | .fault => pure fault : M β)) h) =
      (match (if d.usesSalt = true then tpPlain H (h.read a) (h.read secret) auth else (.ok (h.read a) : Res Bytes)) with
       | .ok v => km v
       | .err => zerr
       | .fault => zfault) := by
  rw [bind_apply, saltFirstH]
  by_cases hs : d.usesSalt = true
  · have hH' := hH.resolve_left (by have := usesSalt_encrypt hs; omega)
    rw [if_pos hs, if_pos hs, tpPlainH_apply H hH']
    cases hp : tpPlain H (h.read a) (h.read secret) auth with
    | ok pw =>
      simp only []
      rw [hk, tpPlainH_read H _ _ _ pw h hp]
    | err => exact he _
    | fault => exact hf _
  · rw [if_neg hs, if_neg hs, pure_apply]
    simp only []
    rw [hk]

theorem ipCase_seen (dec : Bytes → Res Bytes) (a : Slice) (h : Heap) :
    seen viewDec ((copyDecH dec a >>= fun ip => (pure (okBytes 0 ip) : M (Res (UInt8 × GValH)))) h) =
    match dec (h.read a) with
    | .ok ip => .ok (0, GVal.bytes ip)
    | .err => .err
    | .fault => .fault := by
  rw [bind_apply, copyDecH_apply]
  cases dec (h.read a) <;> simp [seen, viewDec, okBytes, GValH.view]

/-- The integer templates of `decodeValueH` and `lookupResultsH` (both are this, by unfolding, at their integer
    kinds) with the results left open: `bad t v` / `good t v` for a value `v` of the wrong / right width `w` found
    under tag `t`; `err` / `fault` when the salt decryption in front fails. -/
@[reducible] def intCaseH {β : Type} (H : Hash) (d : Desc) (w : Nat) (bad good : UInt8 → Bytes → β) (err fault : β)
    (a secret : Slice) (auth : Bytes) : M β :=
  if d.hasTag then do
    let ta ← tagStripIntH a
    let av ← readS ta.2
    if av.length ≠ w then pure (bad ta.1 av) else pure (good ta.1 av)
  else do
    let r ← saltFirstH H d a secret auth
    match r with
    | .ok a => do
      let av ← readS a
      if av.length ≠ w then pure (bad 0 av) else pure (good 0 av)
    | .err => pure err
    | .fault => pure fault

/-- the same case of `decodeValue` / `lookupResults` -/
@[reducible] def intCase {γ : Type} (H : Hash) (d : Desc) (w : Nat) (bad good : UInt8 → Bytes → γ) (err fault : γ)
    (a secret auth : Bytes) : γ :=
  if d.hasTag then
    let ta := if a.length ≥ 1 ∧ (a.getD 0 0).toNat ≤ 0x1F then (a.getD 0 0, (0 : UInt8) :: a.drop 1) else (0, a)
    if ta.2.length ≠ w then bad ta.1 ta.2 else good ta.1 ta.2
  else
    match (if d.usesSalt then tpPlain H a secret auth else (.ok a : Res Bytes)) with
    | .ok a => if a.length ≠ w then bad 0 a else good 0 a
    | .err => err
    | .fault => fault

/-- `hbad` … `hfault`: the results read the same in every heap (they hold no slice) -/
theorem intCase_seen {β γ : Type} (vw : Heap → β → γ) (H : Hash) (d : Desc) (hH : d.encrypt = 0 ∨ ∀ x, (H x).length = 16)
    (w : Nat) {bad good : UInt8 → Bytes → β} {err fault : β} (a secret : Slice) (auth : Bytes) (h : Heap)
    (hbad : ∀ g g' t v, vw g (bad t v) = vw g' (bad t v)) (hgood : ∀ g g' t v, vw g (good t v) = vw g' (good t v))
    (herr : ∀ g g', vw g err = vw g' err) (hfault : ∀ g g', vw g fault = vw g' fault) :
    seen vw (intCaseH H d w bad good err fault a secret auth h) =
      intCase H d w (fun t v => vw h (bad t v)) (fun t v => vw h (good t v)) (vw h err) (vw h fault)
        (h.read a) (h.read secret) auth := by
  unfold intCaseH intCase
  by_cases ht : d.hasTag = true
  · rw [if_pos ht, if_pos ht, bind_apply, tagStripIntH_apply]
    split
    · rw [readIte_apply (c := fun av => av.length ≠ w) (x := bad _) (y := good _), read_new1]
      simp only [seen]
      split
      · exact hbad _ _ _ _
      · exact hgood _ _ _ _
    · rw [readIte_apply (c := fun av => av.length ≠ w) (x := bad _) (y := good _)]
      simp only [seen]
      split <;> rfl
  · rw [if_neg ht, if_neg ht]
    exact saltFirstH_seen H d hH a secret auth h (vw := vw) (err := err) (fault := fault)
      (k := fun a => (do
            let av ← readS a
            if av.length ≠ w then pure (bad 0 av) else pure (good 0 av) : M β))
      (km := fun v => if v.length ≠ w then vw h (bad 0 v) else vw h (good 0 v))
      (fun s g => by
        rw [readIte_apply (c := fun av => av.length ≠ w) (x := bad 0) (y := good 0)]
        simp only [seen]
        split
        · exact hbad _ _ _ _
        · exact hgood _ _ _ _)
      (fun g => herr g h) (fun g => hfault g h)

theorem decodeValueH_view (H : Hash) (d : Desc) (hH : d.encrypt = 0 ∨ ∀ x, (H x).length = 16) (a secret : Slice)
    (auth : Bytes) (h : Heap) :
    seen viewDec (decodeValueH H d a secret auth h) = decodeValue H d (h.read a) (h.read secret) auth := by
  by_cases hk : d.kind = .string ∨ d.kind = .octets ∨ d.kind = .concat
  · rw [decodeValue_text H d hk, untag_read]
    -- at a text kind the body is, by unfolding, `readS a`, then `textDecH` on the untagged slice, then the
    -- `octets[n]` check
    rcases hk with hk | hk | hk <;> simp only [decodeValueH, hk] <;>
      exact sizeTail_seen d _ (textDecH_shows H d hH _ secret auth h)
  have hint : ∀ w, seen viewDec
        (intCaseH H d w (fun _ _ => .err) (fun t v => .ok (t, .nat (beNat v))) .err .fault a secret auth h) =
      intCase H d w (fun _ _ => .err) (fun t v => .ok (t, .nat (beNat v))) .err .fault
        (h.read a) (h.read secret) auth :=
    fun w => intCase_seen viewDec H d hH w a secret auth h
      (fun _ _ _ _ => rfl) (fun _ _ _ _ => rfl) (fun _ _ => rfl) (fun _ _ => rfl)
  unfold decodeValueH decodeValue
  cases hkk : d.kind <;> simp only [hkk] at hk ⊢
  case string | octets | concat => simp at hk
  case ipaddr =>
    simp only [if_true]
    exact saltFirstH_seen H d hH a secret auth h (vw := viewDec) (err := .err) (fault := .fault)
      (k := fun a => copyDecH ipAddr a >>= fun ip => pure (okBytes 0 ip))
      (km := fun v => match ipAddr v with | .ok ip => .ok (0, GVal.bytes ip) | .err => .err | .fault => .fault)
      (zerr := .err) (zfault := .fault) (fun s g => ipCase_seen ipAddr s g) (fun _ => rfl) (fun _ => rfl)
  case ipv6addr =>
    simp only [reduceCtorEq, if_false]
    exact saltFirstH_seen H d hH a secret auth h (vw := viewDec) (err := .err) (fault := .fault)
      (k := fun a => copyDecH ipv6Addr a >>= fun ip => pure (okBytes 0 ip))
      (km := fun v => match ipv6Addr v with | .ok ip => .ok (0, GVal.bytes ip) | .err => .err | .fault => .fault)
      (zerr := .err) (zfault := .fault) (fun s g => ipCase_seen ipv6Addr s g) (fun _ => rfl) (fun _ => rfl)
  case ifid => exact ipCase_seen ifid a h
  case ipv6prefix =>
    rw [bind_apply, ipv6PrefixH_apply]
    cases ipv6Prefix (h.read a) with
    | ok r =>
      obtain ⟨ip, mask⟩ := r
      simp only [seen, viewDec, GValH.view, pure_apply, read_new2, read_new2']
    | err => rfl
    | fault => rfl
  case date =>
    have e : dateH a h = (date (h.read a), h) := rfl
    rw [bind_apply, e]
    cases date (h.read a) <;> rfl
  case byte =>
    rw [readIte_apply (β := Res (UInt8 × GValH)) a (fun av => av.length ≠ 1) (fun _ => .err)
      (fun av => .ok (0, .nat (av.getD 0 0).toNat))]
    simp only [seen]
    split <;> rfl
  case integer => simp only [Kind.intBytes]; exact hint 4
  case integer64 => simp only [Kind.intBytes]; exact hint 8
  case short => simp only [Kind.intBytes]; exact hint 2


theorem vsaHead_some {vsa : Bytes} {t : UInt8} {sub rest : Bytes} (h : vsaHead vsa = some (t, sub, rest)) :
    sub = vsa.take sub.length ∧ rest = vsa.drop sub.length ∧ 2 ≤ sub.length ∧ sub.length ≤ vsa.length := by
  unfold vsaHead at h
  split at h
  · next t' l tl =>
    split at h
    · cases h
    · next hc =>
      simp only [Option.some.injEq, Prod.mk.injEq] at h
      obtain ⟨_, h2, h3⟩ := h
      have hl : sub.length = l.toNat := by rw [← h2, List.length_take]; omega
      rw [hl]
      exact ⟨h2.symm, h3.symm, by omega, by omega⟩
  · cases h

theorem vsaGets_some {typ : UInt8} {bytes : Bytes} {t : UInt8} {sub rest : Bytes}
    (hh : vsaHead bytes = some (t, sub, rest)) :
    vsaGets typ bytes = if t = typ then sub.drop 2 :: vsaGets typ rest else vsaGets typ rest := by
  rw [vsaGets]
  split
  · next heq => rw [hh] at heq; cases heq
  · next heq => rw [hh] at heq; cases heq; rfl

theorem vsa_rest {g : Heap} {vsa : Slice} {bytes : Bytes} {t : UInt8} {sub rest : Bytes}
    (hh : vsaHead bytes = some (t, sub, rest)) (hr : g.read vsa = bytes) (hl : vsa.len = bytes.length) :
    g.read (vsa.sub sub.length vsa.len) = rest ∧ (vsa.sub sub.length vsa.len).len = rest.length := by
  obtain ⟨_, h2, _, _⟩ := vsaHead_some hh
  refine ⟨by rw [read_sub_from, hr, ← h2], ?_⟩
  show vsa.len - sub.length = rest.length
  rw [h2, List.length_drop, hl]

theorem vsaGetsH_read (typ : UInt8) (g : Heap) (vsa : Slice) (bytes : Bytes) :
    g.read vsa = bytes → vsa.len = bytes.length → (vsaGetsH typ vsa bytes).map g.read = vsaGets typ bytes := by
  fun_induction vsaGetsH typ vsa bytes with
  | case1 vsa bytes hh =>
    intro _ _
    rw [vsaGets]; split <;> simp_all
  | case2 vsa bytes sub rest hh ih =>
    intro hr hl
    obtain ⟨h1, _, _, h4⟩ := vsaHead_some hh
    obtain ⟨hrest, hlen⟩ := vsa_rest hh hr hl
    have hsub : g.read (vsa.sub 2 sub.length) = sub.drop 2 := by
      rw [read_sub g vsa 2 sub.length (by omega), hr]
      conv => rhs; rw [h1]
      rw [List.drop_take]
    rw [vsaGets_some hh, if_pos rfl, List.map_cons, hsub, ih hrest hlen]
  | case3 vsa bytes t sub rest hh ht ih =>
    intro hr hl
    obtain ⟨hrest, hlen⟩ := vsa_rest hh hr hl
    rw [vsaGets_some hh, if_neg ht, ih hrest hlen]

theorem vendorSpecificH_apply (a : Slice) (h : Heap) :
    vendorSpecificH a h =
      match vendorSpecific (h.read a) with
      | .ok (id, v) => (.ok (id, ⟨h.length, 0, v.length⟩), h ++ [v])
      | .err => (.err, h)
      | .fault => (.fault, h) := by
  simp only [vendorSpecificH, bind_apply, readS_apply]
  cases vendorSpecific (h.read a) with
  | ok r => obtain ⟨id, v⟩ := r; rfl
  | err => rfl
  | fault => rfl

theorem getsVendor_cons (vid : Nat) (typ : UInt8) (a : AVP) (as : Attrs) :
    getsVendor vid typ (a :: as) =
      (match vendorPayload vid a with | some payload => vsaGets typ payload | none => []) ++ getsVendor vid typ as := by
  unfold getsVendor; rw [List.flatMap_cons]; rfl

theorem getsVendorH_view (vid : Nat) (typ : UInt8) (attrs : List (Int × Slice)) :
    ∀ (h : Heap), (∀ ts ∈ attrs, ts.2.buf < h.length) →
      seen (fun g l => l.map g.read) (getsVendorH vid typ attrs h) = getsVendor vid typ (viewAttrs h attrs) := by
  induction attrs with
  | nil => intro h _; rfl
  | cons ts rest ih =>
    intro h hb
    have hbr : ∀ ts' ∈ rest, ts'.2.buf < h.length := fun ts' ht => hb ts' (List.mem_cons_of_mem _ ht)
    have hva : viewAttrs h (ts :: rest) = ⟨ts.1, h.read ts.2⟩ :: viewAttrs h rest := rfl
    rw [hva, getsVendor_cons]
    unfold getsVendorH vendorPayload
    by_cases ht : ts.1 ≠ vsaType
    · rw [if_pos ht, if_pos ht]
      exact ih h hbr
    · rw [if_neg ht, if_neg ht, bind_apply, vendorSpecificH_apply]
      cases hvs : vendorSpecific (h.read ts.2) with
      | ok r =>
        obtain ⟨id, v⟩ := r
        simp only []
        have ihv := ih (h ++ [v]) (fun ts' ht' => by have := hbr ts' ht'; simp; omega)
        rw [viewAttrs_append_heap h [v] rest hbr] at ihv
        by_cases hid : id ≠ vid
        · rw [if_pos hid, if_neg hid]
          exact ihv
        · rw [if_neg hid, if_pos (Classical.not_not.1 hid)]
          simp only [bind_apply, readS_apply, pure_apply]
          -- the sub-slices of the copy are read after the remaining attributes have been walked
          have e := (Obs.call (h ++ [v]) (obs_getsVendorH vid typ rest)).1
          rw [read_new1, ← ihv]
          simp only [seen, List.map_append]
          congr 1
          rw [List.map_congr_left (fun s hs => e.read s (by rw [vsaGetsH_buf typ _ _ s hs]; simp))]
          exact vsaGetsH_read typ (h ++ [v]) ⟨h.length, 0, v.length⟩ v (read_new1 h v) rfl
      | err => exact ih h hbr
      | fault => exact ih h hbr


theorem filter_map_read (h : Heap) (k : Int) (l : List (Int × Slice)) :
    ((l.filter (fun ts => ts.1 = k)).map (·.2)).map h.read =
      ((viewAttrs h l).filter (fun a => a.typ = k)).map (·.val) := by
  induction l with
  | nil => rfl
  | cons ts rest ih =>
    have hva : viewAttrs h (ts :: rest) = ⟨ts.1, h.read ts.2⟩ :: viewAttrs h rest := rfl
    rw [hva, List.filter_cons, List.filter_cons]
    by_cases hk : ts.1 = k
    · simp only [hk, decide_true, if_true, List.map_cons, ih]
    · simp only [hk, decide_false, Bool.false_eq_true, if_false, ih]

theorem rawSlicesH_view (d : Desc) (p : HPacket) (h : Heap) (hp : p.below h.length) :
    seen (fun g l => l.map g.read) (rawSlicesH d p h) = rawValues d (p.view h).attrs ∧
      ∀ s ∈ (rawSlicesH d p h).1, s.buf < (rawSlicesH d p h).2.length := by
  unfold rawSlicesH rawValues
  by_cases hv : d.vendorID = 0
  · rw [if_pos hv, if_pos hv]
    refine ⟨filter_map_read h d.typ p.attrs, fun s hs => ?_⟩
    obtain ⟨ts, hts, rfl⟩ := List.mem_map.1 hs
    exact hp.2 ts (List.mem_filter.1 hts).1
  · rw [if_neg hv, if_neg hv]
    exact ⟨getsVendorH_view d.vendorID d.vendorType p.attrs h hp.2, fun s hs =>
      Obs.bound (obs_getsVendorH d.vendorID d.vendorType p.attrs) h s
        (List.mem_flatMap.2 ⟨s, hs, List.mem_cons_self⟩)⟩

/-- the loop of a concat `X_Lookup`: `value`'s own buffer (at index `g.length`) ends up holding the
    concatenation; every other change is an allocation after it -/
theorem concatLoopH_apply (g : Heap) (raws : List Slice) (hr : ∀ s ∈ raws, s.buf < g.length) :
    ∀ (B : Bytes) (e : Heap),
    ∃ e', concatLoopH raws ⟨g.length, 0, B.length⟩ (g ++ [B] ++ e) =
      (⟨g.length, 0, (B ++ (raws.map g.read).flatten).length⟩, g ++ [B ++ (raws.map g.read).flatten] ++ e') := by
  induction raws with
  | nil => intro B e; exact ⟨e, by simp [concatLoopH]⟩
  | cons a rest ih =>
    intro B e
    have ha : a.buf < g.length := hr a List.mem_cons_self
    have hra : (g ++ [B] ++ e).read a = g.read a := by
      rw [List.append_assoc]; exact read_append g _ a ha
    unfold concatLoopH
    rw [bind_apply, bytesH_apply, hra]
    simp only []
    rw [bind_apply, readS_apply]
    simp only []
    rw [read_new1, bind_apply]
    have hap : appendS ⟨g.length, 0, B.length⟩ (g.read a) (g ++ [B] ++ e ++ [g.read a]) =
        (⟨g.length, 0, (B ++ g.read a).length⟩, g ++ [B ++ g.read a] ++ (e ++ [g.read a])) := by
      unfold appendS
      have e1 : g ++ [B] ++ e ++ [g.read a] = g ++ B :: (e ++ [g.read a]) := by simp
      rw [e1, buffer_mid, set_mid, Nat.zero_add, List.take_length, List.length_append]
      simp
    rw [hap]
    simp only []
    obtain ⟨e', he'⟩ := ih (fun s hs => hr s (List.mem_cons_of_mem _ hs)) (B ++ g.read a) (e ++ [g.read a])
    refine ⟨e', ?_⟩
    rw [he']
    simp [List.append_assoc]


theorem concatLoopH_seen (g : Heap) (raws : List Slice) (hr : ∀ s ∈ raws, s.buf < g.length) :
    seen (fun g' v => g'.read v) ((copyNew [] >>= concatLoopH raws) g) = (raws.map g.read).flatten := by
  obtain ⟨e', he'⟩ := concatLoopH_apply g raws hr [] []
  rw [List.append_nil] at he'
  rw [bind_apply, copyNew_apply, he']
  simp only [seen, List.nil_append]
  rw [List.append_assoc]
  exact read_new g _ e'


/-- the value-level shape shared by `hLookup`, `hGet`, `hLookupString`, `hGetString` -/
def pick {β : Type} (d : Desc) (zb : β) (cb : Bytes → β) (bodyb : Bytes → β) (vals : List Bytes) : β :=
  if d.kind = .concat then
    match vals with
    | [] => zb
    | vs => cb vs.flatten
  else
  match vals.head? with
  | none => zb
  | some a => bodyb a

theorem pickH_seen {α β : Type} (vw : Heap → α → β) (d : Desc) {loop : List Slice → Slice → M Slice} {z : α}
    {c : Slice → α} {body : Slice → M α} (zb : β) (cb bodyb : Bytes → β) (raws : List Slice) (g : Heap)
    (hz : ∀ g', vw g' z = zb) (hc : ∀ g' v, vw g' (c v) = cb (g'.read v))
    (hloop : d.kind = .concat →
      seen (fun g' v => g'.read v) ((copyNew [] >>= loop raws) g) = (raws.map g.read).flatten)
    (hbody : ∀ a, seen vw (body a g) = bodyb (g.read a)) :
    seen vw (pickH d loop z c body raws g) = pick d zb cb bodyb (raws.map g.read) := by
  unfold pickH pick
  by_cases hk : d.kind = .concat
  · rw [if_pos hk, if_pos hk]
    cases raws with
    | nil => exact hz g
    | cons a rest => exact (hc _ _).trans (congrArg cb (hloop hk))
  · rw [if_neg hk, if_neg hk]
    cases raws with
    | nil => exact hz g
    | cons a rest => exact hbody a

theorem below_mono (p : HPacket) {n m : Nat} (hp : p.below n) (h : n ≤ m) : p.below m :=
  ⟨Nat.lt_of_lt_of_le hp.1 h, fun ts hts => Nat.lt_of_lt_of_le (hp.2 ts hts) h⟩

theorem getterH_seen {α β : Type} (vw : Heap → α → β) (d : Desc) (p : HPacket) {loop : List Slice → Slice → M Slice}
    {z : α} {c : Slice → α} {body : Slice → M α} (zb : β) (cb : Bytes → β) (bodyb : Bytes → Bytes → β)
    (h : Heap) (hp : p.below h.length)
    (hz : ∀ g, vw g z = zb) (hc : ∀ g v, vw g (c v) = cb (g.read v))
    (hloop : ∀ g raws, (∀ s ∈ raws, s.buf < g.length) →
      seen (fun g' v => g'.read v) ((copyNew [] >>= loop raws) g) = (raws.map g.read).flatten)
    (hbody : ∀ a g, seen vw (body a g) = bodyb (g.read a) (g.read p.secret)) :
    seen vw (getterH d p loop z c body h) =
      pick d zb cb (fun a => bodyb a (h.read p.secret)) (rawValues d (p.view h).attrs) := by
  obtain ⟨hm, hb⟩ := rawSlicesH_view d p h hp
  unfold getterH
  rw [bind_apply, ← hm, ← (Obs.call h (obs_rawSlicesH d p)).1.read p.secret hp.1]
  exact pickH_seen vw d zb cb _ _ _ hz hc (fun _ => hloop _ _ hb) (fun a => hbody a _)

/-- a plain attribute (not vendor, not concat) needs no assumption on the packet's slices -/
theorem getterH_seen_plain {α β : Type} (vw : Heap → α → β) (d : Desc) (hv : d.vendorID = 0) (hk : d.kind ≠ .concat)
    (p : HPacket) {loop : List Slice → Slice → M Slice} {z : α} {c : Slice → α} {body : Slice → M α}
    (zb : β) (cb : Bytes → β) (bodyb : Bytes → Bytes → β) (h : Heap)
    (hz : ∀ g, vw g z = zb) (hc : ∀ g v, vw g (c v) = cb (g.read v))
    (hbody : ∀ a g, seen vw (body a g) = bodyb (g.read a) (g.read p.secret)) :
    seen vw (getterH d p loop z c body h) =
      pick d zb cb (fun a => bodyb a (h.read p.secret)) (rawValues d (p.view h).attrs) := by
  unfold getterH rawSlicesH rawValues
  rw [bind_apply, if_pos hv, if_pos hv, pure_apply, show (p.view h).attrs = viewAttrs h p.attrs from rfl, ← filter_map_read]
  exact pickH_seen vw d zb cb _ _ _ hz hc (fun hc => absurd hc hk) (fun a => hbody a _)


theorem hLookup_eq_pick (H : Hash) (d : Desc) (as : Attrs) (secret auth : Bytes) :
    hLookup H d as secret auth = pick d .noAttr (fun v => .val 0 (.bytes v))
      (fun a => match decodeValue H d a secret auth with
        | .ok (t, v) => .val t v
        | _ => .err) (rawValues d as) := rfl

theorem lookupBodyH_seen (H : Hash) (d : Desc) (hH : d.encrypt = 0 ∨ ∀ x, (H x).length = 16) (a secret : Slice)
    (auth : Bytes) (g : Heap) :
    seen LookupResH.view ((decodeValueH H d a secret auth >>= fun r =>
      (match r with
       | .ok (t, v) => pure (.val t v)
       | _ => pure .err : M LookupResH)) g) =
    match decodeValue H d (g.read a) (g.read secret) auth with
    | .ok (t, v) => .val t v
    | _ => .err := by
  rw [← decodeValueH_view H d hH, bind_apply]
  generalize decodeValueH H d a secret auth g = r
  obtain ⟨r, g'⟩ := r
  cases r <;> rfl

theorem hLookupH_view_all (H : Hash) (hH : ∀ x, (H x).length = 16) (d : Desc) (p : HPacket) (auth : Bytes)
    (h : Heap) (hp : p.below h.length) :
    seen LookupResH.view (hLookupH H d p auth h) = hLookup H d (p.view h).attrs (h.read p.secret) auth := by
  rw [hLookupH_eq, hLookup_eq_pick]
  exact getterH_seen LookupResH.view d p _ _ (fun a s => match decodeValue H d a s auth with
      | .ok (t, v) => .val t v
      | _ => .err) h hp (fun _ => rfl) (fun _ _ => rfl) concatLoopH_seen
    (fun a g => lookupBodyH_seen H d (.inr hH) a p.secret auth g)

theorem hLookupH_view (H : Hash) (d : Desc) (henc : d.encrypt = 0) (hv : d.vendorID = 0) (hc : d.kind ≠ .concat)
    (p : HPacket) (auth : Bytes) (h : Heap) :
    seen LookupResH.view (hLookupH H d p auth h) = hLookup H d (p.view h).attrs (h.read p.secret) auth := by
  rw [hLookupH_eq, hLookup_eq_pick]
  exact getterH_seen_plain LookupResH.view d hv hc p _ _ (fun a s => match decodeValue H d a s auth with
      | .ok (t, v) => .val t v
      | _ => .err) h (fun _ => rfl) (fun _ _ => rfl)
    (fun a g => lookupBodyH_seen H d (.inl henc) a p.secret auth g)

theorem PureObs.repeat_same {α β : Type} {m : M α} (hm : PureObs m) (p : HPacket) (vw : Heap → α → β)
    (spec : Packet → β) (hf : ∀ h, p.below h.length → seen vw (m h) = spec (p.view h)) (h : Heap)
    (hp : p.below h.length) : seen vw (m (m h).2) = seen vw (m h) := by
  rw [hf _ (below_mono p hp (hm h).1), hf h hp, (hm h).view p hp]

end Prov
end RV
