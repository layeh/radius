/-
  The checked mirror (RV/Model/Checked.lean) equals the total models: each function is unfolded and
  every primitive rewritten to its list operation under the guard that the code itself tests; the
  loops go through `forLoop_ok` / `forLoop_check` with the total model's recursion as invariant.
  `f_refines` states `Checked.f = RV.f` for a function `f` of the decode surface.
  `parseAttrs_count_bytes`, `parse_count`, `vsaGets_count`, `hGets_go_count`,
  `getsVendor_cons` and `RV_tpPlain_ne_fault` are facts about the total model `RV.*` alone; they are
  in this file because nothing outside the checked layer (this file and Props/C02.lean, for its
  `*_bound` theorems and the vendor walks) uses them.
  `userPassword_ne_fault'` is about `Checked.userPassword`; the prime keeps it apart from
  `RV.userPassword_ne_fault`, the same fact about the total model, which it is derived from.
-/
import RV.Model.Checked
import RV.Proofs.Wire
import RV.Proofs.Password
import RV.Proofs.Codec
namespace RV
namespace Checked

theorem forLoop_exit {σ : Type} (step : Nat) (hstep : 0 < step) (hi : Nat) (body : Nat → σ → Res σ)
    (i : Nat) (s : σ) (h : hi ≤ i) : forLoop step hstep hi body i s = .ok s := by
  unfold forLoop; rw [if_neg (by omega)]

theorem forLoop_step {σ : Type} (step : Nat) (hstep : 0 < step) (hi : Nat) (body : Nat → σ → Res σ)
    (i : Nat) (s s' : σ) (h : i < hi) (hb : body i s = .ok s') :
    forLoop step hstep hi body i s = forLoop step hstep hi body (i + step) s' := by
  rw [forLoop, if_pos h, hb]

theorem forLoop_ok {σ : Type} (step : Nat) (hstep : 0 < step) (hi : Nat) (body : Nat → σ → Res σ)
    (Inv : Nat → σ → Prop) (t : σ)
    (hbody : ∀ i s, i < hi → Inv i s → ∃ s', body i s = .ok s' ∧ Inv (i + step) s')
    (hexit : ∀ i s, hi ≤ i → Inv i s → s = t)
    (i : Nat) (s : σ) (h0 : Inv i s) : forLoop step hstep hi body i s = .ok t := by
  induction hn : hi - i using Nat.strongRecOn generalizing i s with
  | _ n ih =>
    by_cases hlt : i < hi
    · obtain ⟨s', hb, h1⟩ := hbody i s hlt h0
      rw [forLoop_step step hstep hi body i s s' hlt hb]
      exact ih (hi - (i + step)) (by omega) (i + step) s' h1 rfl
    · rw [forLoop_exit step hstep hi body i s (by omega), hexit i s (by omega) h0]

theorem forLoop_check {σ : Type} (hi : Nat) (body : Nat → σ → Res σ) (good : Nat → Prop)
    (Inv : Nat → σ → Prop) (Post : Res σ → Prop)
    (hgood : ∀ j s, j < hi → Inv j s → good j → ∃ s', body j s = .ok s' ∧ Inv (j + 1) s')
    (hbad : ∀ j s, j < hi → Inv j s → ¬ good j → body j s = .err)
    (i : Nat) (s : σ) (h0 : Inv i s)
    (hall : (∀ j, i ≤ j → j < hi → good j) → ∀ s', Post (.ok s'))
    (hex : ∀ j, i ≤ j → j < hi → ¬ good j → Post .err) :
    Post (forLoop 1 (by decide) hi body i s) := by
  induction hn : hi - i using Nat.strongRecOn generalizing i s with
  | _ n ih =>
    by_cases hlt : i < hi
    · by_cases hg : good i
      · obtain ⟨s', hb, h1⟩ := hgood i s hlt h0 hg
        rw [forLoop_step 1 (by decide) hi body i s s' hlt hb]
        refine ih (hi - (i + 1)) (by omega) (i + 1) s' h1 (fun h => hall fun j hij hj => ?_)
          (fun j hij hj => hex j (by omega) hj) rfl
        by_cases e : j = i
        · rw [e]; exact hg
        · exact h j (by omega) hj
      · rw [forLoop, if_pos hlt, hbad i s hlt h0 hg]
        exact hex i (Nat.le_refl _) hlt hg
    · rw [forLoop_exit 1 (by decide) hi body i s (by omega)]
      exact hall (fun j h1 h2 => by omega) s

theorem if_else_congr {c : Prop} [Decidable c] {α : Type} {e a b : α} (h : ¬ c → a = b) :
    (if c then e else a) = if c then e else b := by
  split
  · rfl
  · exact h ‹_›

theorem bind_eq_match {α β} (x : Res α) (f : α → Res β) :
    (x >>= f) = match x with | .ok a => f a | .err => .err | .fault => .fault := by
  cases x <;> rfl

theorem getD_cons_zero (x : UInt8) (xs : Bytes) : (x :: xs).getD 0 0 = x := rfl
theorem getD_cons_succ (x : UInt8) (xs : Bytes) (i : Nat) : (x :: xs).getD (i + 1) 0 = xs.getD i 0 := rfl

theorem goCopy_zeros (a : Bytes) (n : Nat) (h : a.length = n) : goCopy (zeros n) a = a := by
  simp [goCopy, zeros, ← h]

theorem goCopy_zeros_short (a : Bytes) (n : Nat) (h : a.length ≤ n) :
    goCopy (zeros n) a = a ++ zeros (n - a.length) := by
  simp [goCopy, zeros, List.take_of_length_le h]

theorem idx_append_cons (pre : Bytes) (x : UInt8) (post : Bytes) (n : Nat) (hn : n = pre.length) :
    idx (pre ++ x :: post) n = .ok x := by
  subst hn; simp [idx]

theorem store_append_cons (pre : Bytes) (x : UInt8) (post : Bytes) (n : Nat) (hn : n = pre.length) (v : UInt8) :
    store (pre ++ x :: post) n v = .ok (pre ++ v :: post) := by
  subst hn; simp [store]

theorem be16_eq (a : Bytes) (h : a.length = 2) : be16 a = .ok (beNat a) := by
  match a, h with
  | [x, y], _ =>
    refine congrArg Res.ok (?_ : y.toNat + x.toNat * 2 ^ 8 = _)
    simp only [beNat, List.length_cons, List.length_nil, Nat.reduceAdd, Nat.reducePow, Nat.mul_one, Nat.add_zero]
    ac_rfl

theorem be32_eq (a : Bytes) (h : a.length = 4) : be32 a = .ok (beNat a) := by
  match a, h with
  | [x, y, z, w], _ =>
    refine congrArg Res.ok (?_ : w.toNat + z.toNat * 2 ^ 8 + y.toNat * 2 ^ 16 + x.toNat * 2 ^ 24 = _)
    simp only [beNat, List.length_cons, List.length_nil, Nat.reduceAdd, Nat.reducePow, Nat.mul_one, Nat.add_zero]
    ac_rfl

theorem be64_eq (a : Bytes) (h : a.length = 8) : be64 a = .ok (beNat a) := by
  match a, h with
  | [a0, a1, a2, a3, a4, a5, a6, a7], _ =>
    refine congrArg Res.ok (?_ : a7.toNat + a6.toNat * 2 ^ 8 + a5.toNat * 2 ^ 16 + a4.toNat * 2 ^ 24 +
      a3.toNat * 2 ^ 32 + a2.toNat * 2 ^ 40 + a1.toNat * 2 ^ 48 + a0.toNat * 2 ^ 56 = _)
    simp only [beNat, List.length_cons, List.length_nil, Nat.reduceAdd, Nat.reducePow, Nat.mul_one, Nat.add_zero]
    ac_rfl

theorem parseStep_short (b : Bytes) (h : b.length < 2) : parseStep b = .err := by
  unfold parseStep; rw [if_pos h]

theorem parseStep_cons (t l : UInt8) (rest : Bytes) :
    parseStep (t :: l :: rest) =
      if l.toNat < minAttrLength ∨ l.toNat - 2 > rest.length then .err
      else .ok (⟨t.toNat, rest.take (l.toNat - 2)⟩, rest.drop (l.toNat - 2)) := by
  have hl := u8_lt l
  have e1 : (t :: l :: rest).getD 1 0 = l := rfl
  have e0 : (t :: l :: rest).getD 0 0 = t := rfl
  have elen : (t :: l :: rest).length = rest.length + 2 := rfl
  unfold parseStep
  rw [if_neg (by simp), idx_ok (by simp), Res.ok_bind, e1, elen]
  simp only [minAttrLength]
  by_cases hg : l.toNat < 2 ∨ l.toNat - 2 > rest.length
  · rw [if_pos hg, if_pos (by omega)]
  · rw [if_neg hg, if_neg (by omega), idx_ok (by simp), Res.ok_bind, sliceFrom_ok (by rw [elen]; omega), e0]
    have hd : List.drop l.toNat (t :: l :: rest) = rest.drop (l.toNat - 2) := by
      have : l.toNat = (l.toNat - 2) + 1 + 1 := by omega
      rw [this]; simp
    split
    · rw [slice_ok (by omega) (by rw [elen]; omega)]
      simp [hd]
    · have : l.toNat - 2 = 0 := by omega
      simp [hd, this]

theorem parseAttrsLoop_nil (attrs : Attrs) : parseAttrsLoop [] attrs = .ok attrs := by
  rw [parseAttrsLoop]; rfl

theorem parseAttrsLoop_cons (x : UInt8) (xs : Bytes) (attrs : Attrs) :
    parseAttrsLoop (x :: xs) attrs =
      parseStep (x :: xs) >>= fun r => parseAttrsLoop r.2 (attrs ++ [r.1]) := by
  rw [parseAttrsLoop, if_pos (show (x :: xs).length > 0 from Nat.succ_pos _)]
  split <;> (rename_i h; rw [h]; rfl)

theorem parseAttrsLoop_cons_cons (t l : UInt8) (rest : Bytes) (acc : Attrs)
    (hg : ¬ (l.toNat < minAttrLength ∨ l.toNat - 2 > rest.length)) :
    parseAttrsLoop (t :: l :: rest) acc =
      parseAttrsLoop (rest.drop (l.toNat - 2)) (acc ++ [⟨t.toNat, rest.take (l.toNat - 2)⟩]) := by
  rw [parseAttrsLoop_cons, parseStep_cons, if_neg hg]; rfl

theorem parseAttrsLoop_eq (b : Bytes) (acc : Attrs) :
    parseAttrsLoop b acc =
      match RV.parseAttrs b with
      | .ok as => .ok (acc ++ as)
      | .err => .err
      | .fault => .fault := by
  fun_induction RV.parseAttrs b generalizing acc with
  | case1 => rw [parseAttrsLoop_nil]; exact congrArg Res.ok (List.append_nil acc).symm
  | case2 x => rw [parseAttrsLoop_cons, parseStep_short [x] (Nat.lt_succ_self 1)]; rfl
  | case3 t l rest hg => rw [parseAttrsLoop_cons, parseStep_cons, if_pos hg]; rfl
  | case4 t l rest hg as has ih =>
    rw [parseAttrsLoop_cons_cons t l rest acc hg, ih, has]
    exact congrArg Res.ok (List.append_assoc acc _ as)
  | case5 t l rest hg has ih | case6 t l rest hg has ih => rw [parseAttrsLoop_cons_cons t l rest acc hg, ih, has]

theorem parseAttrs_refines (b : Bytes) : parseAttrs b = RV.parseAttrs b := by
  unfold parseAttrs
  rw [parseAttrsLoop_eq]
  cases RV.parseAttrs b <;> simp

theorem parseAttrs_count_bytes (b : Bytes) (as : Attrs) (h : RV.parseAttrs b = .ok as) :
    2 * as.length ≤ b.length ∧ (as.map (fun a => 2 + a.val.length)).sum = b.length := by
  fun_induction RV.parseAttrs b generalizing as with
  | case1 => cases h; simp
  | case2 | case3 | case5 | case6 => cases h
  | case4 t l rest hg as' has ih =>
    cases h
    have := ih as' has
    simp only [minAttrLength] at hg
    simp only [List.map_cons, List.sum_cons, this.2, List.length_drop, List.length_cons, List.length_take] at this ⊢
    omega

theorem integer_refines (a : Bytes) : integer a = RV.integer a := by
  unfold integer RV.integer; split
  · rfl
  · rw [be32_eq a (by omega)]

theorem integer64_refines (a : Bytes) : integer64 a = RV.integer64 a := by
  unfold integer64 RV.integer64; split
  · rfl
  · rw [be64_eq a (by omega)]

theorem short_refines (a : Bytes) : short a = RV.short a := by
  unfold short RV.short; split
  · rfl
  · rw [be16_eq a (by omega)]

theorem bytesOf_refines (a : Bytes) : bytesOf a = RV.bytesOf a := goCopy_zeros a _ rfl

theorem ipAddr_refines (a : Bytes) : ipAddr a = RV.ipAddr a := by
  unfold ipAddr RV.ipAddr; split
  · rfl
  · rw [goCopy_zeros a 4 (by omega)]; rfl

theorem ipv6Addr_refines (a : Bytes) : ipv6Addr a = RV.ipv6Addr a := by
  unfold ipv6Addr RV.ipv6Addr; split
  · rfl
  · rw [goCopy_zeros a 16 (by omega)]; rfl

theorem ifid_refines (a : Bytes) : ifid a = RV.ifid a := by
  unfold ifid RV.ifid; split
  · rfl
  · rw [goCopy_zeros a _ rfl]; rfl

theorem date_refines (a : Bytes) : date a = RV.date a := by
  unfold date RV.date; split
  · rfl
  · rw [be32_eq a (by omega)]; rfl

theorem vendorSpecific_refines (a : Bytes) : vendorSpecific a = RV.vendorSpecific a := by
  unfold vendorSpecific RV.vendorSpecific; split
  · rfl
  · rw [sliceTo_ok (by omega), Res.ok_bind, be32_eq _ (by simp; omega), Res.ok_bind, sliceFrom_ok (by omega),
      Res.ok_bind, goCopy_zeros _ _ (by simp)]
    rfl

theorem tlv_refines (a : Bytes) : tlv a = RV.tlv a := by
  unfold tlv RV.tlv
  by_cases h1 : a.length < 3 ∨ a.length > 255
  · rw [if_pos h1, if_pos (by omega)]
  · rw [if_neg h1, idx_ok (by omega), Res.ok_bind]
    by_cases h2 : (a.getD 1 0).toNat ≠ a.length
    · rw [if_pos h2, if_pos (by omega)]
    · rw [if_neg h2, if_neg (by omega), idx_ok (by omega), Res.ok_bind, sliceFrom_ok (by omega), Res.ok_bind,
        goCopy_zeros _ _ (by simp)]
      rfl

theorem xorRange_block (base : Nat) (blk : Bytes) : ∀ (pre h : Bytes) (j : Nat), base + j = pre.length →
    h.length = blk.length → xorRange base blk j (pre ++ h) = .ok (pre ++ xorBytes h blk) := by
  induction blk with
  | nil =>
    intro pre h j _ hl
    rw [List.eq_nil_of_length_eq_zero hl]; rfl
  | cons b bs ih =>
    intro pre h j hj hl
    cases h with
    | nil => cases hl
    | cons x hs =>
      have := ih (pre ++ [x ^^^ b]) hs (j + 1) (by rw [List.length_append, ← hj]; rfl) (Nat.succ.inj hl)
      rw [List.append_assoc, List.append_assoc] at this
      rw [xorRange, idx_append_cons _ _ _ _ hj, Res.ok_bind, store_append_cons _ _ _ _ hj, Res.ok_bind]
      exact this
theorem indexByte_spec (c : UInt8) (b : Bytes) :
    match indexByte b c with
    | some i => i ≤ b.length ∧ b.take i = b.takeWhile (· ≠ c)
    | none => b.takeWhile (· ≠ c) = b := by
  induction b with
  | nil => rfl
  | cons x xs ih =>
    rw [indexByte, List.takeWhile_cons]
    by_cases hx : x = c
    · rw [if_pos hx, if_neg (by simpa using hx)]
      exact ⟨Nat.zero_le _, rfl⟩
    · rw [if_neg hx, if_pos (by simpa using hx)]
      cases hr : indexByte xs c with
      | none => rw [hr] at ih; exact congrArg (x :: ·) ih
      | some k => rw [hr] at ih; exact ⟨Nat.succ_le_succ ih.1, congrArg (x :: ·) ih.2⟩

theorem cut_eq (dec : Bytes) :
    (match indexByte dec 0 with
     | some i => sliceTo dec i
     | none => (pure dec : Res Bytes)) = .ok (cutAtNul dec) := by
  have := indexByte_spec 0 dec
  unfold cutAtNul
  cases h : indexByte dec 0 with
  | none => rw [h] at this; simp only []; rw [this]; rfl
  | some i => rw [h] at this; simp only []; rw [sliceTo_ok this.1, this.2]

theorem userPassword_refines (H : Hash) (hH : ∀ x, (H x).length = 16) (a secret ra : Bytes) :
    userPassword H a secret ra = RV.userPassword H a secret ra := by
  unfold userPassword RV.userPassword
  refine if_else_congr fun h1 => if_else_congr fun h2 => if_else_congr fun h3 => ?_
  have ht : (a.take 16).length = 16 := by rw [List.length_take]; omega
  have hx := xorRange_block 0 (a.take 16) [] (H (secret ++ ra)) 0 rfl (by rw [hH, ht])
  rw [sliceTo_ok (by omega), Res.ok_bind]
  simp only [List.nil_append] at hx ⊢
  rw [hx, Res.ok_bind]
  -- the block loop: `dec` holds the first `i` bytes of the result, `a[i-16:i]` is the chaining block
  rw [forLoop_ok 16 (by decide) a.length _
    (fun i dec => i % 16 = 0 ∧ 16 ≤ i ∧ i ≤ a.length ∧ dec.length = i ∧
      dec ++ upDecLoop H secret ((a.drop (i - 16)).take 16) (a.drop i) = upDecLoop H secret ra a)
    (upDecLoop H secret ra a)]
  · exact cut_eq _
  · intro i dec hi ⟨m16, h16, _, hlen, hfull⟩
    have e1 : i - (i - 16) = 16 := by omega
    have e2 : i + 16 - i = 16 := by omega
    have e3 : i + 16 - 16 = i := by omega
    have hb : ((a.drop i).take 16).length = 16 := by rw [List.length_take, List.length_drop]; omega
    refine ⟨dec ++ xorBytes (H (secret ++ (a.drop (i - 16)).take 16)) ((a.drop i).take 16),
      ?_, by omega, by omega, by omega, ?_, ?_⟩
    · rw [slice_ok (by omega) (by omega), Res.ok_bind, slice_ok (by omega) (by omega), Res.ok_bind, e1, e2]
      exact xorRange_block i _ dec _ 0 hlen.symm (by rw [hH, hb])
    · rw [List.length_append, xorBytes_length, hH, hb, hlen]; rfl
    · rw [← hfull, upDecLoop_ne H secret _ (a.drop i) (by intro h; rw [h] at hb; cases hb), e3,
        List.drop_drop, List.append_assoc]
  · intro j dec hj ⟨_, _, hle, _, hfull⟩
    rw [List.drop_eq_nil_of_le hj, upDecLoop_nil, List.append_nil] at hfull
    exact hfull
  · refine ⟨rfl, Nat.le_refl _, by omega, by rw [xorBytes_length, hH, ht]; rfl, ?_⟩
    rw [upDecLoop_ne H secret ra a (by intro h; rw [h] at ht; cases ht)]; rfl

theorem xorBytes_eq_range (l b : Bytes) (h : l.length ≤ b.length) :
    xorBytes l b = (List.range l.length).map (fun i => l.getD i 0 ^^^ b.getD i 0) := by
  induction l generalizing b with
  | nil => simp
  | cons x xs ih =>
    cases b with
    | nil => simp at h
    | cons y ys =>
      simp only [List.length_cons, Nat.add_le_add_iff_right] at h
      rw [List.length_cons, List.range_succ_eq_map, List.map_cons, List.map_map, xorBytes_cons, ih ys h]
      rfl

theorem getD_take_drop (a : Bytes) (c i n : Nat) (hi : i < n) :
    ((a.drop c).take n).getD i 0 = a.getD (c + i) 0 := by
  simp [List.getD_eq_getElem?_getD, hi]

/-- the inner `for i := 0; i < 16; i++ { plaintext[chunk*16+i] = a[chunk*16+i] ^ b[i] }` of chunk `c`;
    `k` is the number of octets of `plaintext` (`make([]byte, len(a))`, all zero) that the chunks
    before `c` have not written: the buffer is `done ++ zeros k` -/
theorem tpInner_eq (a b done : Bytes) (c k : Nat) (hd : done.length = c * 16) (hk : 16 ≤ k)
    (ha : c * 16 + 16 ≤ a.length) (hb : b.length = 16) :
    forLoop 1 (by decide) 16 (fun i plaintext => do
      let x ← idx a (c * 16 + i)
      let y ← idx b i
      store plaintext (c * 16 + i) (x ^^^ y)) 0 (done ++ zeros k) =
    .ok (done ++ xorBytes ((a.drop (c * 16)).take 16) b ++ zeros (k - 16)) := by
  let f : Nat → UInt8 := fun i => a.getD (c * 16 + i) 0 ^^^ b.getD i 0
  have hfin : (List.range 16).map f = xorBytes ((a.drop (c * 16)).take 16) b := by
    have hl : ((a.drop (c * 16)).take 16).length = 16 := by rw [List.length_take, List.length_drop]; omega
    rw [xorBytes_eq_range _ _ (by omega), hl]
    apply List.map_congr_left
    intro i hi
    rw [List.mem_range] at hi
    rw [getD_take_drop a _ i 16 hi]
  apply forLoop_ok 1 (by decide) 16 _
    (fun i pt => i ≤ 16 ∧ pt = done ++ (List.range i).map f ++ zeros (k - i))
  · intro i pt hi ⟨_, hs⟩
    have hz : zeros (k - i) = 0 :: zeros (k - (i + 1)) := by
      rw [show k - i = (k - (i + 1)) + 1 by omega]; rfl
    have hl : c * 16 + i = (done ++ (List.range i).map f).length := by
      rw [List.length_append, List.length_map, List.length_range, hd]
    refine ⟨done ++ (List.range (i + 1)).map f ++ zeros (k - (i + 1)), ?_, by omega, rfl⟩
    rw [hs, hz, idx_ok (by omega), Res.ok_bind, idx_ok (by omega), Res.ok_bind,
      store_append_cons _ _ _ _ hl, List.range_succ, List.map_append, ← List.append_assoc done]
    simp [f]
  · intro i pt hi ⟨hle, hs⟩
    rw [hs, show i = 16 by omega, hfin]
  · exact ⟨Nat.zero_le _, by rw [List.range_zero, List.map_nil, List.append_nil]; rfl⟩

theorem tpChunks_eq (H : Hash) (hH : ∀ x, (H x).length = 16) (a secret ra salt : Bytes) (chunks : Nat)
    (ha : a.length = chunks * 16) :
    tpChunks H a secret ra salt chunks (zeros (chunks * 16)) = .ok (tpDecLoop H secret (ra ++ salt) a) := by
  let iv : Nat → Bytes := fun c => if c = 0 then ra ++ salt else (a.drop ((c - 1) * 16)).take 16
  unfold tpChunks
  -- `done` is the decrypted prefix, `iv c` the chaining value of chunk `c`
  apply forLoop_ok 1 (by decide) chunks _
    (fun c pt => c ≤ chunks ∧ ∃ done, done.length = c * 16 ∧ pt = done ++ zeros ((chunks - c) * 16) ∧
      done ++ tpDecLoop H secret (iv c) (a.drop (c * 16)) = tpDecLoop H secret (ra ++ salt) a)
  · intro c pt hc ⟨_, done, hd, hs, hfull⟩
    have hb : ((a.drop (c * 16)).take 16).length = 16 := by rw [List.length_take, List.length_drop]; omega
    have hiv : (if c = 0 then (pure (ra ++ salt) : Res Bytes) else slice a ((c - 1) * 16) (c * 16)) = .ok (iv c) := by
      simp only [iv]
      split
      · rfl
      · rw [slice_ok (by omega) (by omega), show c * 16 - (c - 1) * 16 = 16 by omega]
    refine ⟨_, ?_, by omega, done ++ xorBytes ((a.drop (c * 16)).take 16) (H (secret ++ iv c)), ?_, rfl, ?_⟩
    · rw [hs, hiv, Res.ok_bind]
      simp only []
      rw [tpInner_eq a _ done c _ hd (by omega) (by omega) (hH _),
        show (chunks - c) * 16 - 16 = (chunks - (c + 1)) * 16 by omega]
    · rw [List.length_append, xorBytes_length, hH, hb, hd]; omega
    · rw [← hfull, tpDecLoop_ne H secret (iv c) (a.drop (c * 16)) (by intro h; rw [h] at hb; cases hb),
        List.drop_drop, List.append_assoc, show c * 16 + 16 = (c + 1) * 16 by omega]
      rfl
  · intro c pt hc ⟨hle, done, hd, hs, hfull⟩
    rw [List.drop_eq_nil_of_le (by rw [ha]; exact Nat.mul_le_mul_right 16 hc), tpDecLoop_nil, List.append_nil] at hfull
    rw [hs, hfull, show (chunks - c) * 16 = 0 by omega]
    exact List.append_nil _
  · exact ⟨Nat.zero_le _, [], rfl, by rw [Nat.sub_zero]; rfl, by rw [Nat.zero_mul]; rfl⟩

theorem tunnelPassword_refines (H : Hash) (hH : ∀ x, (H x).length = 16) (a secret ra : Bytes) :
    tunnelPassword H a secret ra = RV.tunnelPassword H a secret ra := by
  unfold tunnelPassword RV.tunnelPassword
  refine if_else_congr fun h1 => if_else_congr fun h2 => if_else_congr fun h3 => ?_
  rw [idx_ok (by omega), Res.ok_bind]
  refine if_else_congr fun h4 => ?_
  rw [sliceTo_ok (by omega), Res.ok_bind, sliceFrom_ok (by omega), Res.ok_bind]
  simp only [List.nil_append]
  have hlen : (a.drop 2).length = (a.drop 2).length / 16 * 16 := by
    rw [List.length_drop]; omega
  rw [tpChunks_eq H hH (a.drop 2) secret ra (a.take 2) _ hlen, Res.ok_bind]
  have hpl : (tpDecLoop H secret (ra ++ a.take 2) (a.drop 2)).length = a.length - 2 := by
    rw [tpDecLoop_length H hH, List.length_drop]
  generalize tpDecLoop H secret (ra ++ a.take 2) (a.drop 2) = pt at hpl ⊢
  rw [idx_ok (by omega), Res.ok_bind]
  have hb := u8_lt (pt.getD 0 0)
  by_cases h5 : (pt.getD 0 0).toNat > pt.length - 1
  · rw [if_pos (by omega), if_pos h5]
  · have hadd : ((1 : UInt8) + pt.getD 0 0).toNat = 1 + (pt.getD 0 0).toNat := by
      rw [UInt8.toNat_add, UInt8.toNat_one]; omega
    rw [if_neg (by omega), if_neg h5, hadd, slice_ok (by omega) (by omega), Res.ok_bind,
      Nat.add_sub_cancel_left]
    rfl

theorem userPassword_ne_fault' (H : Hash) (hH : ∀ x, (H x).length = 16) (a secret ra : Bytes) :
    userPassword H a secret ra ≠ .fault := by
  rw [userPassword_refines H hH]; exact RV.userPassword_ne_fault H a secret ra

/-- the decrypted block of the crafted attribute of the negative control: first octet 0xFF, so that with the
    embedded-length check removed `plaintext[1 : 1+passwordLength]` panics (`1+255` wraps to `0` in byte
    arithmetic, the slice is `plaintext[1:0]`) -/
theorem tpDecLoop_control :
    tpDecLoop (fun _ => zeros 16) [1] (zeros 16 ++ List.take 2 ([0x80, 0x00, 0xFF] ++ zeros 15))
      (List.drop 2 ([0x80, 0x00, 0xFF] ++ zeros 15)) = 0xFF :: zeros 15 := by
  rw [tpDecLoop_ne _ _ _ _ (by decide)]
  have e : List.drop 16 (List.drop 2 ([0x80, 0x00, 0xFF] ++ zeros 15)) = [] := by decide
  rw [e, tpDecLoop_nil]
  decide

theorem vsaHdr_eq (g : Bool) (vsa : Bytes) (h : 2 ≤ vsa.length) :
    vsaHdr g vsa = .ok (if (g = true ∧ (vsa.getD 1 0).toNat > vsa.length) ∨ (vsa.getD 1 0).toNat < 3 then none
                        else some (vsa.getD 0 0, (vsa.getD 1 0).toNat)) := by
  unfold vsaHdr
  rw [idx_ok (by omega), Res.ok_bind, idx_ok (by omega), Res.ok_bind]
  split <;> rfl

theorem vsaHead_eq (vsa : Bytes) :
    vsaHead vsa = if vsa.length < 3 ∨ (vsa.getD 1 0).toNat > vsa.length ∨ (vsa.getD 1 0).toNat < 3 then none
      else some (vsa.getD 0 0, vsa.take (vsa.getD 1 0).toNat, vsa.drop (vsa.getD 1 0).toNat) := by
  rcases vsa with _ | ⟨t, _ | ⟨l, rest⟩⟩ <;> rfl

theorem vsaHead_some {vsa : Bytes} {t : UInt8} {sub rest : Bytes} (h : vsaHead vsa = some (t, sub, rest)) :
    3 ≤ vsa.length ∧ 3 ≤ (vsa.getD 1 0).toNat ∧ (vsa.getD 1 0).toNat ≤ vsa.length ∧
    vsaHdr true vsa = .ok (some (t, (vsa.getD 1 0).toNat)) ∧
    slice vsa 2 (vsa.getD 1 0).toNat = .ok (sub.drop 2) ∧
    sliceFrom vsa (vsa.getD 1 0).toNat = .ok rest := by
  rw [vsaHead_eq] at h
  split at h
  · cases h
  · rename_i hg
    cases h
    refine ⟨by omega, by omega, by omega, ?_, ?_, ?_⟩
    · rw [vsaHdr_eq _ _ (by omega), if_neg (by simp only [true_and]; omega)]
    · simp only [gt_iff_lt, not_or, Nat.not_lt] at hg
      rw [slice_ok (by omega) (by omega), List.drop_take]
    · rw [sliceFrom_ok (by omega)]

theorem vsaHead_none {vsa : Bytes} (h : vsaHead vsa = none) (h3 : 3 ≤ vsa.length) :
    vsaHdr true vsa = .ok none := by
  rw [vsaHead_eq] at h
  split at h
  · rename_i hg
    rw [vsaHdr_eq _ _ (by omega), if_pos (by simp only [true_and]; omega)]
  · cases h

theorem vsaGetsLoop_unfold (g : Bool) (typ : UInt8) (vsa : Bytes) (values : List Bytes) (h3 : 3 ≤ vsa.length) :
    vsaGetsLoop g typ vsa values =
      vsaHdr g vsa >>= fun
        | none => .ok values
        | some (t, l) =>
          (if t = typ then (do let v ← slice vsa 2 l; pure (values ++ [v])) else pure values) >>= fun values =>
            sliceFrom vsa l >>= fun rest => vsaGetsLoop g typ rest values := by
  rw [vsaGetsLoop, if_pos h3]
  split
  · rename_i h0; rw [h0]; rfl
  · rename_i t l h0
    rw [h0, Res.ok_bind]
    split
    · rename_i vs hv
      simp only [hv, Res.ok_bind]
      split
      · rename_i h1; rw [h1]; rfl
      · rename_i h1; rw [h1]; rfl
      · rename_i h1; rw [h1]; rfl
    · rename_i hv; simp only [hv]; rfl
    · rename_i hv; simp only [hv]; rfl
  · rename_i h0; rw [h0]; rfl
  · rename_i h0; rw [h0]; rfl

theorem vsaGetsLoop_none {typ : UInt8} {vsa : Bytes} (acc : List Bytes) (h : vsaHead vsa = none) :
    vsaGetsLoop true typ vsa acc = .ok acc := by
  by_cases h3 : 3 ≤ vsa.length
  · rw [vsaGetsLoop_unfold _ _ _ _ h3, vsaHead_none h h3]; rfl
  · rw [vsaGetsLoop, if_neg h3]

theorem vsaGetsLoop_some {typ t : UInt8} {vsa sub rest : Bytes} (acc : List Bytes)
    (h : vsaHead vsa = some (t, sub, rest)) :
    vsaGetsLoop true typ vsa acc = vsaGetsLoop true typ rest (if t = typ then acc ++ [sub.drop 2] else acc) := by
  obtain ⟨h3, _, _, hhdr, hsl, hsf⟩ := vsaHead_some h
  rw [vsaGetsLoop_unfold _ _ _ _ h3, hhdr, Res.ok_bind]
  simp only [hsl, hsf]
  split <;> rfl

theorem vsaGetsLoop_eq (typ : UInt8) (vsa : Bytes) (acc : List Bytes) :
    vsaGetsLoop true typ vsa acc = .ok (acc ++ RV.vsaGets typ vsa) := by
  fun_induction RV.vsaGets typ vsa generalizing acc with
  | case1 vsa hn => rw [vsaGetsLoop_none acc hn, List.append_nil]
  | case2 vsa sub rest hs ih => rw [vsaGetsLoop_some acc hs, if_pos rfl, ih, List.append_assoc]; rfl
  | case3 vsa t sub rest hs ht ih => rw [vsaGetsLoop_some acc hs, if_neg ht, ih]

theorem vsaLookupLoop_unfold (g : Bool) (typ : UInt8) (vsa : Bytes) (h3 : 3 ≤ vsa.length) :
    vsaLookupLoop g typ vsa =
      vsaHdr g vsa >>= fun
        | none => .ok none
        | some (t, l) =>
          if t = typ then (do let v ← slice vsa 2 l; pure (some v))
          else sliceFrom vsa l >>= fun rest => vsaLookupLoop g typ rest := by
  rw [vsaLookupLoop, if_pos h3]
  split
  · rename_i h0; rw [h0]; rfl
  · rename_i t l h0
    rw [h0, Res.ok_bind]
    simp only []
    by_cases ht : t = typ
    · rw [if_pos ht, if_pos ht]
    · rw [if_neg ht, if_neg ht]
      split
      · rename_i h1; rw [h1]; rfl
      · rename_i h1; rw [h1]; rfl
      · rename_i h1; rw [h1]; rfl
  · rename_i h0; rw [h0]; rfl
  · rename_i h0; rw [h0]; rfl

theorem vsaLookupLoop_eq (typ : UInt8) (vsa : Bytes) :
    vsaLookupLoop true typ vsa = .ok (RV.vsaGets typ vsa).head? := by
  fun_induction RV.vsaGets typ vsa with
  | case1 vsa hn =>
    by_cases h3 : 3 ≤ vsa.length
    · rw [vsaLookupLoop_unfold _ _ _ h3, vsaHead_none hn h3]; rfl
    · rw [vsaLookupLoop, if_neg h3]; rfl
  | case2 vsa sub rest hs ih =>
    obtain ⟨h3, _, _, hhdr, hsl, _⟩ := vsaHead_some hs
    rw [vsaLookupLoop_unfold _ _ _ h3, hhdr, Res.ok_bind]
    simp only [if_pos, hsl]; rfl
  | case3 vsa t sub rest hs ht ih =>
    obtain ⟨h3, _, _, hhdr, _, hsf⟩ := vsaHead_some hs
    rw [vsaLookupLoop_unfold _ _ _ h3, hhdr, Res.ok_bind]
    simp only [if_neg ht, hsf, Res.ok_bind]; exact ih

theorem getsVendor_cons (vid : Nat) (typ : UInt8) (a : AVP) (rest : Attrs) :
    RV.getsVendor vid typ (a :: rest) =
      (match vendorPayload vid a with | some payload => RV.vsaGets typ payload | none => []) ++
        RV.getsVendor vid typ rest := by
  simp only [RV.getsVendor, List.flatMap_cons]; rfl

/-- The head of both vendor walks (`getsVendorLoop`, `lookupVendorLoop`): the checked tests on one
    attribute select what `vendorPayload` selects, and the `fault` arm is dead. -/
theorem vendorCase {β : Type} (vid : Nat) (a : AVP) (skip flt : β) (hit : Bytes → β) :
    (if a.typ ≠ vsaType then skip else
      match vendorSpecific a.val with
      | .fault => flt
      | .err => skip
      | .ok (id, vsa) => if id ≠ vid then skip else hit vsa) =
    match vendorPayload vid a with | none => skip | some p => hit p := by
  unfold vendorPayload
  by_cases ht : a.typ ≠ vsaType
  · rw [if_pos ht, if_pos ht]
  · rw [if_neg ht, if_neg ht, vendorSpecific_refines]
    cases hv : RV.vendorSpecific a.val with
    | fault => exact absurd hv (vendorSpecific_ne_fault a.val)
    | err => rfl
    | ok r =>
      obtain ⟨id, payload⟩ := r
      simp only []
      by_cases hid : id ≠ vid
      · rw [if_pos hid, if_neg (by simpa using hid)]
      · rw [if_neg hid, if_pos (by simpa using hid)]

theorem getsVendorLoop_eq (vid : Nat) (typ : UInt8) (as : Attrs) (acc : List Bytes) :
    getsVendorLoop true vid typ as acc = .ok (acc ++ RV.getsVendor vid typ as) := by
  induction as generalizing acc with
  | nil => simp [getsVendorLoop, RV.getsVendor]
  | cons a rest ih =>
    rw [getsVendor_cons, getsVendorLoop]
    refine (vendorCase vid a _ Res.fault _).trans ?_
    cases vendorPayload vid a with
    | none => simp only []; rw [ih]; simp
    | some p => simp only []; rw [vsaGetsLoop_eq]; simp only []; rw [ih, List.append_assoc]

theorem vsaGets_count (typ : UInt8) (vsa : Bytes) : 3 * (RV.vsaGets typ vsa).length ≤ vsa.length := by
  fun_induction RV.vsaGets typ vsa with
  | case1 => simp
  | case2 vsa sub rest hs ih | case3 vsa t sub rest hs ht ih =>
    obtain ⟨h3, hl3, hle, _, _, hsf⟩ := vsaHead_some hs
    rw [sliceFrom_ok hle] at hsf
    cases hsf
    simp only [List.length_cons, List.length_drop] at ih ⊢
    omega

theorem tagStrip_eq (a : Bytes) :
    tagStrip a = .ok (if a.length ≥ 1 ∧ (a.getD 0 0).toNat ≤ 0x1F then (a.getD 0 0, a.drop 1) else (0, a)) := by
  unfold tagStrip
  by_cases h1 : a.length ≥ 1
  · rw [if_pos h1, idx_ok (by omega), Res.ok_bind]
    by_cases h2 : (a.getD 0 0).toNat ≤ 0x1F
    · rw [if_pos h2, if_pos ⟨h1, h2⟩, Res.ok_bind, sliceFrom_ok (by omega)]; rfl
    · rw [if_neg h2, if_neg (by omega)]; rfl
  · rw [if_neg h1, if_neg (by omega)]; rfl

theorem tagStripInt_eq (a : Bytes) :
    tagStripInt a = .ok (if a.length ≥ 1 ∧ (a.getD 0 0).toNat ≤ 0x1F then (a.getD 0 0, (0 : UInt8) :: a.drop 1) else (0, a)) := by
  unfold tagStripInt
  by_cases h1 : a.length ≥ 1
  · rw [if_pos h1, idx_ok (by omega), Res.ok_bind]
    by_cases h2 : (a.getD 0 0).toNat ≤ 0x1F
    · rw [if_pos h2, if_pos ⟨h1, h2⟩, Res.ok_bind, sliceFrom_ok (by omega)]; rfl
    · rw [if_neg h2, if_neg (by omega)]; rfl
  · rw [if_neg h1, if_neg (by omega)]; rfl

theorem byteKind_eq (a : Bytes) : byteKind a = if a.length ≠ 1 then .err else .ok (a.getD 0 0) := by
  unfold byteKind
  split
  · rfl
  · rw [idx_ok (by omega)]

/-- bits `bit … 7` (0 = most significant) of `x` are zero, as tested by the Go loop -/
def bitsClear (x : UInt8) (bit : Nat) : Prop :=
  ∀ k, k < 8 → bit ≤ k → x &&& ((1 : UInt8) <<< UInt8.ofNat (7 - k)) = 0

instance (x : UInt8) (bit : Nat) : Decidable (bitsClear x bit) := by unfold bitsClear; infer_instance

theorem and_two_pow_eq_zero (n i : Nat) : n &&& 2 ^ i = 0 ↔ n.testBit i = false := by
  constructor
  · intro h
    have := Nat.testBit_and n (2 ^ i) i
    rwa [h, Nat.zero_testBit, Nat.testBit_two_pow_self, Bool.and_true, eq_comm] at this
  · intro h
    apply Nat.eq_of_testBit_eq
    intro j
    rw [Nat.testBit_and, Nat.testBit_two_pow, Nat.zero_testBit]
    by_cases e : i = j
    · rw [← e, h]; rfl
    · rw [decide_eq_false e, Bool.and_false]

theorem bit_toNat (k : Nat) (hk : k < 8) : ((1 : UInt8) <<< UInt8.ofNat (7 - k)).toNat = 2 ^ (7 - k) := by
  have h1 : (7 - k) % 256 % 8 = 7 - k := by omega
  have h2 : 2 ^ (7 - k) < 2 ^ 8 := Nat.pow_lt_pow_right (by decide) (by omega)
  rw [UInt8.toNat_shiftLeft, UInt8.toNat_ofNat', UInt8.toNat_one, Nat.one_shiftLeft, h1, Nat.mod_eq_of_lt h2]

/-- the Go loop tests bit `7 - j` of `x` for `j = bit … 7`: the low `8 - bit` bits of `x` -/
theorem bitsClear_iff (x : UInt8) (k : Nat) : bitsClear x k ↔ ∀ i, i < 8 - k → x.toNat.testBit i = false := by
  have key : ∀ j, j < 8 →
      (x &&& ((1 : UInt8) <<< UInt8.ofNat (7 - j)) = 0 ↔ x.toNat.testBit (7 - j) = false) := by
    intro j hj
    rw [← UInt8.toNat_inj, UInt8.toNat_and, bit_toNat j hj, UInt8.toNat_zero, and_two_pow_eq_zero]
  constructor
  · intro h i hi
    have := (key (7 - i) (by omega)).1 (h (7 - i) (by omega) (by omega))
    rwa [show 7 - (7 - i) = i by omega] at this
  · intro h j hj hkj
    exact (key j hj).2 (h (7 - j) (by omega))

/-- the mask `256 - 2^(8-k)` has exactly the bits `8-k … 7` set -/
theorem clearFrom_eq_self_iff (x : UInt8) (k : Nat) :
    clearFrom x k = x ↔ ∀ i, i < 8 - k → x.toNat.testBit i = false := by
  have hm : ∀ i, ((256 - 2 ^ (8 - k)) % 256).testBit i = (decide (i < 8) && !decide (i < 8 - k)) := by
    intro i
    have h1 : 2 ^ (8 - k) - 1 < 2 ^ 8 := by
      have : 2 ^ (8 - k) ≤ 2 ^ 8 := Nat.pow_le_pow_right (by decide) (by omega)
      omega
    have h2 : 256 - 2 ^ (8 - k) = 2 ^ 8 - (2 ^ (8 - k) - 1 + 1) := by
      have : 0 < 2 ^ (8 - k) := Nat.two_pow_pos _
      omega
    rw [show 256 = 2 ^ 8 from rfl, Nat.testBit_mod_two_pow, ← show 256 = 2 ^ 8 from rfl, h2,
      Nat.testBit_two_pow_sub_succ h1, Nat.testBit_two_pow_sub_one, ← Bool.and_assoc, Bool.and_self]
  unfold clearFrom
  rw [← UInt8.toNat_inj, UInt8.toNat_and, UInt8.toNat_ofNat']
  constructor
  · intro h i hi
    have := Nat.testBit_and x.toNat ((256 - 2 ^ (8 - k)) % 256) i
    rw [h, hm, decide_eq_true hi] at this
    simpa using this
  · intro h
    apply Nat.eq_of_testBit_eq
    intro i
    rw [Nat.testBit_and, hm]
    by_cases h8 : i < 8
    · by_cases hi : i < 8 - k
      · rw [h i hi]; rfl
      · rw [decide_eq_true h8, decide_eq_false hi]; simp
    · rw [Nat.testBit_lt_two_pow (Nat.lt_of_lt_of_le (u8_lt x)
        (Nat.pow_le_pow_right (n := 2) (by decide) (Nat.le_of_not_lt h8)))]
      rfl

theorem bitsClear_iff_clearFrom (x : UInt8) (k : Nat) : bitsClear x k ↔ clearFrom x k = x := by
  rw [bitsClear_iff, clearFrom_eq_self_iff x k]

theorem bitsClear_zero (x : UInt8) : bitsClear x 0 ↔ x = 0 := by
  rw [bitsClear_iff_clearFrom x 0, eq_comm]
  exact Iff.of_eq (congrArg (x = ·) (UInt8.and_zero))

theorem prefixBits_eq (ip : Bytes) (octet bit : Nat) (ho : octet < ip.length) :
    prefixBits ip octet bit = if bitsClear (ip.getD octet 0) bit then .ok () else .err := by
  unfold prefixBits
  apply forLoop_check 8 _ (fun k => ip.getD octet 0 &&& ((1 : UInt8) <<< UInt8.ofNat (7 - k)) = 0)
    (fun _ _ => True) (fun r => r = if bitsClear (ip.getD octet 0) bit then .ok () else .err)
  · intro k s _ _ hg
    exact ⟨(), by rw [idx_ok ho, Res.ok_bind, if_neg (fun h => h hg)]; rfl, trivial⟩
  · intro k s _ _ hg
    rw [idx_ok ho, Res.ok_bind, if_pos hg]
  · trivial
  · intro hall s'
    rw [if_pos (show bitsClear _ bit from fun k hk hbk => hall k hbk hk)]
  · intro j hbj hj hg
    rw [if_neg (fun (hc : bitsClear _ bit) => hg (hc j hj hbj))]

/-- per-octet condition of the total model's `hostBitsZero` -/
def octetOK (ip : Bytes) (p i : Nat) : Bool :=
  if (i + 1) * 8 ≤ p then true
  else if i * 8 ≥ p then ip.getD i 0 == 0
  else clearFrom (ip.getD i 0) (p - i * 8) == ip.getD i 0

theorem hostBitsZero_iff (ip : Bytes) (p : Nat) :
    hostBitsZero ip p = true ↔ ∀ i, i < ip.length → octetOK ip p i = true := by
  unfold hostBitsZero octetOK
  simp only [List.all_eq_true, List.mem_range]

/-- the loop's view of octet `o`: the first tested octet is tested from bit `p % 8`, later ones from bit 0 -/
theorem octetOK_iff (ip : Bytes) (p o : Nat) (ho : p / 8 ≤ o) :
    octetOK ip p o = true ↔ bitsClear (ip.getD o 0) (if o = p / 8 then p % 8 else 0) := by
  unfold octetOK
  rw [if_neg (by omega)]
  by_cases he : o = p / 8
  · rw [if_pos he]
    by_cases hm : p % 8 = 0
    · rw [if_pos (by omega), hm, bitsClear_zero]; exact beq_iff_eq
    · rw [if_neg (by omega), bitsClear_iff_clearFrom, show p - o * 8 = p % 8 by omega]
      exact beq_iff_eq
  · rw [if_neg he, if_pos (by omega), bitsClear_zero]; exact beq_iff_eq

theorem prefixLoop_eq (ip : Bytes) (p : Nat) :
    (∃ s, forLoop 1 (by decide) ip.length (fun octet bit => do
        prefixBits ip octet bit
        pure 0) (p / 8) (p % 8) = .ok s ∧ hostBitsZero ip p = true) ∨
    (forLoop 1 (by decide) ip.length (fun octet bit => do
        prefixBits ip octet bit
        pure 0) (p / 8) (p % 8) = .err ∧ hostBitsZero ip p = false) := by
  apply forLoop_check ip.length _ (fun o => octetOK ip p o = true)
    (fun o bit => p / 8 ≤ o ∧ bit = (if o = p / 8 then p % 8 else 0))
    (fun r => (∃ s, r = .ok s ∧ hostBitsZero ip p = true) ∨ (r = .err ∧ hostBitsZero ip p = false))
  · intro o bit ho ⟨hle, hbit⟩ hg
    rw [octetOK_iff ip p o hle, ← hbit] at hg
    exact ⟨0, by rw [prefixBits_eq ip o bit ho, if_pos hg]; rfl, by omega, by rw [if_neg (by omega)]⟩
  · intro o bit ho ⟨hle, hbit⟩ hg
    rw [octetOK_iff ip p o hle, ← hbit] at hg
    rw [prefixBits_eq ip o bit ho, if_neg hg]; rfl
  · exact ⟨Nat.le_refl _, by rw [if_pos rfl]⟩
  · intro hall s'
    refine Or.inl ⟨s', rfl, (hostBitsZero_iff ip p).2 fun i hi => ?_⟩
    by_cases hlt : i < p / 8
    · unfold octetOK; rw [if_pos (by omega)]
    · exact hall i (by omega) hi
  · intro o _ ho hg
    exact Or.inr ⟨rfl, Bool.eq_false_iff.2 fun hz => hg ((hostBitsZero_iff ip p).1 hz o ho)⟩

theorem ipv6Prefix_refines (a : Bytes) : ipv6Prefix a = RV.ipv6Prefix a := by
  unfold ipv6Prefix RV.ipv6Prefix
  by_cases h1 : a.length < 2 ∨ a.length > 18
  · rw [if_pos h1, if_pos h1]
  rw [if_neg h1, if_neg h1, idx_ok (by omega), Res.ok_bind]
  simp only []
  by_cases h2 : (a.getD 1 0).toNat > 128
  · rw [if_pos h2, if_pos h2]
  rw [if_neg h2, if_neg h2, sliceFrom_ok (by omega), Res.ok_bind,
    goCopy_zeros_short _ _ (by simp; omega)]
  simp only [List.length_drop]
  rcases prefixLoop_eq (a.drop 2 ++ zeros (16 - (a.length - 2))) (a.getD 1 0).toNat with ⟨s, hs, hz⟩ | ⟨hs, hz⟩
  · rw [hs, hz]; rfl
  · rw [hs, hz]; rfl

theorem tpPlain_refines (H : Hash) (hH : ∀ x, (H x).length = 16) (a secret auth : Bytes) :
    tpPlain H a secret auth = RV.tpPlain H a secret auth := by
  unfold tpPlain RV.tpPlain
  rw [tunnelPassword_refines H hH]
  cases RV.tunnelPassword H a secret auth with
  | ok r => obtain ⟨pw, s⟩ := r; rfl
  | err => rfl
  | fault => rfl

theorem intOf_eq (w : Nat) (hw : w = 2 ∨ w = 4 ∨ w = 8) (a : Bytes) :
    intOf w a = if a.length ≠ w then .err else .ok (beNat a) := by
  unfold intOf
  rcases hw with rfl | rfl | rfl
  · rw [if_pos rfl, short_refines]; rfl
  · rw [if_neg (by decide), if_neg (by decide), integer_refines]; rfl
  · rw [if_neg (by decide), if_pos rfl, integer64_refines]; rfl

theorem tagIf_eq (d : Desc) (a : Bytes) :
    (if d.hasTag = true then tagStrip a else pure (0, a)) =
      .ok (if d.hasTag = true ∧ a.length ≥ 1 ∧ (a.getD 0 0).toNat ≤ 0x1F then (a.getD 0 0, a.drop 1) else (0, a)) := by
  by_cases h : d.hasTag = true
  · rw [if_pos h, tagStrip_eq]; simp only [h, true_and]
  · rw [if_neg h, if_neg (by intro hc; exact h hc.1)]; rfl

theorem textTail (x : Res Bytes) (size : Option Nat) (t : UInt8) :
    (do
      let v ← x
      if size.isSome ∧ size ≠ some v.length then .err else pure (t, GVal.bytes v)) =
    match x with
    | .ok v => if size.isSome ∧ size ≠ some v.length then .err else .ok (t, GVal.bytes v)
    | .err => .err
    | .fault => .fault := by
  cases x <;> rfl

theorem textBody_eq (H : Hash) (hH : ∀ x, (H x).length = 16) (d : Desc) (ta : UInt8 × Bytes) (secret auth : Bytes) :
    (do
      let v ← (match d.encrypt with
               | 1 => userPassword H ta.2 secret auth
               | 2 => tpPlain H ta.2 secret auth
               | _ => pure (bytesOf ta.2))
      if d.size.isSome ∧ d.size ≠ some v.length then .err else pure (ta.1, GVal.bytes v)) =
    match (match d.encrypt with
           | 1 => RV.userPassword H ta.2 secret auth
           | 2 => RV.tpPlain H ta.2 secret auth
           | _ => (.ok ta.2 : Res Bytes)) with
    | .ok v => if d.size.isSome ∧ d.size ≠ some v.length then .err else .ok (ta.1, GVal.bytes v)
    | .err => .err
    | .fault => .fault := by
  refine (congrArg (· >>= _) ?_).trans (textTail _ _ _)
  split
  · exact userPassword_refines H hH _ _ _
  · exact tpPlain_refines H hH _ _ _
  · exact congrArg Res.ok (bytesOf_refines _)

theorem intBody_eq (H : Hash) (hH : ∀ x, (H x).length = 16) (d : Desc) (w : Nat)
    (hw : w = 2 ∨ w = 4 ∨ w = 8) (a secret auth : Bytes) :
    (if d.hasTag = true then do
        let ta ← tagStripInt a
        let v ← intOf w ta.snd
        pure (ta.fst, GVal.nat v)
      else do
        let a ← (if d.usesSalt = true then tpPlain H a secret auth else pure a)
        let v ← intOf w a
        pure (0, GVal.nat v)) =
    (if d.hasTag = true then
        let (tag, a) := if a.length ≥ 1 ∧ (a.getD 0 0).toNat ≤ 0x1F then (a.getD 0 0, (0 : UInt8) :: a.drop 1) else (0, a)
        if a.length ≠ w then .err else .ok (tag, GVal.nat (beNat a))
      else
        match (if d.usesSalt = true then RV.tpPlain H a secret auth else (.ok a : Res Bytes)) with
        | .ok a => if a.length ≠ w then .err else .ok (0, GVal.nat (beNat a))
        | .err => .err
        | .fault => .fault) := by
  by_cases ht : d.hasTag = true
  · rw [if_pos ht, if_pos ht, tagStripInt_eq, Res.ok_bind, intOf_eq w hw]
    simp only []
    split <;> (simp only []; split <;> rfl)
  · rw [if_neg ht, if_neg ht]
    simp only [tpPlain_refines H hH, Res.pure_eq, intOf_eq w hw]
    cases (if d.usesSalt = true then RV.tpPlain H a secret auth else Res.ok a) <;> simp only [Res.ok_bind, Res.err_bind, Res.fault_bind]
    split <;> rfl

theorem RV_tpPlain_ne_fault (H : Hash) (a secret auth : Bytes) : RV.tpPlain H a secret auth ≠ .fault := by
  unfold RV.tpPlain
  have := RV.tunnelPassword_ne_fault H a secret auth
  cases h : RV.tunnelPassword H a secret auth with
  | ok r => obtain ⟨pw, s⟩ := r; simp
  | err => simp
  | fault => exact absurd h this

theorem dumpAttr_ne_fault (H : Hash) (hH : ∀ x, (H x).length = 16) (dt : Option DumpType) (secret auth : Bytes)
    (avp : AVP) : dumpAttr H dt secret auth avp ≠ .fault := by
  unfold dumpAttr
  split
  · simp
  · split
    · have := userPassword_ne_fault' H hH avp.val secret auth
      split
      · simp
      · simp
      · rename_i hm; exact absurd hm this
    · simp
  · split
    · rename_i h4; rw [be32_eq _ h4]; simp
    · simp
  · split
    · rename_i h4; rw [be32_eq _ h4]; simp
    · split
      · rename_i h8; rw [be64_eq _ h8]; simp
      · simp
  · split <;> simp
  · split <;> simp
  · simp

theorem idx_fault_iff (b : Bytes) (i : Nat) : idx b i = .fault ↔ b.length ≤ i := by
  unfold idx; split <;> simp <;> omega
theorem idx_ne_err (b : Bytes) (i : Nat) : idx b i ≠ .err := by
  unfold idx; split <;> simp
theorem slice_fault_iff (b : Bytes) (i j : Nat) : slice b i j = .fault ↔ (i > j ∨ j > b.length) := by
  unfold slice; split <;> simp <;> omega
theorem slice_length (b r : Bytes) (i j : Nat) (h : slice b i j = .ok r) : r.length = j - i := by
  unfold slice at h
  split at h
  · cases h; simp; omega
  · cases h
theorem store_fault_iff (b : Bytes) (i : Nat) (v : UInt8) : store b i v = .fault ↔ b.length ≤ i := by
  unfold store; split <;> simp <;> omega
theorem be32_fault_iff (b : Bytes) : be32 b = .fault ↔ b.length < 4 := by
  unfold be32
  by_cases h : b.length < 4
  · rw [idx_fault (by omega)]; simp [h]
  · rw [idx_ok (by omega), Res.ok_bind, idx_ok (by omega), Res.ok_bind, idx_ok (by omega), Res.ok_bind,
      idx_ok (by omega), Res.ok_bind]
    simp [h]

theorem parse_count (b secret : Bytes) (p : Packet) (h : RV.parse b secret = .ok p) : p.attrs.length ≤ 2038 := by
  unfold RV.parse at h
  split at h
  · cases h
  · simp only [] at h
    split at h
    · cases h
    · rename_i hg
      split at h
      · rename_i as has
        cases h
        have := (parseAttrs_count_bytes _ as has).1
        simp only [List.length_drop, List.length_take, maxPacketLength] at this hg ⊢
        omega
      · cases h
      · cases h

theorem hGets_go_count (H : Hash) (d : Desc) (secret auth : Bytes) (l : List Bytes) :
    (hGets.go H d secret auth l).1.length ≤ l.length := by
  induction l with
  | nil => simp [hGets.go]
  | cons a rest ih =>
    unfold hGets.go
    split
    · simp only [List.length_cons]; omega
    · simp

end Checked
end RV
