/-
  C17 helper lemmas: names and VALUE constants.  `section_attr_facts`: what is known of a section of origin
  ATTRIBUTE; `Spec.goIdent`, `Spec.declNameOK` and the lemmas by which `<identifier><suffix>` is a Go identifier
  (`attrDecls_names_ok`, `typeConst_names_ok`, `vendorHelper_names_ok`); `dedupBytes`; the loop of
  `attributeValues` (`avStep_eq`, `foldl_avStep_last`: one constant per number, named by the last VALUE declared).
-/
import RV.Proofs.GenAudit
namespace RV.Gen
open RV.Dict RV.Gen.Spec

theorem section_attr_facts {d : Dictionary} {o : Options} {out : Output} {evs : List EVendor} (F : RunFacts d o out evs)
    {s : Origin × List Decl} (hs : s ∈ out.sections) {vendor : Bool} {a : Attribute} (ho : s.1 = .attr vendor a) :
    invalidAttr Cfg.repaired vendor a = false ∧ exportedIdent (identifier a.name) = true ∧ a.name ∉ o.ignore ∧
    (s.2 = [typeConstDecl a] ∨ ∃ vals, s.2 = attrDecls vendor a vals) := by
  rw [F.secs] at hs
  rcases mem_gSections hs with ⟨b, hb, rfl⟩ | ⟨v, _, rfl⟩ | ⟨e, _, rfl⟩ | ⟨b, hb, rfl⟩ | ⟨v, _, rfl⟩ | ⟨v, hv, b, hb, rfl⟩
  · cases ho
    exact ⟨(F.attrsValid _ hb).1, (F.attrsValid _ hb).2, ((F.attrsMem _).1 hb).2, Or.inl rfl⟩
  · cases ho
  · cases ho
  · cases ho
    exact ⟨(F.attrsValid _ hb).1, (F.attrsValid _ hb).2, ((F.attrsMem _).1 hb).2, Or.inr ⟨_, rfl⟩⟩
  · cases ho
  · cases ho
    obtain ⟨f1, f2, _, _⟩ := F.evAttrsValid v hv _ hb
    refine ⟨f1, f2, ?_, Or.inr ⟨_, rfl⟩⟩
    obtain ⟨w, hw, rfl⟩ := (F.evsMem v).1 hv
    exact (mem_kept.1 ((mkEV_attrs Cfg.repaired o w (Or.inl rfl) _).1 hb)).2

namespace Spec
def wordByte (c : UInt8) : Bool := isAlnum c || c == 95
/-- an (ASCII) Go identifier: non-empty, made of letters, digits and `_`, not starting with a digit -/
def goIdent (n : Bytes) : Bool := !n.isEmpty && lexesAsIdent n && n.all wordByte
/-- the name of a declaration is well-formed: an identifier; for the method, `<receiver type>.String` -/
def declNameOK (dc : Decl) : Prop :=
  if dc.kind = .method then ∃ t, goIdent t = true ∧ dc.name = t ++ bs ".String" else goIdent dc.name = true
end Spec

theorem upper_not_digit (b : UInt8) (h : isUpper b = true) : isDigit b = false := by
  simp only [isUpper, isDigit, Bool.and_eq_true, decide_eq_true_eq, UInt8.le_iff_toNat_le, Bool.and_eq_false_iff,
    decide_eq_false_iff_not] at h ⊢
  have h1 := h.1
  simp at h1 ⊢
  omega

theorem exported_lexes {x : Bytes} (h : exportedIdent x = true) : lexesAsIdent x = true ∧ x ≠ [] := by
  cases x with
  | nil => cases h
  | cons b r => exact ⟨by simp [lexesAsIdent, upper_not_digit b h], by simp⟩

theorem alnum_word {x : Bytes} (h : ∀ c ∈ x, isAlnum c = true) : x.all wordByte = true := by
  rw [List.all_eq_true]
  intro c hc
  simp [wordByte, h c hc]

theorem ident_word (n : Bytes) : (identifier n).all wordByte = true := alnum_word (identifier_alnum n)

theorem goIdent_append {x s : Bytes} (hx : x.all wordByte = true) (hs : s.all wordByte = true)
    (hl : lexesAsIdent x = true) (hne : x = [] → goIdent s = true) : goIdent (x ++ s) = true := by
  cases x with
  | nil => exact hne rfl
  | cons b r =>
    simp only [goIdent, lexesAsIdent, List.cons_append, List.isEmpty_cons, Bool.not_false, Bool.true_and,
      List.all_cons, List.all_append, Bool.and_eq_true] at hx hl ⊢
    exact ⟨hl, hx.1, hx.2, hs⟩

theorem goIdent_us {x : Bytes} (hx : x.all wordByte = true) : goIdent (95 :: x) = true := by
  simp only [goIdent, lexesAsIdent, List.isEmpty_cons, Bool.not_false, Bool.true_and, List.all_cons, Bool.and_eq_true]
  exact ⟨by decide, by decide, hx⟩

theorem exported_append {x s : Bytes} (h : exportedIdent x = true) : exportedIdent (x ++ s) = true := by
  cases x with
  | nil => cases h
  | cons b r => exact h

theorem suffix_word : ∀ r : Role, r ≠ .stringer → (bs r.suffix).all wordByte = true := by
  intro r hr
  cases r <;> first | exact absurd rfl hr | decide +kernel

theorem kind_method_iff (r : Role) : r.kind = .method ↔ r = .stringer := by
  cases r <;> simp [Role.kind]

theorem value_suffix_word (n : Bytes) : (bs "_Value_" ++ identifier n).all wordByte = true := by
  rw [List.all_append, ident_word, Bool.and_true]
  decide

theorem value_suffix_goIdent (n : Bytes) : goIdent (bs "_Value_" ++ identifier n) = true :=
  goIdent_us (x := bs "Value_" ++ identifier n) (by rw [List.all_append, ident_word, Bool.and_true]; decide)

theorem attrDecls_names_ok (vendor : Bool) (a : Attribute) (vals : List Value)
    (he : exportedIdent (identifier a.name) = true) :
    ∀ dc ∈ attrDecls vendor a vals, declNameOK dc ∧ exportedIdent dc.name = true ∧ identifier a.name <+: dc.name := by
  intro dc hdc
  have hf := attrDecls_for vendor a vals dc hdc
  have hk := hf.kind
  have hw := ident_word a.name
  obtain ⟨hl, hne⟩ := exported_lexes he
  by_cases hvc : dc.role = .valueConst
  · obtain ⟨v, _, hn⟩ := hf.const hvc
    rw [List.append_assoc] at hn
    refine ⟨?_, hn ▸ exported_append he, hn ▸ List.prefix_append _ _⟩
    unfold declNameOK
    rw [hk, hvc, if_neg (by simp [Role.kind]), hn]
    exact goIdent_append hw (value_suffix_word _) hl (fun e => absurd e hne)
  · have hn := hf.name hvc
    refine ⟨?_, hn ▸ exported_append he, hn ▸ List.prefix_append _ _⟩
    unfold declNameOK
    rw [hk]
    by_cases hst : dc.role = .stringer
    · rw [if_pos ((kind_method_iff _).2 hst)]
      refine ⟨identifier a.name, ?_, by rw [hn, hst]; rfl⟩
      have := goIdent_append (s := []) hw rfl hl (fun e => absurd e hne)
      rwa [List.append_nil] at this
    · rw [if_neg (fun hm => hst ((kind_method_iff _).1 hm)), hn]
      exact goIdent_append hw (suffix_word _ hst) hl (fun e => absurd e hne)

theorem typeConst_names_ok (a : Attribute) (he : exportedIdent (identifier a.name) = true) :
    declNameOK (typeConstDecl a) ∧ exportedIdent (typeConstDecl a).name = true ∧ identifier a.name <+: (typeConstDecl a).name := by
  obtain ⟨hl, hne⟩ := exported_lexes he
  refine ⟨?_, exported_append he, List.prefix_append _ _⟩
  unfold declNameOK
  rw [if_neg (by simp [typeConstDecl])]
  exact goIdent_append (ident_word a.name) (by decide) hl (fun e => absurd e hne)

theorem vendorHelper_names_ok (vid : Bytes) (hv : vid.all wordByte = true) :
    ∀ dc ∈ vendorHelperDecls vid, declNameOK dc ∧ (bs "_" ++ vid) <+: dc.name := by
  intro dc hdc
  simp only [vendorHelperDecls, List.mem_cons, List.not_mem_nil, or_false] at hdc
  have key : ∀ sfx : Bytes, sfx.all wordByte = true → goIdent (bs "_" ++ vid ++ sfx) = true := by
    intro sfx hs
    exact goIdent_us (x := vid ++ sfx) (by rw [List.all_append, hv, hs]; rfl)
  rcases hdc with rfl | rfl | rfl | rfl | rfl | rfl <;>
    exact ⟨by unfold declNameOK; rw [if_neg (by simp)]; exact key _ (by decide), List.prefix_append _ _⟩

theorem mem_dedupBytes (p : Bytes) : ∀ l : List Bytes, p ∈ dedupBytes l ↔ p ∈ l
  | [] => Iff.rfl
  | q :: l => by
    simp only [dedupBytes, List.mem_cons, List.mem_filter, mem_dedupBytes p l, bne_iff_ne, ne_eq]
    by_cases hpq : p = q
    · simp [hpq]
    · simp [hpq]

theorem dedupBytes_nodup : ∀ l : List Bytes, (dedupBytes l).Nodup
  | [] => List.nodup_nil
  | q :: l => by
    simp only [dedupBytes, List.nodup_cons, List.mem_filter, bne_self_eq_false, Bool.false_eq_true, and_false,
      not_false_eq_true, true_and]
    exact (dedupBytes_nodup l).sublist List.filter_sublist

theorem snoc_induction {α} {C : List α → Prop} (hnil : C []) (hsnoc : ∀ l a, C l → C (l ++ [a])) : ∀ l, C l := by
  intro l
  have : ∀ r : List α, C r.reverse := by
    intro r
    induction r with
    | nil => exact hnil
    | cons a r ih => rw [List.reverse_cons]; exact hsnoc _ _ ih
  simpa using this l.reverse

/-- on an accumulator with ascending numbers, none above `v`'s, a step of the loop drops the entry with
    `v`'s number (it can only be the last) and appends `v` -/
theorem avStep_eq (n : Bytes) (acc : List Value) (v : Value) (hv : v.attrName = n)
    (hp : acc.Pairwise (fun x y => x.number < y.number)) (hle : ∀ x ∈ acc, x.number ≤ v.number) :
    avStep n acc v = acc.filter (fun x => x.number != v.number) ++ [v] := by
  unfold avStep
  rw [if_pos (by simpa using hv)]
  rcases List.eq_nil_or_concat acc with rfl | ⟨ini, lst, rfl⟩
  · rfl
  · rw [List.concat_eq_append] at hp hle ⊢
    rw [List.getLast?_concat, List.filter_append]
    simp only [List.dropLast_concat]
    have hini : ini.filter (fun x => x.number != v.number) = ini := by
      rw [List.filter_eq_self]
      intro a ha
      have h1 := (List.pairwise_append.1 hp).2.2 a ha lst (List.mem_singleton.2 rfl)
      have h2 := hle lst (by simp)
      simp only [bne_iff_ne, ne_eq]
      omega
    rw [hini]
    by_cases heq : lst.number = v.number
    · simp [heq]
    · simp [heq]

/-- the invariant of the loop of `attributeValues` over a list, sorted by number, of VALUEs of one attribute -/
theorem foldl_avStep_last (n : Bytes) : ∀ P : List Value,
    P.Pairwise (fun x y => x.number ≤ y.number) → (∀ x ∈ P, x.attrName = n) →
    (P.foldl (avStep n) []).Pairwise (fun x y => x.number < y.number)
    ∧ (∀ w ∈ P.foldl (avStep n) [], w ∈ P)
    ∧ (∀ w ∈ P.foldl (avStep n) [], (P.filter (fun v => v.number == w.number)).getLast? = some w)
    ∧ (∀ u ∈ P, ∃ w ∈ P.foldl (avStep n) [], w.number = u.number) := by
  intro P
  induction P using snoc_induction with
  | hnil => intro _ _; simp
  | hsnoc P v ih =>
    intro hs hn
    rw [List.pairwise_append] at hs
    obtain ⟨hsP, _, hPv⟩ := hs
    obtain ⟨j1, j2, j3, j4⟩ := ih hsP (fun x hx => hn x (List.mem_append_left _ hx))
    have hle : ∀ x ∈ P.foldl (avStep n) [], x.number ≤ v.number := fun x hx => hPv x (j2 x hx) v (by simp)
    rw [List.foldl_append, List.foldl_cons, List.foldl_nil, avStep_eq n _ v (hn v (by simp)) j1 hle]
    generalize P.foldl (avStep n) [] = r at j1 j2 j3 j4 hle
    have hfil : ∀ k, (P ++ [v]).filter (fun x => x.number == k) =
        P.filter (fun x => x.number == k) ++ (if v.number = k then [v] else []) := by
      intro k
      rw [List.filter_append]
      congr 1
      by_cases hk : v.number = k <;> simp [hk]
    have hmem : ∀ w, w ∈ r.filter (fun x => x.number != v.number) ++ [v] ↔ (w ∈ r ∧ w.number ≠ v.number) ∨ w = v := by
      intro w
      simp
    refine ⟨?_, ?_, ?_, ?_⟩
    · rw [List.pairwise_append]
      refine ⟨j1.sublist List.filter_sublist, by simp, ?_⟩
      intro a ha b hb
      rw [List.mem_singleton] at hb
      subst hb
      obtain ⟨ha, hne⟩ := List.mem_filter.1 ha
      have := hle a ha
      simp only [bne_iff_ne, ne_eq] at hne
      omega
    · intro w hw
      rcases (hmem w).1 hw with ⟨hw, _⟩ | rfl
      · exact List.mem_append_left _ (j2 w hw)
      · simp
    · intro w hw
      rcases (hmem w).1 hw with ⟨hw, hne⟩ | rfl
      · rw [hfil, if_neg (fun e => hne e.symm), List.append_nil]
        exact j3 w hw
      · rw [hfil, if_pos rfl, List.getLast?_concat]
    · intro u hu
      rcases List.mem_append.1 hu with hu | hu
      · obtain ⟨w, hw, e⟩ := j4 u hu
        by_cases hwv : w.number = v.number
        · exact ⟨v, (hmem v).2 (Or.inr rfl), hwv.symm.trans e⟩
        · exact ⟨w, (hmem w).2 (Or.inl ⟨hw, hwv⟩), e⟩
      · exact ⟨v, (hmem v).2 (Or.inr rfl), by rw [List.mem_singleton.1 hu]⟩

theorem attrValues_last' (n : Bytes) (l : List Value) :
    ∀ w ∈ attrValues n (sortValues l),
      (l.filter (fun v => v.attrName == n && v.number == w.number)).getLast? = some w := by
  have hT := foldl_avStep_last n ((sortValues l).filter (fun v => v.attrName == n))
    ((sortValues_sorted l).sublist List.filter_sublist) (fun x hx => by simpa using (List.mem_filter.1 hx).2)
  intro w hw
  rw [attrValues_eq_foldl, foldl_avStep_filter] at hw
  have h3 := hT.2.2.1 w hw
  rw [List.filter_filter, ← sortValues_filter] at h3
  have hid : sortValues (l.filter (fun a => a.number == w.number && a.attrName == n))
      = l.filter (fun a => a.number == w.number && a.attrName == n) := by
    apply sortStable_id_of
    intro a ha b hb
    have h1 := (List.mem_filter.1 ha).2
    have h2 := (List.mem_filter.1 hb).2
    simp only [Bool.and_eq_true, beq_iff_eq] at h1 h2
    simp only [decide_eq_false_iff_not]
    omega
  rw [hid] at h3
  rw [← h3]
  congr 1
  apply List.filter_congr
  intro x _
  exact Bool.and_comm _ _

theorem attrValues_spec' (n : Bytes) (l : List Value) :
    (attrValues n (sortValues l)).Pairwise (fun x y => x.number < y.number)
    ∧ (∀ w ∈ attrValues n (sortValues l), w ∈ l ∧ w.attrName = n)
    ∧ (∀ v ∈ l, v.attrName = n → ∃ w ∈ attrValues n (sortValues l), w.number = v.number) := by
  obtain ⟨h1, h2, _, h4⟩ := foldl_avStep_last n ((sortValues l).filter (fun v => v.attrName == n))
    ((sortValues_sorted l).sublist List.filter_sublist) (fun x hx => by simpa using (List.mem_filter.1 hx).2)
  rw [attrValues_eq_foldl, foldl_avStep_filter]
  refine ⟨h1, fun w hw => ?_, fun v hv hn => h4 v (List.mem_filter.2 ⟨(mem_sortStable _ _ _).2 hv, by simpa using hn⟩)⟩
  obtain ⟨hm, hn⟩ := List.mem_filter.1 (h2 w hw)
  exact ⟨(mem_sortStable _ _ _).1 hm, by simpa using hn⟩

end RV.Gen
