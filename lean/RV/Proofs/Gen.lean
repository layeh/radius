/- The proofs about the generator model (C17): templates (GenShape), `generate` phase by phase (GenRun), the
   orders of the repaired sort (GenOrder), imports and ignore list (GenImports), distinct names (GenUnique),
   permutation invariance (GenPerm), the declarations of one attribute and the names (GenAudit, GenAudit2). -/
import RV.Proofs.GenBasic
import RV.Proofs.GenRun
import RV.Proofs.GenOrder
import RV.Proofs.GenShape
import RV.Proofs.GenImports
import RV.Proofs.GenUnique
import RV.Proofs.GenPerm
import RV.Proofs.GenAudit
import RV.Proofs.GenAudit2
