/-
  For C19.  First the UTF-16 step: on valid UTF-8 the Go encoder (`goEncodeLE`) computes the specification
  (`goEncodeLE_of_valid`).  The one argument with content is the DES key expansion: the Go code shifts 7-bit fields out of a 64-bit
  accumulator, RFC 2759 §8.6 picks key bits one by one; both read fields of the key's big-endian value
  (`padAccum_eq`, `bitAt_eq_testBit`), and fixing the parity of one octet is a 128-row table.
-/
import RV.Model.MSCHAP
import RV.Proofs.Codec
namespace RV
open Model.MSCHAP

theorem goRunes_of_scalars (fuel : Nat) (b : Bytes) (us : List Nat)
    (h : UTF16.Spec.scalars? fuel b = some us) : UTF16.goRunes fuel b = us := by
  fun_induction UTF16.Spec.scalars? fuel b generalizing us with
  | case1 => cases h; simp [UTF16.goRunes]
  | case3 fuel b0 rest u rest' hd us' hs ih => cases h; simp [UTF16.goRunes, hd, ih us' hs]
  | case2 | case4 | case5 => cases h

theorem goUnits_eq_units (r : Nat) : UTF16.goUnits r = UTF16.Spec.units r := by
  unfold UTF16.goUnits UTF16.Spec.units
  have h1 : ∀ x : Nat, x &&& 0x3ff = x % 1024 := fun x => Nat.and_two_pow_sub_one_eq_mod x 10
  have h2 : ∀ x : Nat, x >>> 10 = x / 1024 := fun x => Nat.shiftRight_eq_div_pow x 10
  by_cases h : r ≤ 0xffff
  · have : r < 0x10000 := by omega
    simp [h, this]
  · have : ¬ r < 0x10000 := by omega
    simp only [h, this, if_false, h1, h2]

theorem goEncodeLE_of_valid (b u : Bytes) (h : UTF16.Spec.utf16le? b = some u) : UTF16.goEncodeLE b = u := by
  obtain ⟨us, hs, rfl⟩ := Option.map_eq_some_iff.mp h
  simp [UTF16.goEncodeLE, goRunes_of_scalars _ _ _ hs, UTF16.Spec.encodeLE, goUnits_eq_units]

def bits7 (v : Nat) : List Bool := (List.range 7).map fun j => v / 2 ^ (6 - j) % 2 == 1

def specByteOfGroup (v : Nat) : UInt8 :=
  Spec.Rfc2759.byteOfBits (bits7 v ++ [Spec.Rfc2759.oddParityBit (bits7 v)])

theorem ofNat_shiftLeft_one (n : Nat) : UInt8.ofNat n <<< 1 = UInt8.ofNat (2 * (n % 128)) := by
  apply UInt8.toNat_inj.mp
  simp [UInt8.toNat_shiftLeft, Nat.shiftLeft_eq]
  omega

/-- By evaluation: `fixParity` counts bits with an 8-step fold and the specification builds the octet from a bit
    list, so a symbolic proof would need a theory of both; the domain is the 128 groups. -/
theorem fixParity_table : ∀ v, v < 128 →
    fixParity (UInt8.ofNat (2 * v)) = specByteOfGroup v ∧
    (fixParity (UInt8.ofNat (2 * v))).toNat / 2 = v ∧ popCount (fixParity (UInt8.ofNat (2 * v))) % 2 = 1 := by
  decide +kernel

theorem pow256 (n : Nat) : (256 : Nat) ^ n = 2 ^ (8 * n) := by rw [Nat.pow_mul]

/-- up to 8 octets the `% 2 ^ 64` of the `uint64` accumulator never bites -/
theorem padAccum_eq (bs : Bytes) : ∀ a : Nat, bs.length ≤ 8 →
    padAccum bs (a * 256 ^ bs.length) = a * 256 ^ bs.length + beNat bs := by
  induction bs with
  | nil => intro a _; rfl
  | cons b rest ih =>
    intro a hlen
    rw [List.length_cons] at hlen ⊢
    have hlt : b.toNat * 256 ^ rest.length < 256 ^ (rest.length + 1) := by
      rw [Nat.pow_succ, Nat.mul_comm (256 ^ rest.length)]
      exact Nat.mul_lt_mul_of_pos_right b.toNat_lt (Nat.pow_pos (by omega))
    have h64 : b.toNat * 256 ^ rest.length < 2 ^ 64 :=
      Nat.lt_of_lt_of_le hlt (Nat.pow_le_pow_right (by omega) hlen : _ ≤ 256 ^ 8)
    have e : a * 256 ^ (rest.length + 1) + b.toNat * 256 ^ rest.length = (a * 256 + b.toNat) * 256 ^ rest.length := by
      rw [Nat.pow_succ, Nat.add_mul, Nat.mul_assoc, Nat.mul_comm (256 ^ rest.length) 256]
    have hor : a * 256 ^ (rest.length + 1) ||| b.toNat * 256 ^ rest.length
        = a * 256 ^ (rest.length + 1) + b.toNat * 256 ^ rest.length := by
      rw [pow256 (rest.length + 1)] at hlt ⊢
      rw [Nat.mul_comm a, Nat.two_pow_add_eq_or_of_lt hlt]
    rw [padAccum, Nat.shiftLeft_eq, ← pow256, Nat.mod_eq_of_lt h64, hor, e, ih _ (by omega), ← e, beNat, Nat.add_assoc]

theorem padAccum_zero (bs : Bytes) (h : bs.length ≤ 8) : padAccum bs 0 = beNat bs := by
  simpa using padAccum_eq bs 0 h

theorem padByte_spec (inp i : Nat) (hi : i < 8) :
    padByte inp i = specByteOfGroup (inp / 2 ^ (7 * (7 - i)) % 128) ∧
    (padByte inp i).toNat / 2 = inp / 2 ^ (7 * (7 - i)) % 128 ∧ popCount (padByte inp i) % 2 = 1 := by
  rw [padByte, show 8 - i - 1 = 7 - i by omega, ofNat_shiftLeft_one, Nat.shiftRight_eq_div_pow]
  exact fixParity_table _ (Nat.mod_lt _ (by omega))

theorem testBit_eq_beq (x i : Nat) : x.testBit i = (x / 2 ^ i % 2 == 1) := by
  rw [Nat.testBit_eq_decide_div_mod_eq, Bool.beq_eq_decide_eq]

theorem bitAt_eq_testBit (k : Bytes) : ∀ n, n < 8 * k.length →
    Spec.Rfc2759.bitAt k n = (beNat k).testBit (8 * k.length - 1 - n) := by
  induction k with
  | nil => intro n h; simp at h
  | cons b rest ih =>
    intro n h
    rw [List.length_cons] at h ⊢
    rw [beNat, Nat.mul_comm, pow256, Nat.testBit_two_pow_mul_add _ (pow256 _ ▸ beNat_lt rest)]
    by_cases hn : n < 8
    · rw [if_neg (by omega), testBit_eq_beq, Spec.Rfc2759.bitAt, Nat.div_eq_of_lt hn, Nat.mod_eq_of_lt hn]
      congr 4; omega
    · obtain ⟨m, rfl⟩ : ∃ m, n = m + 8 := ⟨n - 8, by omega⟩
      rw [if_pos (by omega), show 8 * (rest.length + 1) - 1 - (m + 8) = 8 * rest.length - 1 - m by omega,
        ← ih m (by omega)]
      simp [Spec.Rfc2759.bitAt]

theorem expandKey_eq_groups (k : Bytes) (h : k.length = 7) :
    Spec.Rfc2759.expandKey k = (List.range 8).map fun i => specByteOfGroup (beNat k / 2 ^ (7 * (7 - i)) % 128) := by
  refine List.map_congr_left fun i hi => ?_
  suffices e : (List.range 7).map (fun j => Spec.Rfc2759.bitAt k (7 * i + j))
      = bits7 (beNat k / 2 ^ (7 * (7 - i)) % 128) by
    simp only [e, specByteOfGroup]
  refine List.map_congr_left fun j hj => ?_
  rw [List.mem_range] at hi hj
  rw [bitAt_eq_testBit k _ (by omega), ← testBit_eq_beq, show 128 = 2 ^ 7 from rfl, Nat.testBit_mod_two_pow,
    Nat.testBit_div_two_pow, decide_eq_true (by omega), Bool.true_and, h]
  congr 1; omega

theorem parityPad_eq_groups (k : Bytes) (h : k.length ≤ 8) :
    parityPadDESKey k = (List.range 8).map fun i => specByteOfGroup (beNat k / 2 ^ (7 * (7 - i)) % 128) := by
  rw [parityPadDESKey, padAccum_zero k h]
  exact List.map_congr_left fun i hi => (padByte_spec _ i (List.mem_range.mp hi)).1

theorem parityPad_eq_expandKey (k : Bytes) (h : k.length = 7) : parityPadDESKey k = Spec.Rfc2759.expandKey k := by
  rw [parityPad_eq_groups k (by omega), expandKey_eq_groups k h]

theorem parityPad_length (k : Bytes) : (parityPadDESKey k).length = 8 := by
  simp [parityPadDESKey]

theorem parityPad_getD (k : Bytes) (i : Nat) (hi : i < 8) :
    (parityPadDESKey k).getD i 0 = padByte (padAccum k 0) i := by
  rw [parityPadDESKey, List.getD_eq_getElem?_getD, List.getElem?_map, List.getElem?_range hi]
  rfl

theorem desCrypt_eq (P : Prims) (key clear : Bytes) :
    desCrypt P key clear =
      if (key.length = 7 ∨ key.length = 8) ∧ 8 ≤ clear.length
      then .ok (P.des (if key.length = 7 then parityPadDESKey key else key) (clear.take 8)) else .fault := by
  have hk : (if key.length = 7 then parityPadDESKey key else key).length = 8 ↔ key.length = 7 ∨ key.length = 8 := by
    split <;> simp [*, parityPad_length]
  simp only [desCrypt, ne_eq, hk, ← Nat.not_le]
  by_cases h1 : key.length = 7 ∨ key.length = 8 <;> by_cases h2 : 8 ≤ clear.length <;> simp [h1, h2]

theorem desCrypt_seven (P : Prims) (key clear : Bytes) (hk : key.length = 7) :
    desCrypt P key clear =
      if clear.length < 8 then .fault else .ok (Spec.Rfc2759.desEncrypt P (clear.take 8) key) := by
  rw [desCrypt_eq, if_pos hk, parityPad_eq_expandKey key hk]
  by_cases hc : clear.length < 8
  · rw [if_neg (by omega), if_pos hc]
  · rw [if_pos ⟨.inl hk, by omega⟩, if_neg hc]; rfl

/-- the zero-padded password hash always has 21 octets, so the three keys have 7 octets whatever is passed -/
theorem challengeResponse_eq_ite (P : Prims) (ch ph : Bytes) :
    challengeResponse P ch ph =
      if ch.length < 8 then .fault else .ok (Spec.Rfc2759.challengeResponse P (ch.take 8) (ph.take 21)) := by
  have hz : (ph.take 21 ++ zeros (21 - ph.length)).length = 21 := by simp [zeros]; omega
  have e : 21 - (ph.take 21).length = 21 - ph.length := by rw [List.length_take]; omega
  simp only [challengeResponse, Spec.Rfc2759.challengeResponse, e]
  rw [desCrypt_seven P _ ch (by simp [hz]), desCrypt_seven P _ ch (by simp [hz]), desCrypt_seven P _ ch (by simp [hz])]
  by_cases hc : ch.length < 8 <;> simp only [hc, if_true, if_false]

theorem challengeResponse_never_err (P : Prims) (ch ph : Bytes) : challengeResponse P ch ph ≠ .err := by
  rw [challengeResponse_eq_ite]; split <;> simp

/-- `ToUTF16` never fails, so only the `.ok` branch of `GenerateNTResponse` is live -/
theorem generateNTResponse_eq (P : Prims) (auth peer user pw : Bytes) :
    generateNTResponse P auth peer user pw =
      challengeResponse P (challengeHash P peer auth user) (ntPasswordHash P (UTF16.goEncodeLE pw)) := rfl

theorem challengeHash_length (P : Prims) (hP : P.WF) (a b c : Bytes) : (challengeHash P a b c).length = 8 := by
  simp [challengeHash, hP.sha1_len]

theorem toUpper_lower_digit : ∀ n, n < 16 →
    toUpper (lowerHexDigits.getD n '?') = Spec.Rfc2759.upperHexDigits.getD n '?' := by
  decide

theorem upper_digit_mem (n : Nat) (h : n < 16) :
    Spec.Rfc2759.upperHexDigits.getD n '?' ∈ Spec.Rfc2759.upperHexDigits := by
  have h : n < Spec.Rfc2759.upperHexDigits.length := h
  rw [← List.getElem_eq_getD (h := h)]
  exact List.getElem_mem h

theorem hexLower_toUpper (d : Bytes) : (hexLower d).map toUpper = Spec.Rfc2759.hexUpper d := by
  induction d with
  | nil => rfl
  | cons x xs ih =>
    have hx := x.toNat_lt
    have h1 : x.toNat / 16 < 16 := by omega
    have h2 : x.toNat % 16 < 16 := by omega
    simp only [hexLower, Spec.Rfc2759.hexUpper, List.flatMap_cons, List.map_append, List.map_cons, List.map_nil] at ih ⊢
    rw [toUpper_lower_digit _ h1, toUpper_lower_digit _ h2, ih]

theorem hexUpper_length (d : Bytes) : (Spec.Rfc2759.hexUpper d).length = 2 * d.length := by
  induction d with
  | nil => rfl
  | cons x xs ih =>
    simp only [Spec.Rfc2759.hexUpper, List.flatMap_cons, List.length_append, List.length_cons, List.length_nil] at ih ⊢
    omega

theorem hexUpper_mem (d : Bytes) : ∀ c ∈ Spec.Rfc2759.hexUpper d, c ∈ Spec.Rfc2759.upperHexDigits := by
  induction d with
  | nil => intro c hc; simp [Spec.Rfc2759.hexUpper] at hc
  | cons x xs ih =>
    intro c hc
    have hx := x.toNat_lt
    simp only [Spec.Rfc2759.hexUpper, List.flatMap_cons, List.mem_append, List.mem_cons, List.not_mem_nil, or_false] at hc ih
    rcases hc with (rfl | rfl) | hc
    · exact upper_digit_mem _ (by omega)
    · exact upper_digit_mem _ (by omega)
    · exact ih c hc

theorem magic1_eq : Model.MSCHAP.magic1 = Spec.Rfc2759.magic1 := rfl
theorem magic2_eq : Model.MSCHAP.magic2 = Spec.Rfc2759.magic2 := rfl
theorem shaPad1_eq : shaPad1 = Spec.Rfc3079.shsPad1 := rfl
theorem shaPad2_eq : shaPad2 = Spec.Rfc3079.shsPad2 := rfl
theorem mppeMagic1_eq : mppeMagic1 = Spec.Rfc3079.magic1 := rfl
theorem mppeMagic2_eq : mppeMagic2 = Spec.Rfc3079.magic2 := rfl
theorem mppeMagic3_eq : mppeMagic3 = Spec.Rfc3079.magic3 := rfl

theorem sliceDigest_le (d : Bytes) (n : Nat) (h : n ≤ d.length) : sliceDigest d n = .ok (d.take n) := by
  simp [sliceDigest, h]

theorem sliceDigest_ne_err (d : Bytes) (n : Nat) : sliceDigest d n ≠ .err := by
  by_cases h1 : n ≤ d.length <;> by_cases h2 : n ≤ 24 <;> simp [sliceDigest, h1, h2]

theorem getMasterKey_length (P : Prims) (hP : P.WF) (phh ntr : Bytes) : (getMasterKey P phh ntr).length = 16 := by
  simp [getMasterKey, hP.sha1_len]

end RV
