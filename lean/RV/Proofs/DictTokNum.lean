/-
  C16, token level (L1), part 2: hexadecimal numbers, VALUE numbers, dotted numbers (OIDs), the
  VENDOR `format=t,l` token.  The parsers of RV.Model.DictParser accept exactly the grammar of
  RV.Model.DictGrammar and return what the grammar says the token denotes.
-/
import RV.Proofs.DictTokBase
namespace RV.DictParser
open RV RV.Dict RV.DictParser.Spec RV.DictParser.Grammar

theorem hexVal_iff (b : UInt8) (d : Nat) : hexVal? b = some d ↔ HexDigit b ∧ d = hexDigitValue b := by
  unfold hexVal? HexDigit hexDigitValue
  simp only [Bool.and_eq_true, decide_eq_true_eq, UInt8.le_iff_toNat_le]
  have hlt := b.toNat_lt
  have e48 : (48 : UInt8).toNat = 48 := rfl
  have e57 : (57 : UInt8).toNat = 57 := rfl
  have e65 : (65 : UInt8).toNat = 65 := rfl
  have e70 : (70 : UInt8).toNat = 70 := rfl
  have e97 : (97 : UInt8).toNat = 97 := rfl
  have e102 : (102 : UInt8).toNat = 102 := rfl
  rw [e48, e57, e65, e70, e97, e102]
  generalize b.toNat = n at *
  by_cases h1 : 48 ≤ n ∧ n ≤ 57
  · rw [if_pos h1, if_pos h1.2, Option.some.injEq]
    constructor
    · intro h; exact ⟨Or.inl h1, h.symm⟩
    · intro h; exact h.2.symm
  · rw [if_neg h1]
    by_cases h2 : 97 ≤ n ∧ n ≤ 102
    · rw [if_pos h2, if_neg (by omega), if_neg (by omega), Option.some.injEq]
      constructor
      · intro h; exact ⟨Or.inr (Or.inl h2), h.symm⟩
      · intro h; exact h.2.symm
    · rw [if_neg h2]
      by_cases h3 : 65 ≤ n ∧ n ≤ 70
      · rw [if_pos h3, if_neg (by omega), if_pos h3.2, Option.some.injEq]
        constructor
        · intro h; exact ⟨Or.inr (Or.inr h3), h.symm⟩
        · intro h; exact h.2.symm
      · rw [if_neg h3]
        constructor
        · intro h; cases h
        · rintro ⟨h | h | h, _⟩
          · exact absurd h h1
          · exact absurd h h2
          · exact absurd h h3

theorem hexVal_none (b : UInt8) : hexVal? b = none ↔ ¬ HexDigit b := by
  constructor
  · intro h hd
    have := (hexVal_iff b (hexDigitValue b)).mpr ⟨hd, rfl⟩
    rw [h] at this; cases this
  · intro h
    cases hv : hexVal? b with
    | none => rfl
    | some d => exact absurd ((hexVal_iff b d).mp hv).1 h

def hexStep (acc : Option Nat) (b : UInt8) : Option Nat := acc.bind fun n => (hexVal? b).map fun d => n * 16 + d

theorem foldl_hexStep_none (s : Bytes) : s.foldl hexStep none = none := by
  induction s with
  | nil => rfl
  | cons b s ih => simpa [hexStep] using ih

theorem foldl_hex (s : Bytes) (a n : Nat) :
    s.foldl hexStep (some a) = some n ↔ (∀ b ∈ s, HexDigit b) ∧ n = a * 16 ^ s.length + hexValue s := by
  induction s generalizing a with
  | nil => simp [hexValue, eq_comm]
  | cons b s ih =>
    simp only [List.foldl_cons, List.length_cons, hexValue, List.mem_cons, forall_eq_or_imp]
    cases hv : hexVal? b with
    | none =>
      have hnd := (hexVal_none b).mp hv
      have : hexStep (some a) b = none := by simp [hexStep, hv]
      rw [this, foldl_hexStep_none]
      simp [hnd]
    | some d =>
      obtain ⟨hd, hdv⟩ := (hexVal_iff b d).mp hv
      have : hexStep (some a) b = some (a * 16 + d) := by simp [hexStep, hv]
      rw [this, ih, hdv]
      simp only [hd, true_and, Nat.pow_succ, Nat.add_mul]
      rw [Nat.mul_assoc, Nat.mul_comm 16, Nat.add_assoc]

theorem hexNat_iff (s : Bytes) (n : Nat) : hexNat? s = some n ↔ Hexadecimal s ∧ hexValue s = n := by
  unfold hexNat? Hexadecimal
  by_cases he : s = []
  · subst he; simp
  · have hf := foldl_hex s 0 n
    simp only [Nat.zero_mul, Nat.zero_add] at hf
    have : s.isEmpty = false := by simpa using he
    simp only [this, Bool.false_eq_true, if_false]
    show s.foldl hexStep (some 0) = some n ↔ _
    rw [hf]
    simp [he, eq_comm]

theorem parseUint32Hex_iff (s : Bytes) (n : Nat) :
    parseUint32Hex s = some n ↔ Hexadecimal s ∧ hexValue s = n ∧ n < 2 ^ 32 :=
  bind_bound_iff (hexNat_iff s)

theorem take2_0x_iff (num : Bytes) : (num.take 2 == kw0x) = true ↔ ∃ h, num = kw0x ++ h := by
  constructor
  · intro h
    have h' : num.take 2 = kw0x := by simpa using h
    refine ⟨num.drop 2, ?_⟩
    rw [← h', List.take_append_drop]
  · rintro ⟨h, rfl⟩
    simp [kw0x]

theorem decimal_not_0x (h : Bytes) : ¬ Decimal (kw0x ++ h) := by
  rintro ⟨_, hall⟩
  have := hall 120 (by simp [kw0x])
  exact absurd this.2 (by decide)

theorem valueNumber_iff (num : Bytes) (n : Nat) :
    (if num.take 2 == kw0x then parseUint32Hex (num.drop 2) else parseUint32Dec num) = some n ↔ ValueNumber num n := by
  unfold ValueNumber
  by_cases h0 : (num.take 2 == kw0x) = true
  · obtain ⟨h, rfl⟩ := (take2_0x_iff num).mp h0
    have hdrop : (kw0x ++ h).drop 2 = h := by simp [kw0x]
    rw [if_pos h0, hdrop, parseUint32Hex_iff]
    constructor
    · intro hh; exact Or.inl ⟨h, rfl, hh⟩
    · rintro (⟨h', he, hh⟩ | ⟨hd, _⟩)
      · have : h = h' := List.append_cancel_left he
        subst this; exact hh
      · exact absurd hd (decimal_not_0x h)
  · rw [if_neg h0, parseUint32Dec_iff]
    constructor
    · intro hh; exact Or.inr hh
    · rintro (⟨h', he, _⟩ | hh)
      · exact absurd ((take2_0x_iff num).mpr ⟨h', he⟩) h0
      · exact hh

theorem parseValue_iff (attr name num : Bytes) (v : Value) :
    parseValue attr name num = .ok v ↔ ValueArgs attr name num v := by
  unfold parseValue ValueArgs
  simp only
  cases hn : (if num.take 2 == kw0x then parseUint32Hex (num.drop 2) else parseUint32Dec num) with
  | none =>
    simp only [reduceCtorEq, false_iff]
    rintro ⟨_, _, hv⟩
    have := (valueNumber_iff num v.number).mpr hv
    rw [hn] at this; cases this
  | some n =>
    have hvn := (valueNumber_iff num n).mp hn
    simp only [Except.ok.injEq]
    constructor
    · intro h; subst h; exact ⟨rfl, rfl, hvn⟩
    · rintro ⟨ha, hb, hv⟩
      have := (valueNumber_iff num v.number).mpr hv
      rw [hn] at this
      cases v
      simp only [Option.some.injEq] at this
      simp_all

theorem parseValue_error (attr name num : Bytes) (e : ErrClass) (h : parseValue attr name num = .error e) :
    e = .strconv := by
  unfold parseValue at h
  simp only at h
  split at h
  · cases h
  · cases h; rfl

theorem hexVal_hexDigit (d : Nat) (h : d < 16) : hexVal? (hexDigit d) = some d := by
  have : ∀ d : Fin 16, hexVal? (hexDigit d.val) = some d.val := by decide
  exact this ⟨d, h⟩

theorem showHex_spec (n : Nat) : showHex n ≠ [] ∧ (showHex n).foldl hexStep (some 0) = some n := by
  induction n using Nat.strongRecOn with
  | _ n ih =>
    rw [showHex]
    by_cases h : n < 16
    · simp only [h, if_true]
      refine ⟨List.cons_ne_nil _ _, ?_⟩
      simp [hexStep, hexVal_hexDigit n h]
    · have ih' := ih (n / 16) (by omega)
      simp only [h, if_false]
      refine ⟨?_, ?_⟩
      · intro hh
        have := congrArg List.length hh
        simp at this
      · simp only [List.foldl_append, ih'.2, List.foldl_cons, List.foldl_nil, hexStep, Option.bind_some,
          hexVal_hexDigit (n % 16) (by omega), Option.map_some, Option.some.injEq]
        omega

theorem parseUint32Hex_showHex (n : Nat) (h : n < 2 ^ 32) : parseUint32Hex (showHex n) = some n := by
  have hs := showHex_spec n
  have hne : (showHex n).isEmpty = false := by
    cases hx : showHex n with
    | nil => exact absurd hx hs.1
    | cons _ _ => rfl
  have hf : (showHex n).foldl (fun acc b => acc.bind fun n => (hexVal? b).map fun d => n * 16 + d) (some 0) = some n := hs.2
  simp [parseUint32Hex, hexNat?, hne, hf, h]

theorem showDec_take2 (n : Nat) : ((showDec n).take 2 == kw0x) = false := by
  apply Bool.eq_false_iff.mpr
  intro h
  have hm : (120 : UInt8) ∈ (showDec n).take 2 := by rw [show (showDec n).take 2 = kw0x by simpa using h]; decide
  exact absurd ((showDec_spec n).1.2 120 (List.mem_of_mem_take hm)).2 (by decide)

theorem parseValue_tokens (v : AValue) (h : v.ok = true) :
    parseValue v.attr v.name (if v.hex then kw0x ++ showHex v.number else showDec v.number) = .ok v.toValue := by
  simp only [AValue.ok, Bool.and_eq_true, decide_eq_true_eq] at h
  cases hh : v.hex with
  | true =>
    have : (kw0x ++ showHex v.number).take 2 = kw0x := by simp [kw0x]
    have hd : (kw0x ++ showHex v.number).drop 2 = showHex v.number := by simp [kw0x]
    simp [parseValue, this, hd, parseUint32Hex_showHex _ h.2, AValue.toValue]
  | false =>
    simp [parseValue, showDec_take2, parseUint32Dec_showDec _ h.2, AValue.toValue]

/-- `.c₁.c₂…` -/
def dotTail (cs : List Bytes) : Bytes := (cs.map fun c => 46 :: c).flatten

theorem dotTail_nil : dotTail [] = [] := rfl

theorem dotTail_cons (c : Bytes) (cs : List Bytes) : dotTail (c :: cs) = 46 :: (c ++ dotTail cs) := by
  simp [dotTail]

theorem intercalate_dotTail (c : Bytes) (cs : List Bytes) : Spec.intercalate 46 (c :: cs) = c ++ dotTail cs := by
  induction cs generalizing c with
  | nil => simp [Spec.intercalate, dotTail]
  | cons d ds ih => rw [Spec.intercalate, ih, dotTail_cons]

theorem dotTail_head (cs : List Bytes) : dotTail cs = [] ∨ ∃ t, dotTail cs = 46 :: t := by
  cases cs with
  | nil => exact Or.inl rfl
  | cons c cs => exact Or.inr ⟨_, dotTail_cons c cs⟩

theorem digits_ne_nil {d : UInt8} {rest ds : Bytes} {cs : List Bytes} (hd : isDigit d = true)
    (h : d :: rest = ds ++ dotTail cs) : ds ≠ [] := by
  rintro rfl
  rcases dotTail_head cs with h0 | ⟨t, ht⟩
  · rw [h0] at h; cases h
  · rw [ht] at h
    simp only [List.nil_append, List.cons.injEq] at h
    have := isDigit_ne_dot hd
    rw [h.1] at this
    exact absurd this (by decide)

theorem decimal_of_digits {ds : Bytes} (hne : ds ≠ []) (h : ds.all isDigit = true) : Decimal ds :=
  ⟨hne, (all_isDigit_iff ds).mp h⟩

theorem wrap64_id (x : Int) (h0 : 0 ≤ x) (h1 : x < 2 ^ 63) : wrap64 x = x := by
  unfold wrap64
  omega

theorem oidStep_ok (cfg : Cfg) (cur : Nat) (d : UInt8) (hd : isDigit d = true) (h : decStep cur d < 2 ^ 63) :
    oidStep cfg (cur : Int) d = some ((decStep cur d : Nat) : Int) := by
  have hlt := digitVal_lt d hd
  unfold decStep at h ⊢
  have hno : ¬ ((cur : Int) > (maxInt64 - (digitVal d : Int)) / 10) := by
    unfold maxInt64
    omega
  have hw : wrap64 ((cur : Int) * 10 + (digitVal d : Int)) = ((cur * 10 + digitVal d : Nat) : Int) := by
    rw [wrap64_id] <;> omega
  simp only [oidStep, hno, decide_false, Bool.and_false, Bool.false_eq_true, if_false, hw]

theorem oidLoop_digits (cfg : Cfg) (ds rest : Bytes) (done : List Int) (cur : Nat)
    (hd : ds.all isDigit = true) (hv : ds.foldl decStep cur < 2 ^ 63) :
    oidLoop cfg (ds ++ rest) done (cur : Int) = oidLoop cfg rest done ((ds.foldl decStep cur : Nat) : Int) := by
  induction ds generalizing cur with
  | nil => rfl
  | cons d ds ih =>
    simp only [List.all_cons, Bool.and_eq_true] at hd
    simp only [List.foldl_cons] at hv ⊢
    have hmono := foldl_decStep_mono ds (decStep cur d)
    have hstep := oidStep_ok cfg cur d hd.1 (by omega)
    simp only [List.cons_append, oidLoop, isDigit_ne_dot hd.1, Bool.false_eq_true, if_false, hd.1, if_true, hstep]
    exact ih _ hd.2 hv

theorem oidLoop_dot (cfg : Cfg) (d : UInt8) (rest : Bytes) (done : List Int) (cur : Int) (hd : isDigit d = true) :
    oidLoop cfg (46 :: d :: rest) done cur = oidLoop cfg (d :: rest) (cur :: done) 0 := by
  have h46 : ((46 : UInt8) == 46) = true := by decide
  conv => lhs; unfold oidLoop
  simp only [h46, if_true, hd]

/-- fix #13 refuses the step that would leave Go's `int` -/
theorem oidStep_none (cfg : Cfg) (h13 : cfg.oidOverflowRejected = true) (cur : Nat) (d : UInt8)
    (hd : isDigit d = true) (hov : ¬ decStep cur d < 2 ^ 63) : oidStep cfg (cur : Int) d = none := by
  have hlt := digitVal_lt d hd
  unfold decStep at hov
  have : (cur : Int) > (maxInt64 - (digitVal d : Int)) / 10 := by
    unfold maxInt64; omega
  simp [oidStep, h13, this]

theorem oidStep_some (cfg : Cfg) (h13 : cfg.oidOverflowRejected = true) (cur : Nat) (d : UInt8) (v : Int)
    (hd : isDigit d = true) (h : oidStep cfg (cur : Int) d = some v) :
    decStep cur d < 2 ^ 63 ∧ v = ((decStep cur d : Nat) : Int) := by
  by_cases hov : decStep cur d < 2 ^ 63
  · rw [oidStep_ok cfg cur d hd hov] at h
    cases h
    exact ⟨hov, rfl⟩
  · rw [oidStep_none cfg h13 cur d hd hov] at h
    cases h

/-- what the loop of `parseOID` has read when it succeeds: the remaining digits of the current
    component, then `.`-led components; with fix #13 every component's value is below 2⁶³ and the
    result lists these values -/
theorem oidLoop_some (cfg : Cfg) (rest : Bytes) (done : List Int) (cur : Int) (o : List Int) :
    oidLoop cfg rest done cur = some o →
    ∃ ds cs, ds.all isDigit = true ∧ (∀ c ∈ cs, Decimal c) ∧ rest = ds ++ dotTail cs ∧
      (cfg.oidOverflowRejected = true → ∀ n : Nat, cur = (n : Int) → n < 2 ^ 63 →
        ds.foldl decStep n < 2 ^ 63 ∧ (∀ c ∈ cs, decValue c < 2 ^ 63) ∧
        o = done.reverse ++ ((ds.foldl decStep n : Nat) : Int) :: oidOf cs) := by
  -- the cases follow the branches of `oidLoop` in the order of its text
  fun_induction oidLoop cfg rest done cur
  case case1 done cur =>  -- end of input
    intro h
    refine ⟨[], [], rfl, by simp, rfl, fun _ n hn hlt => ⟨hlt, by simp, ?_⟩⟩
    rw [← Option.some.inj h, hn]
    simp [oidOf]
  case case3 c done cur h46 d tail hd ih =>  -- `.` followed by a digit: next component
    intro h
    obtain ⟨ds', cs', hdig, hdec, hrest, hval⟩ := ih h
    refine ⟨[], ds' :: cs', rfl, ?_, ?_, ?_⟩
    · exact List.forall_mem_cons.2 ⟨decimal_of_digits (digits_ne_nil hd hrest) hdig, hdec⟩
    · rw [List.nil_append, dotTail_cons, eq_of_beq h46, hrest]
    · intro h13 n hn hlt
      obtain ⟨h1, h2, h3⟩ := hval h13 0 rfl (by decide)
      rw [foldl_decStep_zero] at h1 h3
      exact ⟨hlt, List.forall_mem_cons.2 ⟨h1, h2⟩, by rw [h3, hn]; simp [oidOf]⟩
  case case5 c rest done cur _ hd v hs ih =>  -- a digit that `oidStep` takes
    intro h
    obtain ⟨ds', cs', hdig, hdec, hrest, hval⟩ := ih h
    refine ⟨c :: ds', cs', by simp [hd, hdig], hdec, by rw [hrest]; rfl, ?_⟩
    intro h13 n hn hlt
    subst hn
    obtain ⟨hlt', hv⟩ := oidStep_some cfg h13 n c v hd hs
    exact hval h13 (decStep n c) hv hlt'
  -- all other cases: `oidLoop` is `none`
  all_goals exact fun h => nomatch h

theorem oidLoop_dotTail (cfg : Cfg) : ∀ (cs : List Bytes) (done : List Int) (cur : Nat),
    (∀ c ∈ cs, Decimal c) → (∀ c ∈ cs, decValue c < 2 ^ 63) →
    oidLoop cfg (dotTail cs) done (cur : Int) = some (done.reverse ++ (cur : Int) :: oidOf cs)
  | [], done, cur, _, _ => by simp [dotTail, oidLoop, oidOf]
  | c :: cs, done, cur, hdec, hval => by
    obtain ⟨d, c', rfl, hd⟩ := decimal_head (hdec c (by simp))
    have hall : (d :: c').all isDigit = true := (all_isDigit_iff _).mpr (hdec _ (by simp)).2
    have hv : (d :: c').foldl decStep 0 < 2 ^ 63 := by
      rw [foldl_decStep_zero]; exact hval _ (by simp)
    rw [dotTail_cons, List.cons_append, oidLoop_dot cfg d _ done _ hd]
    refine Eq.trans (oidLoop_digits cfg (d :: c') (dotTail cs) ((cur : Int) :: done) 0 hall hv) ?_
    rw [oidLoop_dotTail cfg cs _ _ (fun x hx => hdec x (by simp [hx])) (fun x hx => hval x (by simp [hx])),
      foldl_decStep_zero]
    simp [oidOf]

theorem parseOID_eq_loop (cfg : Cfg) (c : UInt8) (rest : Bytes) (hd : isDigit c = true) :
    parseOID cfg (c :: rest) = oidLoop cfg (c :: rest) [] 0 := by
  conv => rhs; unfold oidLoop
  simp only [parseOID, hd, if_true, isDigit_ne_dot hd, Bool.false_eq_true, if_false]

theorem parseOID_some (cfg : Cfg) {s : Bytes} {o : List Int} (h : parseOID cfg s = some o) :
    ∃ comps, DottedNumber s comps ∧
      (cfg.oidOverflowRejected = true → (∀ c ∈ comps, decValue c < 2 ^ 63) ∧ o = oidOf comps) := by
  cases s with
  | nil => simp [parseOID] at h
  | cons c rest =>
    by_cases hd : isDigit c = true
    · rw [parseOID_eq_loop cfg c rest hd] at h
      obtain ⟨ds, cs, hdig, hdec, hrest, hval⟩ := oidLoop_some cfg _ [] 0 o h
      refine ⟨ds :: cs, ⟨by simp, ?_, by rw [intercalate_dotTail]; exact hrest⟩, ?_⟩
      · exact List.forall_mem_cons.2 ⟨decimal_of_digits (digits_ne_nil hd hrest) hdig, hdec⟩
      · intro h13
        obtain ⟨h1, h2, h3⟩ := hval h13 0 rfl (by decide)
        rw [foldl_decStep_zero] at h1 h3
        exact ⟨List.forall_mem_cons.2 ⟨h1, h2⟩, by rw [h3]; simp [oidOf]⟩
    · simp [parseOID, hd] at h

theorem parseOID_of_dotted (cfg : Cfg) {s : Bytes} {comps : List Bytes} (h : DottedNumber s comps)
    (hval : ∀ c ∈ comps, decValue c < 2 ^ 63) : parseOID cfg s = some (oidOf comps) := by
  obtain ⟨hne, hdec, hs⟩ := h
  cases comps with
  | nil => exact absurd rfl hne
  | cons c cs =>
    obtain ⟨d, c', rfl, hd⟩ := decimal_head (hdec c (by simp))
    have hall : (d :: c').all isDigit = true := (all_isDigit_iff _).mpr (hdec _ (by simp)).2
    have hv : (d :: c').foldl decStep 0 < 2 ^ 63 := by
      rw [foldl_decStep_zero]; exact hval _ (by simp)
    rw [hs, intercalate_dotTail, List.cons_append, parseOID_eq_loop cfg d _ hd]
    refine Eq.trans (oidLoop_digits cfg (d :: c') (dotTail cs) [] 0 hall hv) ?_
    rw [oidLoop_dotTail cfg cs _ _ (fun x hx => hdec x (by simp [hx])) (fun x hx => hval x (by simp [hx])),
      foldl_decStep_zero]
    simp [oidOf]

theorem parseOID_iff (cfg : Cfg) (h13 : cfg.oidOverflowRejected = true) (s : Bytes) (o : List Int) :
    parseOID cfg s = some o ↔
      ∃ comps, DottedNumber s comps ∧ (∀ c ∈ comps, decValue c < 2 ^ 63) ∧ o = oidOf comps := by
  constructor
  · intro h
    obtain ⟨comps, hdot, hval⟩ := parseOID_some cfg h
    exact ⟨comps, hdot, hval h13⟩
  · rintro ⟨comps, hdot, hval, rfl⟩
    exact parseOID_of_dotted cfg hdot hval

theorem parseOID_dotted (cfg : Cfg) (s : Bytes) (o : List Int) (h : parseOID cfg s = some o) :
    ∃ comps, DottedNumber s comps :=
  (parseOID_some cfg h).imp fun _ h => h.1

/-- the dotted number as written is the OID declared (components below 2⁶³, where Go's int is exact) -/
theorem parseOID_showOID (cfg : Cfg) (o : List Nat) (hne : o ≠ []) (h : ∀ c ∈ o, c < 2 ^ 63) :
    parseOID cfg (showOID o) = some (o.map Int.ofNat) := by
  have hd : DottedNumber (showOID o) (o.map showDec) :=
    ⟨by simpa using hne, by simpa using fun c _ => (showDec_spec c).1, rfl⟩
  have := parseOID_of_dotted cfg hd (by simpa [(showDec_spec _).2] using h)
  rw [this, oidOf, List.map_map]
  exact congrArg some (List.map_congr_left fun c _ => congrArg Int.ofNat (showDec_spec c).2)

/-- `format=t,l` with t ∈ {1,2,4}, l ∈ {0,1,2}: the same as `∃ t l, FormatTok f t l` of the grammar
    (`isFormatToken_iff`); the rejection theorem `RV.C16.bad_vendor_format` is stated with it -/
def isFormatToken (f : Bytes) : Prop :=
  ∃ t l : Nat, (t = 1 ∨ t = 2 ∨ t = 4) ∧ (l = 0 ∨ l = 1 ∨ l = 2) ∧ f = kwFormat ++ [UInt8.ofNat (48 + t), 44, UInt8.ofNat (48 + l)]

theorem isFormatToken_iff (f : Bytes) : isFormatToken f ↔ ∃ t l, FormatTok f t l := Iff.rfl

theorem formatOK_shape (cfg : Cfg) (hc : cfg.formatLenChecked = true) (f : Bytes) (h : formatOK cfg f = true) : isFormatToken f := by
  simp only [formatOK, hc, Bool.not_true, Bool.false_or, Bool.and_eq_true, beq_iff_eq, Bool.or_eq_true, decide_eq_true_eq] at h
  obtain ⟨⟨⟨⟨htake, hlen⟩, h8⟩, h7⟩, h9⟩ := h
  have hsplit : f = f.take 7 ++ f.drop 7 := (List.take_append_drop 7 f).symm
  have hdl : (f.drop 7).length = 3 := by simp [hlen]
  match hd : f.drop 7, hdl with
  | [x, y, z], _ =>
    rw [htake, hd] at hsplit
    subst hsplit
    simp only [kwFormat, List.cons_append, List.nil_append, List.getD_cons_succ, List.getD_cons_zero] at h7 h8 h9
    subst h8
    have hx : x = 49 ∨ x = 50 ∨ x = 52 := by
      rcases h7 with (h | h) | h
      · exact Or.inl h
      · exact Or.inr (Or.inl h)
      · exact Or.inr (Or.inr h)
    have hz : z = 48 ∨ z = 49 ∨ z = 50 := by
      have hlt := z.toNat_lt
      simp only [UInt8.le_iff_toNat_le, ← UInt8.toNat_inj] at h9 ⊢
      simp at h9 ⊢
      omega
    rcases hx with rfl | rfl | rfl <;> rcases hz with rfl | rfl | rfl
    · exact ⟨1, 0, by simp, by simp, by decide⟩
    · exact ⟨1, 1, by simp, by simp, by decide⟩
    · exact ⟨1, 2, by simp, by simp, by decide⟩
    · exact ⟨2, 0, by simp, by simp, by decide⟩
    · exact ⟨2, 1, by simp, by simp, by decide⟩
    · exact ⟨2, 2, by simp, by simp, by decide⟩
    · exact ⟨4, 0, by simp, by simp, by decide⟩
    · exact ⟨4, 1, by simp, by simp, by decide⟩
    · exact ⟨4, 2, by simp, by simp, by decide⟩

theorem formatTok_cases {f : Bytes} {t l : Nat} (h : FormatTok f t l) (cfg : Cfg) :
    formatOK cfg f = true ∧ ((f.getD 7 0) - 48).toNat = t ∧ ((f.getD 9 0) - 48).toNat = l := by
  obtain ⟨ht, hl, rfl⟩ := h
  obtain ⟨c11, c12, c13, c10⟩ := cfg
  rcases ht with rfl | rfl | rfl <;> rcases hl with rfl | rfl | rfl <;> cases c12 <;>
    exact ⟨rfl, by decide, by decide⟩

theorem formatOK_iff (cfg : Cfg) (h12 : cfg.formatLenChecked = true) (f : Bytes) :
    formatOK cfg f = true ↔ ∃ t l, FormatTok f t l :=
  ⟨formatOK_shape cfg h12 f, fun ⟨_, _, h⟩ => (formatTok_cases h cfg).1⟩

theorem parseVendor_of_args (cfg : Cfg) {name num : Bytes} {fmt : Option Bytes} {v : Vendor}
    (h : VendorArgs name num fmt v) : parseVendor cfg name num fmt = .ok v := by
  obtain ⟨h1, h2, h3, h4, h5⟩ := h
  cases v
  simp only at h1 h2 h3 h4 h5
  subst h1 h3 h4
  simp only [parseVendor, (parseInt32_iff _ _).mpr h2]
  rcases h5 with ⟨rfl, rfl, rfl⟩ | ⟨f, t, l, rfl, hft, rfl, rfl⟩
  · rfl
  · obtain ⟨hok, ht, hl⟩ := formatTok_cases hft cfg
    simp only [hok, if_true, ht, hl]

theorem parseVendor_iff (cfg : Cfg) (h12 : cfg.formatLenChecked = true) (name num : Bytes) (fmt : Option Bytes) (v : Vendor) :
    parseVendor cfg name num fmt = .ok v ↔ VendorArgs name num fmt v := by
  refine ⟨fun h => ?_, parseVendor_of_args cfg⟩
  unfold parseVendor at h
  cases hn : parseInt32 num with
  | none => simp [hn] at h
  | some n =>
    have hlit := (parseInt32_iff num n).mp hn
    simp only [hn] at h
    cases fmt with
    | none => cases h; exact ⟨rfl, hlit, rfl, rfl, Or.inl ⟨rfl, rfl, rfl⟩⟩
    | some f =>
      simp only at h
      by_cases hok : formatOK cfg f = true
      · obtain ⟨t, l, hft⟩ := (formatOK_iff cfg h12 f).mp hok
        obtain ⟨_, ht, hl⟩ := formatTok_cases hft cfg
        rw [if_pos hok, ht, hl] at h
        cases h
        exact ⟨rfl, hlit, rfl, rfl, Or.inr ⟨f, t, l, rfl, hft, rfl, rfl⟩⟩
      · rw [if_neg hok] at h; cases h

theorem parseVendor_tokens (cfg : Cfg) (v : AVendor) (h : v.ok = true) :
    parseVendor cfg v.name (showInt v.number)
      (v.format.map fun tl => kwFormat ++ [UInt8.ofNat (48 + tl.1), 44, UInt8.ofNat (48 + tl.2)]) = .ok v.toVendor := by
  simp only [AVendor.ok, Bool.and_eq_true] at h
  refine parseVendor_of_args cfg ⟨rfl, int32Lit_showInt _ h.1.2, rfl, rfl, ?_⟩
  cases hf : v.format with
  | none => exact Or.inl ⟨rfl, by simp [AVendor.toVendor, hf], by simp [AVendor.toVendor, hf]⟩
  | some tl =>
    obtain ⟨t, l⟩ := tl
    have hfmt := h.2
    simp only [hf, Bool.and_eq_true, Bool.or_eq_true, beq_iff_eq, or_assoc] at hfmt
    exact Or.inr ⟨_, t, l, rfl, ⟨hfmt.1, hfmt.2, rfl⟩, by simp [AVendor.toVendor, hf], by simp [AVendor.toVendor, hf]⟩

example : ValueNumber [48, 120, 49, 70] 31 := Or.inl ⟨[49, 70], rfl, by decide, by decide, by decide⟩
example : ValueNumber [51, 49] 31 := Or.inr (by decide)
example : parseValue [65] [66] [48, 120, 49, 70] = .ok ⟨[65], [66], 31⟩ := by rfl
example : ¬ ValueNumber [48, 120] 0 := by
  intro h; have := (valueNumber_iff _ _).mpr h; revert this; decide
example : Hexadecimal [97, 70, 48] ∧ hexValue [97, 70, 48] = 0xaf0 ∧ ¬ Hexadecimal [] ∧ ¬ Hexadecimal [71] := by decide
example : DottedNumber [49, 46, 48, 50] [[49], [48, 50]] := by unfold DottedNumber; decide
example : oidOf [[49], [48, 50]] = [1, 2] := by decide
example : parseOID Cfg.repaired [49, 46, 48, 50] = some [1, 2] := by decide
example : ¬ ∃ comps, DottedNumber [49, 46] comps := by
  rintro ⟨comps, hne, hdec, hs⟩
  cases comps with
  | nil => exact hne rfl
  | cons c cs =>
    rw [intercalate_dotTail] at hs
    obtain ⟨d, c', rfl, _⟩ := decimal_head (hdec c (by simp))
    cases cs with
    | nil =>
      -- one component: it would be `1.` itself, and `.` is no digit
      rw [dotTail_nil, List.append_nil] at hs
      exact absurd (hdec (d :: c') (by simp)) (by rw [← hs]; decide)
    | cons c2 cs2 =>
      -- two or more: a digit, `.`, and a second component of at least one digit are three bytes
      obtain ⟨d2, c2', rfl, _⟩ := decimal_head (hdec c2 (by simp))
      rw [dotTail_cons] at hs
      have := congrArg List.length hs
      simp at this
      omega
example : FormatTok (kwFormat ++ [52, 44, 48]) 4 0 := by unfold FormatTok; decide
example : ¬ ∃ t l, FormatTok (kwFormat ++ [52, 44, 51]) t l := by
  rw [← formatOK_iff Cfg.repaired rfl]; decide
example : VendorArgs [65] [57] (some (kwFormat ++ [50, 44, 49])) ⟨[65], 9, some 2, some 1, [], []⟩ :=
  (parseVendor_iff Cfg.repaired rfl _ _ _ _).mp (by rfl)

end RV.DictParser
