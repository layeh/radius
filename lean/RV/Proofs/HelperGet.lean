/-
  X_Get / X_GetString(s) / X_LookupString against X_Lookup / X_Gets (RV/Model/Helper.lean).
-/
import RV.Model.Helper
import RV.Proofs.Helper
namespace RV

section
variable (H : Hash)
variable {d : Desc} {secret auth : Bytes}

/-- text kinds: the results are the stripped tag and either the decrypted value (also when it has the
    wrong fixed size) or nil (the decryption failed) -/
theorem lookupResults_text (d : Desc) (hk : d.kind = .string ∨ d.kind = .octets ∨ d.kind = .concat)
    (a secret auth : Bytes) :
    lookupResults H d a secret auth =
      ((untag d a).1, .bytes (match textPlain H d (untag d a).2 secret auth with | .ok v => v | _ => [])) := by
  have key : lookupResults H d a secret auth =
      match untag d a with
      | (tag, c) => match textPlain H d c secret auth with
        | .ok v => (tag, .bytes v)
        | _ => (tag, .bytes []) := by
    simp only [← textPlain_match]
    rcases hk with h | h | h <;> simp only [lookupResults.eq_def, h] <;> rfl
  rw [key]
  generalize untag d a = p
  obtain ⟨t, c⟩ := p
  show (match textPlain H d c secret auth with | .ok v => _ | _ => _) = _
  cases textPlain H d c secret auth <;> rfl

/-- integer kinds: on an error path the results are the stripped tag (tagged attribute) and 0 -/
theorem lookupResults_int (w : Nat) (hk : d.kind.intBytes = some w) (a : Bytes) :
    lookupResults H d a secret auth =
      match decodeValue H d a secret auth with
      | .ok tv => tv
      | _ => ((if d.hasTag then (untagInt a).1 else 0), .nat 0) := by
  have hl : lookupResults H d a secret auth =
      if d.hasTag then
        (if (untagInt a).2.length ≠ w then ((untagInt a).1, .nat 0)
         else ((untagInt a).1, .nat (beNat (untagInt a).2)))
      else
        match unsalt H d a secret auth with
        | .ok a => if a.length ≠ w then (0, .nat 0) else (0, .nat (beNat a))
        | _ => (0, .nat 0) := by
    rcases Kind.intBytes_cases hk with ⟨h, rfl⟩ | ⟨h, rfl⟩ | ⟨h, rfl⟩ <;>
      simp only [lookupResults.eq_def, h, Kind.intBytes, unsalt, untagInt] <;> rfl
  rw [hl, decodeValue_int H w hk]
  cases d.hasTag with
  | true =>
    simp only [if_true]
    by_cases hw : (untagInt a).2.length = w <;> simp only [ne_eq, hw, not_true_eq_false, not_false_eq_true, ↓reduceIte]
  | false =>
    simp only [Bool.false_eq_true, if_false]
    cases unsalt H d a secret auth with
    | ok b => by_cases hw : b.length = w <;> simp only [ne_eq, hw, not_true_eq_false, not_false_eq_true, ↓reduceIte]
    | err => rfl
    | fault => rfl

theorem lookupResults_nontext (hk : d.kind ≠ .string ∧ d.kind ≠ .octets ∧ d.kind ≠ .concat)
    (a : Bytes) :
    ∃ t, lookupResults H d a secret auth =
      match decodeValue H d a secret auth with
      | .ok tv => tv
      | _ => (t, GVal.zero d.kind) := by
  have addr : ∀ conv n, d.kind.addr conv n →
      lookupResults H d a secret auth =
        match decodeValue H d a secret auth with
        | .ok tv => tv
        | _ => (0, .bytes []) := by
    intro conv n hi
    rw [decodeValue_addr H hi, (decode_lookup_addr H hi a).2]
    cases unsalt H d a secret auth <;> try rfl
    next b => by_cases hl : b.length = n <;> simp only [ne_eq, hl, not_true_eq_false, not_false_eq_true, ↓reduceIte]
  cases hkk : d.kind
  case string => exact absurd hkk hk.1
  case octets => exact absurd hkk hk.2.1
  case concat => exact absurd hkk hk.2.2
  case integer => exact ⟨_, lookupResults_int H 4 (by rw [hkk]; rfl) a⟩
  case integer64 => exact ⟨_, lookupResults_int H 8 (by rw [hkk]; rfl) a⟩
  case short => exact ⟨_, lookupResults_int H 2 (by rw [hkk]; rfl) a⟩
  case ipaddr => exact ⟨0, addr _ _ (Or.inl ⟨hkk, rfl, rfl⟩)⟩
  case ipv6addr => exact ⟨0, addr _ _ (Or.inr ⟨hkk, rfl, rfl⟩)⟩
  all_goals refine ⟨0, ?_⟩; simp only [lookupResults.eq_def, decodeValue.eq_def, hkk, GVal.zero]
  case ifid => cases ifid a <;> rfl
  case ipv6prefix => cases ipv6Prefix a <;> rfl
  case date => cases date a <;> rfl
  case byte => by_cases hl : a.length = 1 <;> simp only [ne_eq, hl, not_true_eq_false, not_false_eq_true, ↓reduceIte]

/-- on the success path the named results of X_Lookup are the value it reports -/
theorem lookupResults_of_ok (a : Bytes) (tv : UInt8 × GVal)
    (h : decodeValue H d a secret auth = .ok tv) : lookupResults H d a secret auth = tv := by
  by_cases hk : d.kind = .string ∨ d.kind = .octets ∨ d.kind = .concat
  · rw [decodeValue_text H d hk] at h
    rw [lookupResults_text H d hk]
    cases ht : textPlain H d (untag d a).2 secret auth with
    | ok v =>
      rw [ht] at h
      simp only [] at h ⊢
      split at h
      · cases h
      · cases h; rfl
    | err => rw [ht] at h; cases h
    | fault => rw [ht] at h; cases h
  · obtain ⟨t, e⟩ := lookupResults_nontext H
      ⟨fun h => hk (Or.inl h), fun h => hk (Or.inr (Or.inl h)), fun h => hk (Or.inr (Or.inr h))⟩ a
    rw [e, h]

/-- on an error path of a kind other than text the `value` result is the zero value -/
theorem lookupResults_of_fail (a : Bytes)
    (hk : d.kind ≠ .string ∧ d.kind ≠ .octets ∧ d.kind ≠ .concat)
    (h : ∀ tv, decodeValue H d a secret auth ≠ .ok tv) :
    (lookupResults H d a secret auth).2 = GVal.zero d.kind := by
  obtain ⟨t, e⟩ := lookupResults_nontext H hk a
  rw [e]
  cases hd : decodeValue H d a secret auth with
  | ok tv => exact absurd hd (h tv)
  | err => rfl
  | fault => rfl

/-- X_Get (`tag, value, _ = X_Lookup(p)`) in each outcome of X_Lookup; when X_Lookup reports a decoding
    error, X_Get returns the named results of the failing decode: the zero value for every kind but text -/
theorem hGet_spec (d : Desc) (as : Attrs) (secret auth : Bytes) :
    match hLookup H d as secret auth with
    | .val t v => hGet H d as secret auth = (t, v)
    | .noAttr => hGet H d as secret auth = (0, GVal.zero d.kind)
    | .err => ∃ a, (rawValues d as).head? = some a ∧
        hGet H d as secret auth = lookupResults H d a secret auth ∧
        (d.kind ≠ .string ∧ d.kind ≠ .octets → (hGet H d as secret auth).2 = GVal.zero d.kind) := by
  unfold hLookup hGet
  by_cases hk : d.kind = .concat
  · rw [if_pos hk, if_pos hk]
    cases rawValues d as with
    | nil => rw [hk]; rfl
    | cons x xs => rfl
  · rw [if_neg hk, if_neg hk]
    cases hr : (rawValues d as).head? with
    | none => rfl
    | some a =>
      simp only []
      cases hd : decodeValue H d a secret auth
      case ok tv => exact lookupResults_of_ok H a tv hd
      all_goals exact ⟨a, rfl, rfl, fun hnt => lookupResults_of_fail H a ⟨hnt.1, hnt.2, hk⟩
        (by rw [hd]; exact fun _ h => nomatch h)⟩

/-- X_Get returns what X_Lookup reports, when X_Lookup succeeds -/
theorem hGet_of_lookup_val (as : Attrs) (t : UInt8) (v : GVal)
    (h : hLookup H d as secret auth = .val t v) : hGet H d as secret auth = (t, v) := by
  have := hGet_spec H d as secret auth
  rwa [h] at this

/-- X_Get returns the zero value (and tag 0) when the attribute is absent -/
theorem hGet_of_lookup_noAttr (as : Attrs)
    (h : hLookup H d as secret auth = .noAttr) : hGet H d as secret auth = (0, GVal.zero d.kind) := by
  have := hGet_spec H d as secret auth
  rwa [h] at this

theorem toStr_eq (v : GVal) : v.toStr = v := by cases v <;> rfl

theorem hGetStrings_eq (d : Desc) (as : Attrs) (secret auth : Bytes) :
    hGetStrings H d as secret auth = hGets H d as secret auth := by
  unfold hGetStrings
  simp [toStr_eq]

theorem map_stringOf (l : List Bytes) : l.map stringOf = l := List.map_id' l

theorem lookupStringBody_textPlain (a : Bytes) :
    lookupStringBody H d a secret auth =
      match textPlain H d (untag d a).2 secret auth with
      | .ok v => (((untag d a).1, .bytes v), decide (d.size.isSome ∧ d.size ≠ some v.length))
      | _ => (((untag d a).1, .bytes []), true) := by
  -- the body is a function of its local `ve`, which is `textPlain_cases` at the continuation that
  -- turns the decoding outcome into (value, err != nil); what is left is that function on the outcome
  refine (congrArg (fun ve : Bytes × Bool =>
      (((untag d a).1, GVal.bytes ve.1), ve.2 || decide (d.size.isSome ∧ d.size ≠ some ve.1.length)))
    (textPlain_cases H (fun r => match r with | .ok b => (stringOf b, false) | _ => (([] : Bytes), true)) (untag d a).2)).trans ?_
  cases textPlain H d (untag d a).2 secret auth <;> rfl

/-- the body of X_LookupString computes the results and the error condition of X_Lookup -/
theorem lookupStringBody_eq (hk : d.kind = .string ∨ d.kind = .octets) (a : Bytes) :
    (lookupStringBody H d a secret auth).1 = lookupResults H d a secret auth ∧
    ((lookupStringBody H d a secret auth).2 = true ↔ ∀ tv, decodeValue H d a secret auth ≠ .ok tv) := by
  have hk3 : d.kind = .string ∨ d.kind = .octets ∨ d.kind = .concat := hk.imp_right Or.inl
  rw [lookupStringBody_textPlain, lookupResults_text H d hk3, decodeValue_text H d hk3]
  cases textPlain H d (untag d a).2 secret auth with
  | ok v =>
    refine ⟨rfl, ?_⟩
    by_cases hs : d.size.isSome ∧ d.size ≠ some v.length
    · simp only [if_pos hs, decide_eq_true hs, true_iff]
      exact fun tv h => nomatch h
    · simp only [if_neg hs, decide_eq_false hs, Bool.false_eq_true, false_iff]
      exact fun h => h _ rfl
  | err => exact ⟨rfl, by simp⟩
  | fault => exact ⟨rfl, by simp⟩

/-- X_LookupString = X_Lookup up to the (byte-preserving) string conversion -/
theorem hLookupString_eq (hk : d.kind = .string ∨ d.kind = .octets ∨ d.kind = .concat)
    (as : Attrs) :
    hLookupString H d as secret auth = hLookup H d as secret auth := by
  unfold hLookupString hLookup
  by_cases hc : d.kind = .concat
  · simp only [if_pos hc, map_stringOf]
  · rw [if_neg hc, if_neg hc]
    cases (rawValues d as).head? with
    | none => rfl
    | some a =>
      simp only []
      obtain ⟨h1, h2⟩ := lookupStringBody_eq H (hk.imp_right fun h => h.resolve_right hc) a
      cases hd : decodeValue H d a secret auth
      case ok tv =>
        have : (lookupStringBody H d a secret auth).2 = false :=
          Bool.eq_false_iff.2 fun hb => h2.1 hb tv hd
        rw [this, h1, lookupResults_of_ok H a tv hd]; rfl
      all_goals rw [h2.2 (by rw [hd]; exact fun _ h => nomatch h)]; rfl

/-- X_GetString = X_Get up to the string conversion -/
theorem hGetString_eq (hk : d.kind = .string ∨ d.kind = .octets ∨ d.kind = .concat)
    (as : Attrs) :
    hGetString H d as secret auth = hGet H d as secret auth := by
  unfold hGetString hGet
  by_cases hc : d.kind = .concat
  · rw [if_pos hc, if_pos hc, map_stringOf]
  · rw [if_neg hc, if_neg hc]
    have hk2 : d.kind = .string ∨ d.kind = .octets := hk.imp_right fun h => h.resolve_right hc
    cases (rawValues d as).head? with
    | none => rcases hk2 with h | h <;> rw [h] <;> rfl
    | some a => exact (lookupStringBody_eq H hk2 a).1

end
end RV
