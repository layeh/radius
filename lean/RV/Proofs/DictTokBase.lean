/-
  C16, token level (L1), part 1: decimal numbers and signed 32-bit literals.
  `strconv.ParseUint(s, 10, 32)` / `strconv.ParseInt(s, 10, 32)` of the model accept exactly the
  grammar of RV.Model.DictGrammar and return the positional value; the spellings `showDec`, `showInt`
  of RV.Model.DictSpec are in that grammar.
-/
import RV.Model.DictGrammar
namespace RV.DictParser
open RV RV.Dict RV.DictParser.Spec RV.DictParser.Grammar

theorem isDigit_iff (b : UInt8) : isDigit b = true ↔ 48 ≤ b ∧ b ≤ 57 := by
  simp [isDigit]

theorem all_isDigit_iff (s : Bytes) : s.all isDigit = true ↔ ∀ b ∈ s, 48 ≤ b ∧ b ≤ 57 := by
  simp [List.all_eq_true, isDigit_iff]

/-- a digit is none of the bytes below `0` that the number parsers test for -/
theorem isDigit_bne {d x : UInt8} (h : isDigit d = true) (hx : x < 48) : (d == x) = false := by
  simp only [isDigit, Bool.and_eq_true, decide_eq_true_eq, UInt8.le_iff_toNat_le, UInt8.lt_iff_toNat_lt,
    beq_eq_false_iff_ne, ne_eq, ← UInt8.toNat_inj] at *
  simp at h hx
  omega

theorem isDigit_ne_plus {d : UInt8} (h : isDigit d = true) : (d == 43) = false := isDigit_bne h (by decide)
theorem isDigit_ne_minus {d : UInt8} (h : isDigit d = true) : (d == 45) = false := isDigit_bne h (by decide)
theorem isDigit_ne_dot {d : UInt8} (h : isDigit d = true) : (d == 46) = false := isDigit_bne h (by decide)

theorem digitVal_lt (d : UInt8) (h : isDigit d = true) : digitVal d < 10 := by
  simp only [isDigit, Bool.and_eq_true, decide_eq_true_eq, UInt8.le_iff_toNat_le] at h
  simp only [digitVal]
  simp at h
  omega

/-- one step of Horner's rule, as `decNat?` and the loop of `parseOID` take it -/
def decStep (n : Nat) (b : UInt8) : Nat := n * 10 + digitVal b

/-- Horner's rule computes the positional value -/
theorem foldl_dec (ds : Bytes) (acc : Nat) : ds.foldl decStep acc = acc * 10 ^ ds.length + decValue ds := by
  induction ds generalizing acc with
  | nil => simp [decValue]
  | cons d ds ih =>
    simp only [List.foldl_cons, List.length_cons, decValue]
    rw [ih]
    simp only [decStep, digitVal, Nat.pow_succ, Nat.add_mul]
    rw [Nat.mul_assoc, Nat.mul_comm 10, Nat.add_assoc]

theorem foldl_decStep_zero (ds : Bytes) : ds.foldl decStep 0 = decValue ds := by
  rw [foldl_dec, Nat.zero_mul, Nat.zero_add]

theorem foldl_decStep_mono (ds : Bytes) (cur : Nat) : cur ≤ ds.foldl decStep cur := by
  rw [foldl_dec]
  exact Nat.le_trans (Nat.le_mul_of_pos_right cur (Nat.pow_pos (by decide))) (Nat.le_add_right _ _)

theorem decNat_iff (s : Bytes) (n : Nat) : decNat? s = some n ↔ Decimal s ∧ decValue s = n := by
  unfold decNat? Decimal
  by_cases he : s = []
  · subst he; simp
  · by_cases hd : s.all isDigit = true
    · have hd' := (all_isDigit_iff s).mp hd
      have hf : s.foldl (fun n b => n * 10 + digitVal b) 0 = decValue s := foldl_decStep_zero s
      simp [he, hd, hf]
      exact fun _ => hd'
    · have : ¬ ∀ b ∈ s, 48 ≤ b ∧ b ≤ 57 := fun h => hd ((all_isDigit_iff s).mpr h)
      simp [he, hd, this]

theorem bind_guard_eq_some {α : Type} {x : Option Nat} {p : Nat → Prop} [DecidablePred p] {f : Nat → α} {a : α} :
    (x.bind fun m => if p m then some (f m) else none) = some a ↔ ∃ m, x = some m ∧ p m ∧ f m = a := by
  cases x with
  | none => simp
  | some m => by_cases h : p m <;> simp [h]

theorem bind_bound_iff {x : Option Nat} {P : Prop} {V B n : Nat} (hx : ∀ m, x = some m ↔ P ∧ V = m) :
    (x.bind fun m => if m < B then some m else none) = some n ↔ P ∧ V = n ∧ n < B := by
  rw [bind_guard_eq_some]
  constructor
  · rintro ⟨m, hm, hlt, rfl⟩
    exact ⟨((hx m).mp hm).1, ((hx m).mp hm).2, hlt⟩
  · rintro ⟨hd, hv, hlt⟩
    exact ⟨n, (hx n).mpr ⟨hd, hv⟩, hlt, rfl⟩

theorem parseUint32Dec_iff (s : Bytes) (n : Nat) :
    parseUint32Dec s = some n ↔ Decimal s ∧ decValue s = n ∧ n < 2 ^ 32 :=
  bind_bound_iff (decNat_iff s)

theorem decimal_head {s : Bytes} (h : Decimal s) : ∃ c rest, s = c :: rest ∧ isDigit c = true := by
  obtain ⟨hne, hall⟩ := h
  cases s with
  | nil => exact absurd rfl hne
  | cons c rest => exact ⟨c, rest, rfl, (isDigit_iff c).mpr (hall c (by simp))⟩

theorem parseInt32_iff (s : Bytes) (n : Int) : parseInt32 s = some n ↔ Int32Lit s n := by
  constructor
  · intro h
    cases s with
    | nil => simp [parseInt32] at h
    | cons c rest =>
      simp only [parseInt32] at h
      split at h
      · rename_i h43
        obtain ⟨m, hm, hlt, rfl⟩ := bind_guard_eq_some.mp h
        obtain ⟨hdec, rfl⟩ := (decNat_iff rest m).mp hm
        exact ⟨rest, hdec, Or.inl ⟨Or.inr (by rw [eq_of_beq h43]), rfl⟩, by omega, by omega⟩
      · split at h
        · rename_i h45
          obtain ⟨m, hm, hle, rfl⟩ := bind_guard_eq_some.mp h
          obtain ⟨hdec, rfl⟩ := (decNat_iff rest m).mp hm
          exact ⟨rest, hdec, Or.inr ⟨by rw [eq_of_beq h45], rfl⟩, by omega, by omega⟩
        · obtain ⟨m, hm, hlt, rfl⟩ := bind_guard_eq_some.mp h
          obtain ⟨hdec, rfl⟩ := (decNat_iff (c :: rest) m).mp hm
          exact ⟨c :: rest, hdec, Or.inl ⟨Or.inl rfl, rfl⟩, by omega, by omega⟩
  · rintro ⟨digits, hdec, hshape, hlo, hhi⟩
    have hdn := (decNat_iff digits (decValue digits)).mpr ⟨hdec, rfl⟩
    rcases hshape with ⟨rfl | rfl, rfl⟩ | ⟨rfl, rfl⟩
    · obtain ⟨c, rest, rfl, hdig⟩ := decimal_head hdec
      simp only [parseInt32, isDigit_ne_plus hdig, isDigit_ne_minus hdig, Bool.false_eq_true, if_false]
      exact bind_guard_eq_some.mpr ⟨_, hdn, by omega, rfl⟩
    · simp only [parseInt32, beq_self_eq_true, if_true]
      exact bind_guard_eq_some.mpr ⟨_, hdn, by omega, rfl⟩
    · simp only [parseInt32, show ((45 : UInt8) == 43) = false by decide, Bool.false_eq_true, if_false,
        beq_self_eq_true, if_true]
      exact bind_guard_eq_some.mpr ⟨_, hdn, by omega, rfl⟩

theorem digit_ofNat (d : Nat) (h : d < 10) :
    (48 ≤ UInt8.ofNat (48 + d) ∧ UInt8.ofNat (48 + d) ≤ 57) ∧ (UInt8.ofNat (48 + d)).toNat - 48 = d := by
  simp only [UInt8.le_iff_toNat_le, UInt8.toNat_ofNat']
  simp
  omega

theorem decimal_snoc {s : Bytes} {b : UInt8} (hs : s = [] ∨ Decimal s) (hb : 48 ≤ b ∧ b ≤ 57) :
    Decimal (s ++ [b]) ∧ decValue (s ++ [b]) = decValue s * 10 + (b.toNat - 48) := by
  refine ⟨⟨by simp, ?_⟩, ?_⟩
  · intro x hx
    rcases List.mem_append.mp hx with hx | hx
    · rcases hs with rfl | hs
      · cases hx
      · exact hs.2 x hx
    · rw [List.mem_singleton.mp hx]; exact hb
  · rw [← foldl_decStep_zero, ← foldl_decStep_zero, List.foldl_append]; rfl

theorem showDec_spec (n : Nat) : Decimal (showDec n) ∧ decValue (showDec n) = n := by
  induction n using Nat.strongRecOn with
  | _ n ih =>
    rw [showDec]
    by_cases h : n < 10
    · have hd := digit_ofNat n h
      rw [if_pos h]
      have := decimal_snoc (Or.inl rfl) hd.1
      rw [hd.2] at this
      simpa [decValue] using this
    · have hd := digit_ofNat (n % 10) (by omega)
      rw [if_neg h]
      obtain ⟨h1, h2⟩ := decimal_snoc (Or.inr (ih (n / 10) (by omega)).1) hd.1
      rw [(ih (n / 10) (by omega)).2, hd.2] at h2
      exact ⟨h1, by omega⟩

theorem decNat_showDec (n : Nat) : decNat? (showDec n) = some n := (decNat_iff _ _).mpr (showDec_spec n)

theorem parseUint32Dec_showDec (n : Nat) (h : n < 2 ^ 32) : parseUint32Dec (showDec n) = some n :=
  (parseUint32Dec_iff _ _).mpr ⟨(showDec_spec n).1, (showDec_spec n).2, h⟩

theorem showInt_nonneg (i : Int) (h : 0 ≤ i) : showInt i = showDec i.toNat := by
  simp [showInt, Int.not_lt.mpr h]

theorem int32Lit_showInt (i : Int) (h : int32OK i = true) : Int32Lit (showInt i) i := by
  simp only [int32OK, Bool.and_eq_true, decide_eq_true_eq] at h
  unfold showInt
  split
  · exact ⟨_, (showDec_spec i.natAbs).1, Or.inr ⟨rfl, by rw [(showDec_spec _).2]; omega⟩, h.1, h.2⟩
  · exact ⟨_, (showDec_spec i.toNat).1, Or.inl ⟨Or.inl rfl, by rw [(showDec_spec _).2]; omega⟩, h.1, h.2⟩

theorem parseInt32_showInt (i : Int) (h : int32OK i = true) : parseInt32 (showInt i) = some i :=
  (parseInt32_iff _ _).mpr (int32Lit_showInt i h)

theorem int32Lit_ok {s : Bytes} {n : Int} (h : Int32Lit s n) : int32OK n = true := by
  obtain ⟨_, _, _, hlo, hhi⟩ := h
  simp only [int32OK, Bool.and_eq_true, decide_eq_true_eq]
  exact ⟨hlo, hhi⟩

theorem int32Lit_ne_nil {s : Bytes} {n : Int} (h : Int32Lit s n) : s ≠ [] := by
  obtain ⟨digits, hdec, hshape, _, _⟩ := h
  rcases hshape with ⟨hs | hs, _⟩ | ⟨hs, _⟩
  · rw [hs]; exact hdec.1
  · rw [hs]; simp
  · rw [hs]; simp

example : Int32Lit [45, 48, 49, 54] (-16) := ⟨[48, 49, 54], by decide, Or.inr ⟨rfl, by decide⟩, by decide, by decide⟩
example : Decimal [48, 49, 54] ∧ decValue [48, 49, 54] = 16 := by decide
example : ¬ Decimal [] ∧ ¬ Decimal [49, 95, 48] := by decide

end RV.DictParser
