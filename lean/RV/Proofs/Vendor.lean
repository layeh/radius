/-
  Helper lemmas for C14 (vendor-specific helpers).  The specification-level decomposition of a
  Vendor-Specific payload (`vsaParse` / `vsaRender`) is defined here, independently of the model's
  walkers (`vsaHead`, `vsaGets`, `vsaDel`), and the walkers are characterised through it.
-/
import RV.Model.Vendor
import RV.Proofs.Codec
import RV.Proofs.Wire
namespace RV

/-- well-formed prefix as (type, value) pairs, then the residue starting at the first malformed
    length octet (< 3 or beyond the end) or when fewer than 3 bytes remain.  Model-free. -/
def vsaParse : Bytes → List (UInt8 × Bytes) × Bytes
  | t :: l :: rest =>
    if 3 ≤ l.toNat ∧ l.toNat - 2 ≤ rest.length then
      let r := vsaParse (rest.drop (l.toNat - 2))
      ((t, rest.take (l.toNat - 2)) :: r.1, r.2)
    else ([], t :: l :: rest)
  | p => ([], p)
termination_by p => p.length
decreasing_by simp; omega

/-- wire form of a list of sub-attributes: type, length (= 2 + |value|), value -/
def vsaRender : List (UInt8 × Bytes) → Bytes
  | [] => []
  | (t, v) :: ps => t :: UInt8.ofNat (2 + v.length) :: (v ++ vsaRender ps)

/-- a (type, value) pair that can be a sub-attribute: value of 1..253 bytes -/
def subOK (p : UInt8 × Bytes) : Prop := 1 ≤ p.2.length ∧ p.2.length ≤ 253

/-- nothing more can be walked -/
def vsaStuck (r : Bytes) : Prop := vsaParse r = ([], r)

theorem vsaParse_nil : vsaParse [] = ([], []) := by
  unfold vsaParse; rfl

theorem vsaParse_single (t : UInt8) : vsaParse [t] = ([], [t]) := by
  unfold vsaParse; rfl

theorem vsaParse_cons (t l : UInt8) (rest : Bytes) :
    vsaParse (t :: l :: rest) =
      if 3 ≤ l.toNat ∧ l.toNat - 2 ≤ rest.length then
        ((t, rest.take (l.toNat - 2)) :: (vsaParse (rest.drop (l.toNat - 2))).1,
         (vsaParse (rest.drop (l.toNat - 2))).2)
      else ([], t :: l :: rest) := by
  rw [vsaParse]

theorem vsaParse_short (p : Bytes) (hp : ∀ t l rest, p = t :: l :: rest → False) :
    vsaParse p = ([], p) := by
  match p with
  | [] => exact vsaParse_nil
  | [t] => exact vsaParse_single t
  | t :: l :: rest => exact absurd rfl (hp t l rest)

theorem vsaRender_append (ps qs : List (UInt8 × Bytes)) :
    vsaRender (ps ++ qs) = vsaRender ps ++ vsaRender qs := by
  induction ps with
  | nil => rfl
  | cons p ps ih => obtain ⟨t, v⟩ := p; simp [vsaRender, ih]

theorem lenOctet_take {l : UInt8} {rest : Bytes} (h : 3 ≤ l.toNat ∧ l.toNat - 2 ≤ rest.length) :
    UInt8.ofNat (2 + (rest.take (l.toNat - 2)).length) = l := by
  rw [List.length_take, Nat.min_eq_left h.2]
  have : 2 + (l.toNat - 2) = l.toNat := by omega
  rw [this]; exact UInt8.ofNat_toNat

theorem vsaParse_lossless (p : Bytes) : vsaRender (vsaParse p).1 ++ (vsaParse p).2 = p := by
  induction p using vsaParse.induct with
  | case1 t l rest h ih =>
    rw [vsaParse_cons, if_pos h]
    simp only [vsaRender]
    rw [lenOctet_take h]
    simp only [List.cons_append, List.append_assoc]
    rw [ih, List.take_append_drop]
  | case2 t l rest h => rw [vsaParse_cons, if_neg h]; rfl
  | case3 p hp => rw [vsaParse_short p hp]; rfl

theorem vsaParse_subOK (p : Bytes) : ∀ q ∈ (vsaParse p).1, subOK q := by
  induction p using vsaParse.induct with
  | case1 t l rest h ih =>
    rw [vsaParse_cons, if_pos h]
    intro q hq
    simp only [List.mem_cons] at hq
    rcases hq with rfl | hq
    · have := u8_lt l
      simp only [subOK, List.length_take]; omega
    · exact ih q hq
  | case2 t l rest h => rw [vsaParse_cons, if_neg h]; simp
  | case3 p hp => rw [vsaParse_short p hp]; simp

theorem vsaParse_stuck (p : Bytes) : vsaStuck (vsaParse p).2 := by
  induction p using vsaParse.induct with
  | case1 t l rest h ih => rw [vsaParse_cons, if_pos h]; exact ih
  | case2 t l rest h =>
    rw [vsaParse_cons, if_neg h]; simp only [vsaStuck]; rw [vsaParse_cons, if_neg h]
  | case3 p hp => rw [vsaParse_short p hp]; exact vsaParse_short p hp

theorem vsaParse_render (ps : List (UInt8 × Bytes)) (r : Bytes) (hps : ∀ q ∈ ps, subOK q)
    (hr : vsaStuck r) : vsaParse (vsaRender ps ++ r) = (ps, r) := by
  induction ps with
  | nil => exact hr
  | cons q ps ih =>
    obtain ⟨t, v⟩ := q
    have hq : subOK (t, v) := hps _ (List.mem_cons_self)
    simp only [subOK] at hq
    simp only [vsaRender, List.cons_append, List.append_assoc]
    rw [vsaParse_cons]
    have hl : (UInt8.ofNat (2 + v.length)).toNat = 2 + v.length := u8_ofNat_toNat_lt (by omega)
    rw [hl, if_pos (by simp; omega)]
    have : 2 + v.length - 2 = v.length := by omega
    rw [this, List.take_left', List.drop_left', ih (fun q hq => hps q (List.mem_cons_of_mem _ hq))]
    all_goals rfl

theorem vsaHead_cons (t l : UInt8) (rest : Bytes) :
    vsaHead (t :: l :: rest) =
      if 3 ≤ l.toNat ∧ l.toNat - 2 ≤ rest.length then
        some (t, t :: l :: rest.take (l.toNat - 2), rest.drop (l.toNat - 2))
      else none := by
  simp only [vsaHead]
  by_cases h : 3 ≤ l.toNat ∧ l.toNat - 2 ≤ rest.length
  · rw [if_pos h, if_neg (by simp only [List.length_cons]; omega)]
    obtain ⟨k, hk⟩ : ∃ k, l.toNat = k + 2 := ⟨l.toNat - 2, by omega⟩
    simp [hk]
  · rw [if_neg h, if_pos (by simp only [List.length_cons]; omega)]

theorem vsaHead_nil : vsaHead [] = none := rfl
theorem vsaHead_single (t : UInt8) : vsaHead [t] = none := rfl

theorem vsaParse_head (p : Bytes) :
    vsaParse p = match vsaHead p with
      | none => ([], p)
      | some (t, sub, rest) => ((t, sub.drop 2) :: (vsaParse rest).1, (vsaParse rest).2) := by
  match p with
  | [] => rw [vsaParse_nil]; rfl
  | [t] => rw [vsaParse_single]; rfl
  | t :: l :: rest => rw [vsaParse_cons, vsaHead_cons]; split <;> rfl

theorem vsaHead_render {p sub rest : Bytes} {t : UInt8} (h : vsaHead p = some (t, sub, rest)) :
    t :: UInt8.ofNat (2 + (sub.drop 2).length) :: sub.drop 2 = sub := by
  match p with
  | [] => cases h
  | [_] => cases h
  | t' :: l :: r =>
    rw [vsaHead_cons] at h
    split at h
    · next hl =>
      cases h
      show _ :: UInt8.ofNat (2 + (List.take (l.toNat - 2) r).length) :: _ = _
      rw [lenOctet_take hl]; rfl
    · cases h

theorem vsaGets_eq (typ : UInt8) (p : Bytes) :
    vsaGets typ p = ((vsaParse p).1.filter (fun q => q.1 = typ)).map (·.2) := by
  fun_induction vsaGets typ p <;> rw [vsaParse_head]
  case case1 h => rw [h]; rfl
  case case2 h ih => rw [h, ih]; simp
  case case3 h ht ih => rw [h, ih]; simp [ht]

theorem vsaDel_eq (typ : UInt8) (p : Bytes) :
    vsaDel typ p =
      (vsaRender ((vsaParse p).1.filter (fun q => q.1 ≠ typ)) ++ (vsaParse p).2,
       (vsaParse p).1.any (fun q => q.1 = typ)) := by
  fun_induction vsaDel typ p <;> rw [vsaParse_head]
  case case1 h => rw [h]; rfl
  case case2 hk h ih => rw [h]; rw [hk] at ih; simp [(Prod.mk.inj ih).1]
  case case3 h _ _ hk ht ih =>
    rw [h]; rw [hk] at ih
    -- rendering the head pair `(t, sub.drop 2)` gives `sub` back: name the value `s`, replace `sub`
    have e := vsaHead_render h
    generalize List.drop 2 _ = s at e ⊢
    subst e
    simp [ht, vsaRender, (Prod.mk.inj ih).1, (Prod.mk.inj ih).2]
/-- the attribute is a Vendor-Specific attribute (type 26) that `radius.VendorSpecific` accepts
    (at least 5 bytes) and whose vendor id is `vid` -/
def isVendorAttr (vid : Nat) (a : AVP) : Bool :=
  decide (a.typ = 26) && decide (5 ≤ a.val.length) && decide (beNat (a.val.take 4) = vid)

/-- a payload with the sub-attributes of type `typ` of its well-formed prefix removed and every
    other byte (other sub-attributes, residue) kept in order -/
def vsaWithout (typ : UInt8) (p : Bytes) : Bytes :=
  vsaRender ((vsaParse p).1.filter (fun q => q.1 ≠ typ)) ++ (vsaParse p).2

/-- everything a Set/Del of (vendor, type) must preserve, in packet order: every attribute that
    is not a Vendor-Specific attribute of this vendor (`inl`, verbatim), and for each of this
    vendor's attributes its payload without the type's sub-attributes (`inr`), unless that is
    empty -/
def othersView (vid : Nat) (typ : UInt8) (as : Attrs) : List (AVP ⊕ Bytes) :=
  as.flatMap fun a =>
    if isVendorAttr vid a then
      (if vsaWithout typ (a.val.drop 4) = [] then [] else [.inr (vsaWithout typ (a.val.drop 4))])
    else [.inl a]

theorem vendorPayload_eq (vid : Nat) (a : AVP) :
    vendorPayload vid a = if isVendorAttr vid a then some (a.val.drop 4) else none := by
  unfold vendorPayload isVendorAttr vendorSpecific vsaType
  by_cases h1 : a.typ = 26 <;> by_cases h2 : a.val.length < 5 <;>
    by_cases h3 : beNat (a.val.take 4) = vid <;> simp [h1, h2, h3] <;> omega

theorem vendorPayload_some {vid : Nat} {a : AVP} {p : Bytes} (h : vendorPayload vid a = some p) :
    isVendorAttr vid a = true ∧ p = a.val.drop 4 := by
  rw [vendorPayload_eq] at h
  split at h
  · exact ⟨by assumption, by cases h; rfl⟩
  · cases h

theorem isVendorAttr_typ {vid : Nat} {a : AVP} (h : isVendorAttr vid a = true) : a.typ = 26 := by
  simp only [isVendorAttr, Bool.and_eq_true, decide_eq_true_eq] at h; exact h.1.1

theorem isVendorAttr_unique {vid vid' : Nat} {a : AVP} (h : isVendorAttr vid a = true)
    (hne : vid' ≠ vid) : isVendorAttr vid' a = false := by
  simp only [isVendorAttr, Bool.and_eq_true, decide_eq_true_eq] at h
  simp only [isVendorAttr, h.2, Bool.and_eq_false_iff, decide_eq_false_iff_not]
  exact Or.inr (fun h' => hne h'.symm)

theorem isVendorAttr_rebuild {vid : Nat} {a : AVP} (h : isVendorAttr vid a = true) (k : Bytes)
    (hk : k ≠ []) (vid' : Nat) :
    isVendorAttr vid' ⟨a.typ, a.val.take 4 ++ k⟩ = isVendorAttr vid' a ∧
    (a.val.take 4 ++ k).drop 4 = k ∧ 5 ≤ (a.val.take 4 ++ k).length := by
  simp only [isVendorAttr, Bool.and_eq_true, decide_eq_true_eq] at h
  have hl : (a.val.take 4).length = 4 := by rw [List.length_take]; omega
  have hk' : 1 ≤ k.length := by cases k <;> simp_all
  refine ⟨?_, ?_, ?_⟩
  · simp only [isVendorAttr]
    rw [List.take_left' hl]
    have : 5 ≤ (a.val.take 4 ++ k).length := by rw [List.length_append, hl]; omega
    rw [decide_eq_true this, decide_eq_true h.1.2]
  · exact List.drop_left' hl
  · rw [List.length_append, hl]; omega

theorem getsVendor_eq (vid : Nat) (typ : UInt8) (as : Attrs) :
    getsVendor vid typ as =
      (as.filter (isVendorAttr vid)).flatMap (fun a => vsaGets typ (a.val.drop 4)) := by
  unfold getsVendor
  induction as with
  | nil => rfl
  | cons a as ih =>
    rw [List.flatMap_cons, ih, vendorPayload_eq]
    by_cases h : isVendorAttr vid a = true
    · simp [h]
    · simp [h]

theorem getsVendor_nil (vid : Nat) (typ : UInt8) : getsVendor vid typ [] = [] := rfl

theorem getsVendor_cons (vid : Nat) (typ : UInt8) (a : AVP) (as : Attrs) :
    getsVendor vid typ (a :: as) =
      (if isVendorAttr vid a then vsaGets typ (a.val.drop 4) else []) ++ getsVendor vid typ as := by
  unfold getsVendor
  rw [List.flatMap_cons, vendorPayload_eq]
  by_cases h : isVendorAttr vid a = true <;> simp [h]

theorem getsVendor_append (vid : Nat) (typ : UInt8) (as bs : Attrs) :
    getsVendor vid typ (as ++ bs) = getsVendor vid typ as ++ getsVendor vid typ bs := by
  unfold getsVendor; exact List.flatMap_append

theorem getsVendor_flatMap (vid : Nat) (typ : UInt8) (as : Attrs) (f : AVP → Attrs) :
    getsVendor vid typ (as.flatMap f) = as.flatMap (fun a => getsVendor vid typ (f a)) :=
  List.flatMap_assoc

theorem vsaParse_without (typ : UInt8) (p : Bytes) :
    vsaParse (vsaWithout typ p) = ((vsaParse p).1.filter (fun q => q.1 ≠ typ), (vsaParse p).2) := by
  unfold vsaWithout
  exact vsaParse_render _ _ (fun q hq => vsaParse_subOK p q (List.mem_filter.1 hq).1)
    (vsaParse_stuck p)

theorem vsaWithout_idem (typ : UInt8) (p : Bytes) :
    vsaWithout typ (vsaWithout typ p) = vsaWithout typ p := by
  show vsaRender ((vsaParse (vsaWithout typ p)).1.filter _) ++ (vsaParse (vsaWithout typ p)).2 = _
  rw [vsaParse_without, List.filter_filter]
  simp only [Bool.and_self]
  rfl

theorem vsaWithout_of_none (typ : UInt8) (p : Bytes)
    (h : (vsaParse p).1.any (fun q => q.1 = typ) = false) : vsaWithout typ p = p := by
  unfold vsaWithout
  rw [List.filter_eq_self.2]
  · exact vsaParse_lossless p
  · intro q hq
    have := List.any_eq_false.1 h q hq
    simpa using this

theorem vsaGets_nil (typ : UInt8) : vsaGets typ [] = [] := by
  rw [vsaGets_eq, vsaParse_nil]; rfl

/-- what `_V_DelVendor` does to one attribute -/
def delVendor1 (vid : Nat) (typ : UInt8) (a : AVP) : Attrs :=
  if isVendorAttr vid a then
    if (vsaParse (a.val.drop 4)).1.any (fun q => q.1 = typ) then
      (if vsaWithout typ (a.val.drop 4) = [] then []
       else [⟨a.typ, a.val.take 4 ++ vsaWithout typ (a.val.drop 4)⟩])
    else [a]
  else [a]

theorem delVendor_eq_flatMap (vid : Nat) (typ : UInt8) (as : Attrs) :
    delVendor vid typ as = as.flatMap (delVendor1 vid typ) := by
  induction as with
  | nil => rfl
  | cons a as ih =>
    rw [delVendor, List.flatMap_cons, ← ih, vendorPayload_eq, delVendor1]
    by_cases hv : isVendorAttr vid a = true
    · simp only [hv, if_true]
      rw [vsaDel_eq]
      simp only []
      rw [← vsaWithout]
      generalize vsaWithout typ (a.val.drop 4) = k
      by_cases hr : (vsaParse (a.val.drop 4)).1.any (fun q => q.1 = typ) = true <;>
        by_cases hk : k = [] <;> simp [hr, hk]
    · simp [hv]

theorem getsVendor_single (vid : Nat) (typ : UInt8) (a : AVP) :
    getsVendor vid typ [a] = if isVendorAttr vid a then vsaGets typ (a.val.drop 4) else [] := by
  rw [getsVendor_cons, getsVendor_nil, List.append_nil]

theorem vsaGets_without (typ typ' : UInt8) (p : Bytes) :
    vsaGets typ' (vsaWithout typ p) = if typ' = typ then [] else vsaGets typ' p := by
  rw [vsaGets_eq, vsaGets_eq, vsaParse_without, List.filter_filter]
  split
  · next h => subst h; simp
  · next h =>
    congr 1
    apply List.filter_congr
    intro q _
    by_cases hq : q.1 = typ' <;> simp [hq, h]

/-- for the reads, Del replaces the payload of each of the vendor's attributes by the payload
    without the type -/
theorem getsVendor_delVendor1_of (vid vid' : Nat) (typ typ' : UInt8) (a : AVP)
    (hv : isVendorAttr vid a = true) :
    getsVendor vid' typ' (delVendor1 vid typ a) =
      if isVendorAttr vid' a then vsaGets typ' (vsaWithout typ (a.val.drop 4)) else [] := by
  unfold delVendor1
  rw [if_pos hv]
  by_cases hr : (vsaParse (a.val.drop 4)).1.any (fun q => q.1 = typ) = true
  · rw [if_pos hr]
    by_cases hk : vsaWithout typ (a.val.drop 4) = []
    · rw [if_pos hk, hk, vsaGets_nil, getsVendor_nil]; split <;> rfl
    · obtain ⟨h1, h2, _⟩ := isVendorAttr_rebuild hv _ hk vid'
      rw [if_neg hk, getsVendor_single, h1, h2]
  · rw [if_neg hr, getsVendor_single, vsaWithout_of_none typ _ (by rwa [Bool.not_eq_true] at hr)]

theorem getsVendor_delVendor1 (vid vid' : Nat) (typ typ' : UInt8) (a : AVP) :
    getsVendor vid' typ' (delVendor1 vid typ a) =
      if vid' = vid ∧ typ' = typ then [] else getsVendor vid' typ' [a] := by
  rw [getsVendor_single]
  by_cases hv : isVendorAttr vid a = true
  · rw [getsVendor_delVendor1_of vid vid' typ typ' a hv, vsaGets_without]
    by_cases hvid : vid' = vid
    · subst hvid
      simp only [hv, if_true, true_and]
    · simp only [isVendorAttr_unique hv hvid, hvid, false_and, if_false, Bool.false_eq_true]
  · have : delVendor1 vid typ a = [a] := by unfold delVendor1; rw [if_neg hv]
    rw [this, getsVendor_single]
    by_cases hc : vid' = vid ∧ typ' = typ
    · rw [if_pos hc, hc.1, if_neg hv]
    · rw [if_neg hc]
theorem getsVendor_delVendor (vid vid' : Nat) (typ typ' : UInt8) (as : Attrs) :
    getsVendor vid' typ' (delVendor vid typ as) =
      if vid' = vid ∧ typ' = typ then [] else getsVendor vid' typ' as := by
  rw [delVendor_eq_flatMap, getsVendor_flatMap]
  by_cases hc : vid' = vid ∧ typ' = typ
  · simp only [getsVendor_delVendor1, hc, and_self, if_true]
    simp
  · simp only [getsVendor_delVendor1, hc, if_false]
    induction as with
    | nil => rfl
    | cons a as ih =>
      rw [List.flatMap_cons, ih, getsVendor_cons, getsVendor_cons, getsVendor_nil, List.append_nil]

theorem othersView_append (vid : Nat) (typ : UInt8) (as bs : Attrs) :
    othersView vid typ (as ++ bs) = othersView vid typ as ++ othersView vid typ bs := by
  unfold othersView; exact List.flatMap_append

theorem othersView_flatMap (vid : Nat) (typ : UInt8) (as : Attrs) (f : AVP → Attrs) :
    othersView vid typ (as.flatMap f) = as.flatMap (fun a => othersView vid typ (f a)) :=
  List.flatMap_assoc

theorem othersView_delVendor1 (vid : Nat) (typ : UInt8) (a : AVP) :
    othersView vid typ (delVendor1 vid typ a) = othersView vid typ [a] := by
  unfold delVendor1
  by_cases hv : isVendorAttr vid a = true
  · simp only [hv, if_true]
    by_cases hr : (vsaParse (a.val.drop 4)).1.any (fun q => q.1 = typ) = true
    · simp only [hr, if_true]
      by_cases hk : vsaWithout typ (a.val.drop 4) = []
      · simp [hk, othersView, hv]
      · simp only [hk, if_false]
        obtain ⟨h1, h2, _⟩ := isVendorAttr_rebuild hv _ hk vid
        simp only [othersView, List.flatMap_cons, List.flatMap_nil, h1, hv, if_true, h2,
          vsaWithout_idem]
    · simp [hr]
  · simp [hv]

theorem othersView_delVendor (vid : Nat) (typ : UInt8) (as : Attrs) :
    othersView vid typ (delVendor vid typ as) = othersView vid typ as := by
  rw [delVendor_eq_flatMap, othersView_flatMap]
  simp only [othersView_delVendor1]
  induction as with
  | nil => rfl
  | cons a as ih =>
    rw [List.flatMap_cons, ih]
    show _ = othersView vid typ ([a] ++ as)
    rw [othersView_append]

theorem othersView_lefts (vid : Nat) (typ : UInt8) (as : Attrs) :
    (othersView vid typ as).filterMap (fun x => x.getLeft?) =
      as.filter (fun a => !isVendorAttr vid a) := by
  induction as with
  | nil => rfl
  | cons a as ih =>
    show (othersView vid typ ([a] ++ as)).filterMap _ = _
    rw [othersView_append, List.filterMap_append, ih]
    by_cases hv : isVendorAttr vid a = true
    · by_cases hk : vsaWithout typ (a.val.drop 4) = [] <;> simp [othersView, hv, hk]
    · simp [othersView, hv]

theorem othersView_rights (vid : Nat) (typ : UInt8) (as : Attrs) :
    (othersView vid typ as).filterMap (fun x => x.getRight?) =
      (((as.filter (isVendorAttr vid)).map (fun a => vsaWithout typ (a.val.drop 4))).filter
        (fun k => k ≠ [])) := by
  induction as with
  | nil => rfl
  | cons a as ih =>
    show (othersView vid typ ([a] ++ as)).filterMap _ = _
    rw [othersView_append, List.filterMap_append, ih]
    by_cases hv : isVendorAttr vid a = true
    · by_cases hk : vsaWithout typ (a.val.drop 4) = [] <;> simp [othersView, hv, hk]
    · simp [othersView, hv]

theorem foreign_of_othersView {vid : Nat} {typ : UInt8} {as as' : Attrs}
    (h : othersView vid typ as' = othersView vid typ as) :
    as'.filter (fun a => !isVendorAttr vid a) = as.filter (fun a => !isVendorAttr vid a) := by
  have := congrArg (List.filterMap (fun x => x.getLeft?)) h
  rwa [othersView_lefts, othersView_lefts] at this

theorem payloads_of_othersView {vid : Nat} {typ : UInt8} {as as' : Attrs}
    (h : othersView vid typ as' = othersView vid typ as) :
    ((as'.filter (isVendorAttr vid)).map (fun a => vsaWithout typ (a.val.drop 4))).filter (fun k => k ≠ []) =
      ((as.filter (isVendorAttr vid)).map (fun a => vsaWithout typ (a.val.drop 4))).filter (fun k => k ≠ []) := by
  have := congrArg (List.filterMap (fun x => x.getRight?)) h
  rwa [othersView_rights, othersView_rights] at this

theorem vendorPayload_isNone (vid : Nat) :
    (fun a => (vendorPayload vid a).isNone) = (fun a => !isVendorAttr vid a) := by
  funext a; rw [vendorPayload_eq]; cases isVendorAttr vid a <;> rfl

theorem delVendor_mem (vid : Nat) (typ : UInt8) (as : Attrs) (a : AVP)
    (h : a ∈ delVendor vid typ as) :
    (a ∈ as ∧ (isVendorAttr vid a = true → (vsaParse (a.val.drop 4)).1.any (fun q => q.1 = typ) = false)) ∨
    (a.typ = 26 ∧ 5 ≤ a.val.length ∧ isVendorAttr vid a = true ∧
      ∃ b ∈ as, isVendorAttr vid b = true ∧ a.val.take 4 = b.val.take 4 ∧
        a.val.drop 4 = vsaWithout typ (b.val.drop 4)) := by
  rw [delVendor_eq_flatMap, List.mem_flatMap] at h
  obtain ⟨b, hb, hab⟩ := h
  unfold delVendor1 at hab
  by_cases hv : isVendorAttr vid b = true
  · simp only [hv, if_true] at hab
    by_cases hr : (vsaParse (b.val.drop 4)).1.any (fun q => q.1 = typ) = true
    · simp only [hr, if_true] at hab
      by_cases hk : vsaWithout typ (b.val.drop 4) = []
      · simp [hk] at hab
      · simp only [hk, if_false, List.mem_singleton] at hab
        obtain ⟨h1, h2, h3⟩ := isVendorAttr_rebuild hv _ hk vid
        right
        subst hab
        have hl : (b.val.take 4).length = 4 := by
          simp only [isVendorAttr, Bool.and_eq_true, decide_eq_true_eq] at hv
          rw [List.length_take]; omega
        exact ⟨(isVendorAttr_typ hv : b.typ = 26), h3, by rw [h1, hv], b, hb, hv, List.take_left' hl, h2⟩
    · simp only [hr] at hab
      simp only [Bool.false_eq_true, if_false, List.mem_singleton] at hab
      subst hab
      exact Or.inl ⟨hb, fun _ => by rwa [Bool.not_eq_true] at hr⟩
  · simp only [hv] at hab
    simp only [Bool.false_eq_true, if_false, List.mem_singleton] at hab
    subst hab
    exact Or.inl ⟨hb, fun h => absurd h hv⟩

/-- 247 = the 249 octets `radius.NewVendorSpecific` admits after the vendor id (attribute.go) less the
    type and length octets of the one sub-attribute; here and wherever the bound appears -/
theorem vendorAttr_eq (vid : Nat) (typ : UInt8) (attr : Bytes) :
    vendorAttr vid typ attr =
      if 1 ≤ attr.length ∧ attr.length ≤ 247 then
        .ok (beBytes 4 vid ++ typ :: UInt8.ofNat (2 + attr.length) :: attr)
      else .err := by
  unfold vendorAttr newVendorSpecific
  by_cases h0 : attr.length = 0
  · simp [h0]
  · by_cases h1 : attr.length ≤ 247
    · have : ¬ (attr.length + 1 + 1 > 249) := by omega
      simp only [h0, if_false, List.length_cons, this]
      rw [if_neg (by omega), if_pos ⟨by omega, h1⟩]
    · have : (attr.length + 1 + 1 > 249) := by omega
      simp only [h0, if_false, List.length_cons, this, if_true]
      rw [if_neg (by omega)]

theorem newVsa_props (vid : Nat) (typ : UInt8) (attr : Bytes) (h : 1 ≤ attr.length ∧ attr.length ≤ 247) :
    let v := beBytes 4 vid ++ typ :: UInt8.ofNat (2 + attr.length) :: attr
    v.length ≤ 253 ∧ 5 ≤ v.length ∧ v.take 4 = beBytes 4 vid ∧
    v.drop 4 = vsaRender [(typ, attr)] ∧ vsaParse (v.drop 4) = ([(typ, attr)], []) ∧
    ∀ vid', isVendorAttr vid' ⟨26, v⟩ = decide (vid % 2 ^ 32 = vid') := by
  intro v
  have hl : (beBytes 4 vid).length = 4 := beBytes_length 4 vid
  have hd : v.drop 4 = vsaRender [(typ, attr)] := by
    simp only [v, List.drop_left' hl, vsaRender, List.append_nil]
  have ht : v.take 4 = beBytes 4 vid := List.take_left' hl
  have hlen : v.length = 6 + attr.length := by
    simp only [v, List.length_append, hl, List.length_cons]; omega
  refine ⟨by omega, by omega, ht, hd, ?_, ?_⟩
  · rw [hd]
    have := vsaParse_render [(typ, attr)] [] (by intro q hq; simp at hq; subst hq; exact ⟨h.1, by simp only []; omega⟩) vsaParse_nil
    simpa using this
  · intro vid'
    simp only [isVendorAttr, ht, beNat_beBytes_mod]
    have : 5 ≤ v.length := by omega
    simp [this]

theorem getsVendor_newVsa (vid vid' : Nat) (typ typ' : UInt8) (attr : Bytes)
    (h : 1 ≤ attr.length ∧ attr.length ≤ 247) :
    getsVendor vid' typ' [⟨26, beBytes 4 vid ++ typ :: UInt8.ofNat (2 + attr.length) :: attr⟩] =
      if vid % 2 ^ 32 = vid' ∧ typ' = typ then [attr] else [] := by
  obtain ⟨_, _, _, _, hp, hv⟩ := newVsa_props vid typ attr h
  rw [getsVendor_cons, getsVendor_nil, hv vid', vsaGets_eq, hp]
  by_cases h1 : vid % 2 ^ 32 = vid' <;> by_cases h2 : typ' = typ
  · simp [h1, h2]
  · have : ¬ typ = typ' := fun h => h2 h.symm
    simp [h1, h2, this]
  · simp [h1, h2]
  · simp [h1, h2]

theorem othersView_newVsa (vid : Nat) (typ : UInt8) (attr : Bytes) (hvid : vid < 2 ^ 32)
    (h : 1 ≤ attr.length ∧ attr.length ≤ 247) :
    othersView vid typ [⟨26, beBytes 4 vid ++ typ :: UInt8.ofNat (2 + attr.length) :: attr⟩] = [] := by
  obtain ⟨_, _, _, _, hp, hv⟩ := newVsa_props vid typ attr h
  have hw : vsaWithout typ
      ((beBytes 4 vid ++ typ :: UInt8.ofNat (2 + attr.length) :: attr).drop 4) = [] := by
    unfold vsaWithout; rw [hp]; simp [vsaRender]
  simp only [othersView, List.flatMap_cons, List.flatMap_nil, hv vid, Nat.mod_eq_of_lt hvid,
    decide_true, if_true, hw, List.append_nil]

theorem addVendor_eq (vid : Nat) (typ : UInt8) (attr : Bytes) (as : Attrs) :
    addVendor vid typ attr as =
      if 1 ≤ attr.length ∧ attr.length ≤ 247 then
        .ok (as ++ [⟨26, beBytes 4 vid ++ typ :: UInt8.ofNat (2 + attr.length) :: attr⟩])
      else .err := by
  unfold addVendor; rw [vendorAttr_eq]
  by_cases h : 1 ≤ attr.length ∧ attr.length ≤ 247 <;> simp [h, Attrs.add, vsaType]

theorem setVendor_eq (vid : Nat) (typ : UInt8) (attr : Bytes) (as : Attrs) :
    setVendor vid typ attr as =
      if 1 ≤ attr.length ∧ attr.length ≤ 247 then
        .ok (delVendor vid typ as ++ [⟨26, beBytes 4 vid ++ typ :: UInt8.ofNat (2 + attr.length) :: attr⟩])
      else .err := by
  unfold setVendor; rw [vendorAttr_eq]
  by_cases h : 1 ≤ attr.length ∧ attr.length ≤ 247 <;> simp [h, Attrs.add, vsaType]

theorem getsVendor_addVendor (vid vid' : Nat) (typ typ' : UInt8) (attr : Bytes) (as as' : Attrs)
    (hvid : vid < 2 ^ 32) (h : addVendor vid typ attr as = .ok as') :
    getsVendor vid' typ' as' =
      getsVendor vid' typ' as ++ (if vid' = vid ∧ typ' = typ then [attr] else []) := by
  rw [addVendor_eq] at h
  by_cases hl : 1 ≤ attr.length ∧ attr.length ≤ 247
  · rw [if_pos hl] at h; cases h
    rw [getsVendor_append, getsVendor_newVsa _ _ _ _ _ hl, Nat.mod_eq_of_lt hvid]
    by_cases hc : vid' = vid ∧ typ' = typ
    · rw [if_pos hc, if_pos ⟨hc.1.symm, hc.2⟩]
    · rw [if_neg hc, if_neg (fun h => hc ⟨h.1.symm, h.2⟩)]
  · rw [if_neg hl] at h; cases h

theorem getsVendor_setVendor (vid vid' : Nat) (typ typ' : UInt8) (attr : Bytes) (as as' : Attrs)
    (hvid : vid < 2 ^ 32) (h : setVendor vid typ attr as = .ok as') :
    getsVendor vid' typ' as' =
      if vid' = vid ∧ typ' = typ then [attr] else getsVendor vid' typ' as := by
  have h' : addVendor vid typ attr (delVendor vid typ as) = .ok as' := h
  rw [getsVendor_addVendor _ _ _ _ _ _ _ hvid h', getsVendor_delVendor]
  by_cases hc : vid' = vid ∧ typ' = typ
  · simp only [if_pos hc, List.nil_append]
  · simp only [if_neg hc, List.append_nil]

theorem othersView_addVendor (vid : Nat) (typ : UInt8) (attr : Bytes) (as as' : Attrs)
    (hvid : vid < 2 ^ 32) (h : addVendor vid typ attr as = .ok as') :
    othersView vid typ as' = othersView vid typ as := by
  rw [addVendor_eq] at h
  by_cases hl : 1 ≤ attr.length ∧ attr.length ≤ 247
  · rw [if_pos hl] at h; cases h
    rw [othersView_append, othersView_newVsa vid typ attr hvid hl, List.append_nil]
  · rw [if_neg hl] at h; cases h

theorem othersView_setVendor (vid : Nat) (typ : UInt8) (attr : Bytes) (as as' : Attrs)
    (hvid : vid < 2 ^ 32) (h : setVendor vid typ attr as = .ok as') :
    othersView vid typ as' = othersView vid typ as := by
  have h' : addVendor vid typ attr (delVendor vid typ as) = .ok as' := h
  rw [othersView_addVendor _ _ _ _ _ hvid h', othersView_delVendor]

theorem getsVendor_filter (vid : Nat) (typ : UInt8) (as : Attrs) (p : AVP → Bool)
    (hp : ∀ a, isVendorAttr vid a = true → p a = true) :
    getsVendor vid typ (as.filter p) = getsVendor vid typ as := by
  rw [getsVendor_eq, getsVendor_eq, List.filter_filter]
  congr 1
  apply List.filter_congr
  intro a _
  by_cases h : isVendorAttr vid a = true
  · simp [h, hp a h]
  · simp [h]

end RV
