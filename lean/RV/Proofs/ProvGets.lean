/-
  C13 — `X_Gets` in the heap model against the total model, for every descriptor.  Each round of `hGetsH`
  allocates, so a value returned early is read by the caller in a heap that later rounds have extended.  It
  reads the same there because it lies in a buffer that exists when its round ends and later rounds leave every
  such buffer unchanged (both from `Obs … (In n)`, RV/Proofs/Prov.lean).
-/
import RV.Proofs.ProvView
namespace RV
namespace Prov


theorem GValH.view_ext {n : Nat} {g g' : Heap} (e : Ext n g g') (v : GValH) (hv : ∀ s ∈ slices v, s.buf < n) :
    v.view g' = v.view g := by
  cases v with
  | bytes s => simp only [GValH.view]; rw [e.read s (hv s List.mem_cons_self)]
  | nat n => rfl
  | time u => rfl
  | pfx ip mask =>
    simp only [GValH.view]
    rw [e.read ip (hv ip List.mem_cons_self), e.read mask (hv mask (List.mem_cons_of_mem _ List.mem_cons_self))]


/-- what the caller sees: every returned (tag, value) read through its slices in heap `g`, and the
    success flag -/
def viewGets (g : Heap) (r : List (UInt8 × GValH) × Bool) : List (UInt8 × GVal) × Bool :=
  (r.1.map fun tv => (tv.1, tv.2.view g), r.2)

theorem viewGets_ext {n : Nat} {g g' : Heap} (e : Ext n g g') (r : List (UInt8 × GValH) × Bool)
    (hr : ∀ s ∈ slices r, s.buf < n) : viewGets g' r = viewGets g r := by
  unfold viewGets
  congr 1
  apply List.map_congr_left
  intro tv htv
  rw [GValH.view_ext e tv.2 (fun s hs => hr s (List.mem_append_left _
    (List.mem_flatMap.2 ⟨tv, htv, List.mem_append_right _ hs⟩)))]

/-- the value decoded first, in bounds in the heap `g1` its round left, is read after the remaining rounds -/
theorem viewGets_cons {m : M (List (UInt8 × GValH) × Bool)} (hm : PureObs m) (g1 : Heap) (tv : UInt8 × GValH)
    (htv : ∀ s ∈ slices tv, s.buf < g1.length) :
    viewGets (m g1).2 (tv :: (m g1).1.1, (m g1).1.2) =
      ((tv.1, tv.2.view g1) :: (viewGets (m g1).2 (m g1).1).1, (viewGets (m g1).2 (m g1).1).2) := by
  simp only [viewGets, List.map_cons]
  rw [GValH.view_ext (hm g1) tv.2 (fun s hs => htv s (List.mem_append_right _ hs))]

theorem hGetsGoH_view (H : Hash) (hH : ∀ x, (H x).length = 16) (d : Desc) (secret : Slice) (auth : Bytes)
    (raws : List Slice) :
    ∀ (g : Heap), secret.buf < g.length → (∀ s ∈ raws, s.buf < g.length) →
      seen viewGets (hGetsGoH H d secret auth raws g) = hGets.go H d (g.read secret) auth (raws.map g.read) := by
  induction raws with
  | nil => intro g _ _; rfl
  | cons a rest ih =>
    intro g hs hr
    have hd := decodeValueH_view H d (.inr hH) a secret auth g
    have hb := Obs.bound (obs_decodeValueH H d a secret auth) g
    have e1 := (Obs.call g (obs_decodeValueH H d a secret auth)).1
    rw [List.map_cons]
    unfold hGetsGoH
    rw [bind_apply]
    generalize decodeValueH H d a secret auth g = r at hd hb e1
    obtain ⟨res, g1⟩ := r
    cases res with
    | ok tv =>
      have ihv := ih g1 (Nat.lt_of_lt_of_le hs e1.1)
        (fun s hs' => Nat.lt_of_lt_of_le (hr s (List.mem_cons_of_mem _ hs')) e1.1)
      rw [e1.read secret hs,
        List.map_congr_left (fun s hs' => e1.read s (hr s (List.mem_cons_of_mem _ hs')))] at ihv
      rw [hGets_go_cons_ok H d (g.read secret) auth (g.read a) _ _ hd.symm, ← ihv]
      exact viewGets_cons (Obs.pureObs (obs_hGetsGoH H d secret auth rest)) g1 tv hb
    | err =>
      rw [hGets_go_cons_fail H d (g.read secret) auth (g.read a) _ (by intro tv; rw [← hd]; intro h; cases h)]
      rfl
    | fault =>
      rw [hGets_go_cons_fail H d (g.read secret) auth (g.read a) _ (by intro tv; rw [← hd]; intro h; cases h)]
      rfl

theorem hGetsH_view_all (H : Hash) (hH : ∀ x, (H x).length = 16) (d : Desc) (p : HPacket) (auth : Bytes)
    (h : Heap) (hp : p.below h.length) :
    seen viewGets (hGetsH H d p auth h) = hGets H d (p.view h).attrs (h.read p.secret) auth := by
  obtain ⟨hm, hb⟩ := rawSlicesH_view d p h hp
  have e := (Obs.call h (obs_rawSlicesH d p)).1
  unfold hGetsH
  rw [bind_apply, hGets_eq, ← hm,
    hGetsGoH_view H hH d p.secret auth _ _ (Nat.lt_of_lt_of_le hp.1 e.1) hb, e.read p.secret hp.1]
  rfl

end Prov
end RV
