/-
  For RV.Proofs.DictWalk: a decidable test for pure include graphs, and walks of concrete file
  systems (the non-root cycle, two diamonds, a cycle behind an earlier fault).
-/
import RV.Proofs.DictWalk

namespace RV.DictParser
open RV RV.Dict RV.C15

def pureLineB (fs : FS) (raw : Bytes) : Bool :=
  match Lex.fields (Lex.stripComment raw) with
  | [] => true
  | [k, n] => k == kwINCLUDE && (fs.lookup n).isSome
  | _ => false

def pureFSB (fs : FS) : Bool :=
  fs.all fun e => !(Lex.lines e.2).2 && (Lex.lines e.2).1.all (pureLineB fs)

theorem pureLineB_sound {fs : FS} {raw : Bytes} (h : pureLineB fs raw = true) : PureLine fs raw := by
  unfold pureLineB at h
  split at h
  · rename_i heq; exact Or.inl heq
  · rename_i k n heq
    simp at h
    exact Or.inr ⟨n, by rw [heq, h.1], h.2⟩
  · cases h

theorem pureFSB_sound {fs : FS} (h : pureFSB fs = true) : PureIncludeFS fs := by
  intro name text hl
  unfold FS.lookup at hl
  cases hfind : fs.find? (·.1 == name) with
  | none => rw [hfind] at hl; cases hl
  | some e =>
    rw [hfind] at hl
    simp at hl
    have hmem : e ∈ fs := List.mem_of_find?_eq_some hfind
    have := List.all_eq_true.mp h e hmem
    simp only [Bool.and_eq_true, Bool.not_eq_true', List.all_eq_true] at this
    rw [hl] at this
    exact ⟨this.1, fun raw hraw => pureLineB_sound (this.2 raw hraw)⟩
theorem Walk.incFail_of_lines {cfg : Cfg} {ign : Bool} {fs : FS} {path : List Bytes} {tooLong : Bool}
    {raw : Bytes} {ls : List Bytes} {lineNo : Nat} {vb : Option Bytes} {st st1 : St} {n t : Bytes}
    {f : Fault} {ls' : List Bytes} {tl' : Bool}
    (hT : includeTarget vb raw = some n) (hl : fs.lookup n = some t) (hp : ¬ n ∈ path)
    (hlines : Lex.lines t = (ls', tl'))
    (hin : Walk cfg ign fs (n :: path) tl' ls' 1 none (st.opened n) (some f, st1)) :
    Walk cfg ign fs path tooLong (raw :: ls) lineNo vb st (some f, st1.closed n) :=
  Walk.incFail hT hl hp (by rw [hlines]; exact hin)

theorem WalkFile.of_lines {cfg : Cfg} {ign : Bool} {fs : FS} {root text : Bytes} {r : Option Fault × St}
    {ls : List Bytes} {tl : Bool} (hl : fs.lookup root = some text) (hlines : Lex.lines text = (ls, tl))
    (h : Walk cfg ign fs [root] tl ls 1 none (St.opened {} root) r) : WalkFile cfg ign fs root r :=
  ⟨text, hl, by rw [hlines]; exact h⟩

theorem walk_nonRootCycle (ign : Bool) :
    ∃ st', WalkFile Cfg.repaired ign fsNonRootCycle nmRoot
      (some ⟨[nmB, nmA, nmRoot], 1, .includeOnPath nmA⟩, st') := by
  apply Exists.intro
  apply WalkFile.of_lines (text := inc nmA) (by decide) inc_a.1
  apply Walk.incFail_of_lines (n := nmA) (t := inc nmB) (by decide) (by decide) (by decide) inc_b.1
  apply Walk.incFail_of_lines (n := nmB) (t := inc nmA) (by decide) (by decide) (by decide) inc_a.1
  exact Walk.onPath (n := nmA) (t := inc nmB) (by decide) (by decide) (by decide)

theorem fsNonRootCycle_pure : PureIncludeFS fsNonRootCycle := pureFSB_sound (by decide +kernel)

end RV.DictParser

namespace RV.C15
open RV RV.Dict RV.DictParser

/-- a pure diamond with a repeated include: root → a, b, b ; a → c ; b → c ; c is a comment line -/
def fsPureDiamond : FS :=
  [(nmRoot, inc nmA ++ inc nmB ++ inc nmB), (nmA, inc [99]), (nmB, inc [99]), ([99], [35, 10])]

/-- the root's line 1 is refused (`X`), its line 2 is `$INCLUDE root`: a cycle that is never reached -/
def fsBadThenCycle : FS := [(nmRoot, [88, 10] ++ inc nmRoot)]

end RV.C15

namespace RV.DictParser
open RV RV.Dict RV.C15

theorem lines_root :
    Lex.lines (inc nmA ++ inc nmB ++ inc nmB) = ([incLine nmA, incLine nmB, incLine nmB], false) := by decide

theorem walk_diamond (ign : Bool) (fs : FS) (leaf : Bytes)
    (hr : fs.lookup nmRoot = some (inc nmA ++ inc nmB ++ inc nmB))
    (ha : fs.lookup nmA = some (inc [99])) (hb : fs.lookup nmB = some (inc [99]))
    (hc : fs.lookup [99] = some leaf)
    (hleaf : ∀ p st, ∃ st1,
      Walk Cfg.repaired ign fs p (Lex.lines leaf).2 (Lex.lines leaf).1 1 none st (none, st1)) :
    ∃ st', WalkFile Cfg.repaired ign fs nmRoot (none, st') := by
  have mid : ∀ x, ¬ ([99] : Bytes) ∈ [x, nmRoot] → ∀ st, ∃ st1, Walk Cfg.repaired ign fs [x, nmRoot]
      (Lex.lines (inc [99])).2 (Lex.lines (inc [99])).1 1 none st (none, st1) := by
    intro x hx st
    obtain ⟨s, hs⟩ := hleaf [[99], x, nmRoot] (st.opened [99])
    rw [lines_inc_c]
    exact ⟨_, Walk.incOk (n := [99]) (by decide) hc hx hs (Walk.done _ _ _)⟩
  obtain ⟨s1, h1⟩ := mid nmA (by decide) ((St.opened {} nmRoot).opened nmA)
  obtain ⟨s2, h2⟩ := mid nmB (by decide) (((s1.closed nmA).closed nmA).opened nmB)
  obtain ⟨s3, h3⟩ := mid nmB (by decide) (((s2.closed nmB).closed nmB).opened nmB)
  refine ⟨(s3.closed nmB).closed nmB, _, hr, ?_⟩
  rw [lines_root]
  exact Walk.incOk (n := nmA) (by decide) ha (by decide) h1
    (Walk.incOk (n := nmB) (by decide) hb (by decide) h2
      (Walk.incOk (n := nmB) (by decide) hb (by decide) h3 (Walk.done _ _ _)))

theorem fsPureDiamond_pure : PureIncludeFS fsPureDiamond := pureFSB_sound (by decide +kernel)

theorem walk_pureDiamond (ign : Bool) : ∃ st', WalkFile Cfg.repaired ign fsPureDiamond nmRoot (none, st') :=
  walk_diamond ign fsPureDiamond [35, 10] (by decide) (by decide) (by decide) (by decide) fun p st =>
    ⟨st, Walk.line (raw := [35]) (vb' := none) (st' := st) (by decide)
      (localStep_blank Cfg.repaired ign _ 1 none st [35] rfl (by decide)) (Walk.done _ _ _)⟩

theorem fsPureDiamond_ok (ign : Bool) : (parseFile Cfg.repaired ign fsPureDiamond nmRoot).1 = none := by
  obtain ⟨st', hw⟩ := walk_pureDiamond ign
  rw [walkFile_sound hw rfl]
  rfl

theorem fsPureDiamond_acyclic : ¬ HasCycle fsPureDiamond nmRoot :=
  (pure_graph_accepted_iff Cfg.repaired false fsPureDiamond nmRoot rfl rfl fsPureDiamond_pure (by decide)).mp
    (fsPureDiamond_ok false)

theorem localStep_value (cfg : Cfg) (ign : Bool) (file : Bytes) (lineNo : Nat) (st : St) :
    ∃ st', localStep cfg ign file lineNo none st (kwVALUE ++ [32, 65, 32, 118, 32, 49]) = .next none st' := by
  have h3 : (Lex.stripComment (kwVALUE ++ [32, 65, 32, 118, 32, 49])).isEmpty = false := by decide
  have h4 : Lex.fields (Lex.stripComment (kwVALUE ++ [32, 65, 32, 118, 32, 49])) = [kwVALUE, [65], [118], [49]] := by
    decide
  simp only [localStep, stepLine, h3, h4, List.isEmpty_cons, Bool.and_false, Bool.false_eq_true, if_false]
  exact ⟨_, rfl⟩

theorem fsDiamond_ok : (parseFile Cfg.repaired false fsDiamond nmRoot).1 = none := by
  obtain ⟨st', hw⟩ := walk_diamond false fsDiamond (kwVALUE ++ [32, 65, 32, 118, 32, 49, 10])
    (by decide) (by decide) (by decide) (by decide) fun p st => by
      obtain ⟨st1, h1⟩ := localStep_value Cfg.repaired false (p.headD []) 1 st
      exact ⟨st1, Walk.line (raw := kwVALUE ++ [32, 65, 32, 118, 32, 49]) (by decide) h1 (Walk.done _ _ _)⟩
  rw [walkFile_sound hw rfl]
  rfl

theorem fsDiamond_acyclic : ¬ HasCycle fsDiamond nmRoot :=
  parseFile_ok_acyclic Cfg.repaired false fsDiamond nmRoot rfl fsDiamond_ok

theorem lines_badThenCycle : Lex.lines ([88, 10] ++ inc nmRoot) = ([[88], incLine nmRoot], false) := by decide

theorem localStep_X (cfg : Cfg) (ign : Bool) (file : Bytes) (lineNo : Nat) (st : St) :
    localStep cfg ign file lineNo none st [88] = .fail (.decl .unknownLine file lineNo) st := by
  have h3 : (Lex.stripComment [88]).isEmpty = false := by decide
  have h4 : Lex.fields (Lex.stripComment [88]) = [[88]] := by decide
  simp only [localStep, stepLine, h3, h4, List.isEmpty_cons, Bool.and_false, Bool.false_eq_true, if_false]
  rfl

theorem walk_badThenCycle (ign : Bool) :
    WalkFile Cfg.repaired ign fsBadThenCycle nmRoot
      (some ⟨[nmRoot], 1, .badLine .unknownLine⟩, St.opened {} nmRoot) :=
  WalkFile.of_lines (text := [88, 10] ++ inc nmRoot) (by decide) lines_badThenCycle
    (Walk.bad (by decide) (localStep_X _ _ _ _ _))

theorem fsBadThenCycle_result (ign : Bool) :
    (parseFile Cfg.repaired ign fsBadThenCycle nmRoot).1 = some (.decl .unknownLine nmRoot 1) := by
  rw [walkFile_sound (walk_badThenCycle ign) rfl]
  rfl

theorem fsBadThenCycle_cyclic : HasCycle fsBadThenCycle nmRoot :=
  ⟨nmRoot, Or.inl rfl, .step ⟨[88, 10] ++ inc nmRoot, by decide, by decide⟩⟩

end RV.DictParser
