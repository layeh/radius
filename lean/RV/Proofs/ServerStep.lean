/- The machine of RV.Model.Server as a set of rules.  In this order: five lemmas about `List.set` / `++ [x]` / `filter`
   that the files of this group share; `activeDone` as a record update (`activeDone_eq`); the rules, one per branch
   of `step`, grouped by thread (`ServeStep`, `TaskStep`, `DownStep`, together `Step`), what the rules of a thread
   leave alone (`KeepsServes`, `KeepsTasks`, `KeepsDowns`), and `step_iff`; `run`; what no step changes
   (`step_shape`, `step_sd_mono`, `step_running_stable`); what a step appends to the log (`NewEv`, `step_log`) and
   which step an event of the log came from (`log_provenance`). -/
import RV.Model.Server
namespace RV.Server

theorem filter_set_length {α} (p : α → Bool) (l : List α) (i : Nat) (a b : α) (h : l[i]? = some a) :
    ((l.set i b).filter p).length + (if p a then 1 else 0) = (l.filter p).length + (if p b then 1 else 0) := by
  induction l generalizing i with
  | nil => simp at h
  | cons x xs ih =>
    cases i with
    | zero =>
      simp at h; subst h
      simp [List.filter_cons]
      split <;> split <;> simp <;> omega
    | succ n =>
      simp at h
      have := ih n h
      simp only [List.set_cons_succ, List.filter_cons]
      split <;> (try simp only [List.length_cons]) <;> omega

theorem getD_set {α} (l : List α) (i j : Nat) (a d : α) :
    (l.set i a).getD j d = if i = j ∧ i < l.length then a else l.getD j d := by
  simp only [List.getD_eq_getElem?_getD, List.getElem?_set]
  by_cases h : i = j
  · subst h
    by_cases h2 : i < l.length <;> simp [h2]
  · simp [h]

theorem lt_of_getElem?_eq_some {α} {l : List α} {i : Nat} {a : α} (h : l[i]? = some a) : i < l.length :=
  (List.getElem?_eq_some_iff.mp h).1

theorem getElem?_set_some {α} {l : List α} {i j : Nat} {a b : α} (h : (l.set i a)[j]? = some b) :
    (i = j ∧ a = b ∧ i < l.length) ∨ (i ≠ j ∧ l[j]? = some b) := by
  rw [List.getElem?_set] at h
  by_cases hij : i = j
  · simp only [hij, if_true] at h
    split at h
    · next hl => left; exact ⟨hij, Option.some.inj h, hij ▸ hl⟩
    · cases h
  · simp only [hij, if_false] at h
    right; exact ⟨hij, h⟩

theorem getElem?_append_singleton_some {α} {l : List α} {j : Nat} {x b : α}
    (h : (l ++ [x])[j]? = some b) : l[j]? = some b ∨ (j = l.length ∧ x = b) := by
  rw [List.getElem?_append] at h
  split at h
  · left; exact h
  · next hl =>
    right
    have : j - l.length = 0 := by
      by_cases h0 : j - l.length = 0
      · exact h0
      · have : ([x] : List α)[j - l.length]? = none := by
          apply List.getElem?_eq_none; simp; omega
        rw [this] at h; cases h
    rw [this] at h
    simp at h
    exact ⟨by omega, h⟩

/-- what `activeDone` appends to the log: the record of a second close of `lastActive` -/
def closeEv (s : St) : List Event := if s.active = 0 ∧ s.closes ≥ 1 then [.doubleClose] else []

theorem mem_closeEv {s : St} {e : Event} (h : e ∈ closeEv s) : e = .doubleClose := by
  unfold closeEv at h
  split at h
  · simpa using h
  · cases h

theorem activeDone_eq (s : St) :
    activeDone s = { s with active := s.active - 1,
                            closes := if s.active = 0 then s.closes + 1 else s.closes,
                            log := s.log ++ closeEv s } := by
  unfold activeDone closeEv
  by_cases h : s.active = 0
  · by_cases hc : s.closes ≥ 1 <;> simp [h, hc]
  · have : ¬ s.active - 1 = -1 := by omega
    simp [h, this]

/-- a running Serve call returns with result `r`: the deferred cleanup (unregister, `activeDone`) -/
def serveLeave (s : St) (i : Nat) (r : ServeRes) : St :=
  activeDone { s with serves := s.serves.set i (.returned r),
                      listeners := s.listeners.set (s.connOf.getD i 0) (s.listeners.getD (s.connOf.getD i 0) 0 - 1),
                      log := s.log ++ [.serveReturned i] }

/-- the rules of a `Serve` call, the read that returns a datagram apart -/
inductive ServeStep (cfg : Cfg) (s : St) : Label → St → Prop
  | refuse {i : Nat} : s.serves[i]? = some .notStarted → s.sd = true →
      ServeStep cfg s (.serveEnter i)
        { s with serves := s.serves.set i (.returned .errShutdown), log := s.log ++ [.serveReturned i] }
  | enter {i : Nat} : s.serves[i]? = some .notStarted → s.sd = false → cfg.variant = .fixed →
      ServeStep cfg s (.serveEnter i)
        { s with listeners := s.listeners.set (s.connOf.getD i 0) (s.listeners.getD (s.connOf.getD i 0) 0 + 1),
                 serves := s.serves.set i .running, active := s.active + 1 }
  | register {i : Nat} : s.serves[i]? = some .notStarted → s.sd = false → cfg.variant = .current →
      ServeStep cfg s (.serveEnter i)
        { s with listeners := s.listeners.set (s.connOf.getD i 0) (s.listeners.getD (s.connOf.getD i 0) 0 + 1),
                 serves := s.serves.set i .registered }
  | count {i : Nat} : s.serves[i]? = some .registered →
      ServeStep cfg s (.serveCount i) { s with serves := s.serves.set i .running, active := s.active + 1 }
  | readErr {i : Nat} : s.serves[i]? = some .running → s.connClosed.getD (s.connOf.getD i 0) 0 > 0 →
      s.sd = true → ServeStep cfg s (.serveReadErr i) (serveLeave s i .errShutdown)
  | failShutdown {i : Nat} {k : ReadErrKind} : s.serves[i]? = some .running → s.sd = true →
      ServeStep cfg s (.serveReadFail i k) (serveLeave s i .errShutdown)
  | failFatal {i : Nat} : s.serves[i]? = some .running → s.sd = false →
      ServeStep cfg s (.serveReadFail i .nonTemporary) (serveLeave s i .readError)
  | failRetry {i : Nat} : s.serves[i]? = some .running → s.sd = false →
      ServeStep cfg s (.serveReadFail i .other) s

/-- the rules of a datagram goroutine, from the read that spawns it -/
inductive TaskStep (H : Hash) (cfg : Cfg) (s : St) : Label → St → Prop
  | recv {i peer : Nat} {d : Bytes} : s.serves[i]? = some .running →
      s.connClosed.getD (s.connOf.getD i 0) 0 = 0 → TaskStep H cfg s (.serveRecv i peer d) (spawn H cfg s i peer d)
  | handle {t i : Nat} {key : Key} {p : Packet} : s.tasks[t]? = some ⟨i, .spawned (.handle key p)⟩ →
      key ∉ s.inflight.getD i [] →
      TaskStep H cfg s (.taskRun t)
        { s with tasks := s.tasks.set t ⟨i, .inHandler key⟩,
                 inflight := s.inflight.set i (key :: s.inflight.getD i []),
                 log := s.log ++ [.request t p (s.peerOf t) (s.connOf.getD i 0) .server, .handlerStart t key] }
  | drop {t i : Nat} {fate : Fate} : s.tasks[t]? = some ⟨i, .spawned fate⟩ →
      (¬ ∃ key p, fate = .handle key p ∧ key ∉ s.inflight.getD i []) →
      TaskStep H cfg s (.taskRun t)
        (activeDone { s with tasks := s.tasks.set t ⟨i, .done⟩, log := s.log ++ [.dropped t] })
  | finish {t i : Nat} {key : Key} : s.tasks[t]? = some ⟨i, .inHandler key⟩ →
      TaskStep H cfg s (.taskFinish t)
        (activeDone { s with tasks := s.tasks.set t ⟨i, .done⟩,
                             inflight := s.inflight.set i ((s.inflight.getD i []).erase key),
                             log := s.log ++ [.handlerEnd t] })
  | reply {t i : Nat} {key : Key} {p : Packet} {w : Bytes} {code : Int} {attrs : Attrs} :
      s.tasks[t]? = some ⟨i, .inHandler key⟩ → s.packetOf H cfg t = some p →
      encode H { response p code with attrs := attrs } = .ok w →
      TaskStep H cfg s (.taskReply t code attrs)
        { s with log := s.log ++ [.reply t (s.connOf.getD i 0) (s.peerOf t) w] }

/-- the rules of a `Shutdown` call and of its caller's context (`ctxExpire`) -/
inductive DownStep (s : St) : Label → St → Prop
  | downLate {j : Nat} {c : Bool} : s.downs[j]? = some ⟨.notStarted, c⟩ → s.sd = true →
      DownStep s (.downEnter j) { s with downs := s.downs.set j ⟨.waiting, c⟩ }
  | shutdown {j : Nat} {c : Bool} : s.downs[j]? = some ⟨.notStarted, c⟩ → s.sd = false →
      DownStep s (.downEnter j)
        (activeDone { s with
          downs := s.downs.set j ⟨.waiting, c⟩
          sd := true
          ctxCancelled := true
          connClosed := (List.range s.connClosed.length).map
            (fun c => s.connClosed.getD c 0 + (if s.listeners.getD c 0 > 0 then 1 else 0))
          log := s.log ++ ((List.range s.listeners.length).filter
            (fun c => s.listeners.getD c 0 > 0)).map .listenerClosed })
  | returnNil {j : Nat} {c : Bool} : s.downs[j]? = some ⟨.waiting, c⟩ → s.closes ≥ 1 →
      DownStep s (.downReturnNil j)
        { s with downs := s.downs.set j ⟨.returned .nil, c⟩, log := s.log ++ [.downReturned j .nil] }
  | returnCtx {j : Nat} : s.downs[j]? = some ⟨.waiting, true⟩ →
      DownStep s (.downReturnCtx j)
        { s with downs := s.downs.set j ⟨.returned .ctxErr, true⟩, log := s.log ++ [.downReturned j .ctxErr] }
  | expire {j : Nat} {pc : DownPc} : s.downs[j]? = some ⟨pc, false⟩ →
      DownStep s (.ctxExpire j) { s with downs := s.downs.set j ⟨pc, true⟩ }

/-- `Step H cfg s l s'`: label `l` is enabled in `s` and leads to `s'` — one rule per branch of `step`
    (`step_iff`) -/
inductive Step (H : Hash) (cfg : Cfg) (s : St) (l : Label) (s' : St) : Prop
  | serve : ServeStep cfg s l s' → Step H cfg s l s'
  | task : TaskStep H cfg s l s' → Step H cfg s l s'
  | down : DownStep s l s' → Step H cfg s l s'

/-- what the rules of the other threads leave alone -/
structure KeepsServes (s s' : St) : Prop where
  serves : s'.serves = s.serves
  listeners : s'.listeners = s.listeners

structure KeepsTasks (s s' : St) : Prop where
  tasks : s'.tasks = s.tasks
  inflight : s'.inflight = s.inflight
  origin : s'.origin = s.origin

structure KeepsDowns (s s' : St) : Prop where
  downs : s'.downs = s.downs
  sd : s'.sd = s.sd
  ctxCancelled : s'.ctxCancelled = s.ctxCancelled
  connClosed : s'.connClosed = s.connClosed

theorem ServeStep.keepsTasks {cfg : Cfg} {s s' : St} {l : Label} (h : ServeStep cfg s l s') : KeepsTasks s s' := by
  cases h <;> refine ⟨?_, ?_, ?_⟩ <;> first | rfl | rw [serveLeave, activeDone_eq]

theorem ServeStep.keepsDowns {cfg : Cfg} {s s' : St} {l : Label} (h : ServeStep cfg s l s') : KeepsDowns s s' := by
  cases h <;> refine ⟨?_, ?_, ?_, ?_⟩ <;> first | rfl | rw [serveLeave, activeDone_eq]

theorem TaskStep.keepsServes {H : Hash} {cfg : Cfg} {s s' : St} {l : Label} (h : TaskStep H cfg s l s') :
    KeepsServes s s' := by
  cases h <;> refine ⟨?_, ?_⟩ <;> first | rfl | rw [activeDone_eq]

theorem TaskStep.keepsDowns {H : Hash} {cfg : Cfg} {s s' : St} {l : Label} (h : TaskStep H cfg s l s') :
    KeepsDowns s s' := by
  cases h <;> refine ⟨?_, ?_, ?_, ?_⟩ <;> first | rfl | rw [activeDone_eq]

theorem DownStep.keepsServes {s s' : St} {l : Label} (h : DownStep s l s') : KeepsServes s s' := by
  cases h <;> refine ⟨?_, ?_⟩ <;> first | rfl | rw [activeDone_eq]

theorem DownStep.keepsTasks {s s' : St} {l : Label} (h : DownStep s l s') : KeepsTasks s s' := by
  cases h <;> refine ⟨?_, ?_, ?_⟩ <;> first | rfl | rw [activeDone_eq]

theorem step_iff {H : Hash} {cfg : Cfg} {s s' : St} {l : Label} :
    step H cfg s l = some s' ↔ Step H cfg s l s' := by
  constructor
  · -- one goal per enabled branch of `step`, in the order of its definition; each is closed by the rule named,
    -- whose label and post-state Lean checks against the branch (a shifted bullet does not typecheck)
    fun_cases step H cfg s l <;> intro h <;> first | (cases h; done) | rw [← Option.some.inj h]
    · exact .serve (.refuse ‹_› ‹_›)  -- `serveEnter`, flag set
    · exact .serve (.enter ‹_› (Bool.eq_false_iff.mpr ‹_›) ‹_›)  -- `serveEnter`, `.fixed`
    · exact .serve (.register ‹_› (Bool.eq_false_iff.mpr ‹_›) ‹_›)  -- `serveEnter`, `.current`
    · exact .serve (.count ‹_›)  -- `serveCount`
    · exact .task (.recv ‹_› (Nat.eq_zero_of_not_pos ‹_›))  -- `serveRecv`, conn open
    · exact .serve (.readErr ‹_› ‹_ ∧ _›.1 ‹_ ∧ _›.2)  -- `serveReadErr`
    · exact .serve (.failShutdown ‹_› ‹_›)  -- `serveReadFail`, flag set
    · exact .serve (.failFatal ‹_› (Bool.eq_false_iff.mpr ‹_›))  -- `serveReadFail`, non-temporary
    · -- `serveReadFail`, any other error
      rename_i k _ _ hk
      cases k
      · exact absurd rfl hk
      · exact .serve (.failRetry ‹_› (Bool.eq_false_iff.mpr ‹_›))
    · -- `taskRun`, key in flight
      refine .task (.drop ‹_› ?_)
      rintro ⟨_, _, he, hn⟩
      cases he
      exact hn (List.contains_iff_mem.mp ‹_›)
    · exact .task (.handle ‹_› fun hm => ‹¬ _› (List.contains_iff_mem.mpr hm))  -- `taskRun`, key free
    · -- `taskRun`, datagram not handed on
      rename_i hne
      exact .task (.drop ‹_› fun ⟨k, p, he, _⟩ => hne k p he)
    · exact .task (.finish ‹_›)  -- `taskFinish`
    · exact .task (.reply ‹_› ‹_› ‹_›)  -- `taskReply`
    · exact .down (.downLate ‹_› ‹_›)  -- `downEnter`, flag set
    · exact .down (.shutdown ‹_› (Bool.eq_false_iff.mpr ‹_›))  -- `downEnter`, first
    · exact .down (.returnNil ‹_› ‹_›)  -- `downReturnNil`
    · exact .down (.returnCtx ‹_›)  -- `downReturnCtx`
    · exact .down (.expire ‹_›)  -- `ctxExpire`
  · intro h
    cases h with
    | serve h =>
      cases h with
      | refuse hs hsd => simp only [step, hs, hsd, if_true]
      | enter hs hsd hv => simp only [step, hs, hsd, hv]; rfl
      | register hs hsd hv => simp only [step, hs, hsd, hv]; rfl
      | count hs => simp only [step, hs]; rfl
      | readErr hs hc hsd => simp only [step, hs]; rw [if_pos ⟨hc, hsd⟩]; rfl
      | failShutdown hs hsd => simp only [step, hs]; rw [if_pos hsd]; rfl
      | failFatal hs hsd => simp [step, hs, hsd, serveLeave]
      | failRetry hs hsd => simp [step, hs, hsd]
    | task h =>
      cases h with
      | recv hs hc => simp only [step, hs, hc]; rfl
      | handle hs hk => simp only [step, hs]; rw [if_neg (by simpa using hk)]
      | @drop t i fate hs hn =>
        simp only [step, hs]
        cases fate with
        | handle key p =>
          have : key ∈ s.inflight.getD i [] := Classical.not_not.mp fun hk => hn ⟨key, p, rfl, hk⟩
          simp only [List.contains_iff_mem, this, if_true]
        | _ => rfl
      | finish hs => simp only [step, hs]
      | reply hs hp hw => simp only [step, hs, hp, hw]
    | down h =>
      cases h with
      | downLate hs hsd => simp only [step, hs, hsd, if_true]
      | shutdown hs hsd => simp only [step, hs, hsd]; rfl
      | returnNil hs hc => simp only [step, hs]; rw [if_pos hc]
      | returnCtx hs => simp only [step, hs]
      | expire hs => simp only [step, hs]

theorem ServeStep.step {H : Hash} {cfg : Cfg} {s s' : St} {l : Label} (h : ServeStep cfg s l s') :
    step H cfg s l = some s' := step_iff.mpr (.serve h)

theorem TaskStep.step {H : Hash} {cfg : Cfg} {s s' : St} {l : Label} (h : TaskStep H cfg s l s') :
    step H cfg s l = some s' := step_iff.mpr (.task h)

theorem DownStep.step {H : Hash} {cfg : Cfg} {s s' : St} {l : Label} (h : DownStep s l s') :
    step H cfg s l = some s' := step_iff.mpr (.down h)

/-- inversion at a goroutine's label without going through the other threads' rules (used where a proof has the
    label in hand: `C06.handler_iff`, `C07.no_step_increases`) -/
theorem taskStep_of_step {H : Hash} {cfg : Cfg} {s s' : St} {l : Label} (hs : step H cfg s l = some s')
    (hl : (∃ t, l = .taskRun t) ∨ (∃ i peer d, l = .serveRecv i peer d)) : TaskStep H cfg s l s' := by
  cases step_iff.mp hs with
  | task h => exact h
  | serve h => rcases hl with ⟨t, rfl⟩ | ⟨i, peer, d, rfl⟩ <;> cases h
  | down h => rcases hl with ⟨t, rfl⟩ | ⟨i, peer, d, rfl⟩ <;> cases h

theorem step_serveRecv_eq (H : Hash) (cfg : Cfg) (s : St) (i peer : Nat) (d : Bytes) :
    step H cfg s (.serveRecv i peer d) =
      if s.serves[i]? = some .running ∧ s.connClosed.getD (s.connOf.getD i 0) 0 = 0
      then some (spawn H cfg s i peer d) else none := by
  by_cases hc : s.serves[i]? = some .running ∧ s.connClosed.getD (s.connOf.getD i 0) 0 = 0
  · rw [if_pos hc]; exact (TaskStep.recv hc.1 hc.2).step
  · rw [if_neg hc]
    cases hs : step H cfg s (.serveRecv i peer d) with
    | none => rfl
    | some s' =>
      cases taskStep_of_step hs (.inr ⟨_, _, _, rfl⟩) with
      | recv h1 h2 => exact absurd ⟨h1, h2⟩ hc

theorem run_append (H : Hash) (cfg : Cfg) (s : St) (l1 l2 : List Label) :
    run H cfg s (l1 ++ l2) = run H cfg (run H cfg s l1) l2 := by
  induction l1 generalizing s with
  | nil => rfl
  | cons l ls ih =>
    simp only [List.cons_append, run]
    split <;> exact ih _

theorem run_preserves (H : Hash) (cfg : Cfg) (P : St → Prop)
    (hstep : ∀ s l s', P s → step H cfg s l = some s' → P s') :
    ∀ ls s, P s → P (run H cfg s ls) := by
  intro ls
  induction ls with
  | nil => intro s h; exact h
  | cons l ls ih =>
    intro s h
    simp only [run]
    split
    · next s' hs => exact ih _ (hstep s l s' h hs)
    · exact ih _ h

/-- the conns and all index ranges are those of the initial state: what `InvG.len`, `InvF.lenC/lenL/connB`, `Inv2.len`
    and `connOf_run` rest on -/
theorem step_shape {H : Hash} {cfg : Cfg} {s s' : St} {l : Label} (h : step H cfg s l = some s') :
    s'.connOf = s.connOf ∧ s'.serves.length = s.serves.length ∧ s'.listeners.length = s.listeners.length ∧
    s'.connClosed.length = s.connClosed.length ∧ s'.inflight.length = s.inflight.length := by
  cases step_iff.mp h with
  | serve h => cases h <;> simp only [serveLeave, activeDone_eq, List.length_set, and_self]
  | task h => cases h <;> simp only [activeDone_eq, spawn, activeAdd, List.length_set, and_self]
  | down h => cases h <;> simp only [activeDone_eq, List.length_map, List.length_range, and_self]

theorem step_sd_mono {H : Hash} {cfg : Cfg} {s s' : St} {l : Label} (hs : step H cfg s l = some s') :
    (s.sd = true → s'.sd = true) ∧ ((∀ j, l ≠ .downEnter j) → s'.sd = s.sd) := by
  cases step_iff.mp hs with
  | serve h => rw [h.keepsDowns.sd]; exact ⟨id, fun _ => rfl⟩
  | task h => rw [h.keepsDowns.sd]; exact ⟨id, fun _ => rfl⟩
  | down h =>
    cases h with
    | downLate | returnNil | returnCtx | expire => exact ⟨id, fun _ => rfl⟩
    | shutdown => rw [activeDone_eq]; exact ⟨fun _ => rfl, fun hl => absurd rfl (hl _)⟩

/-- A Serve call in its read loop leaves it only by a `serveReadErr` / `serveReadFail` step of its own: no
    other thread's step, and no datagram of its own, ends it. -/
theorem step_running_stable {H : Hash} {cfg : Cfg} {s s' : St} {l : Label} (hs : step H cfg s l = some s')
    {i : Nat} (hi : s.serves[i]? = some .running) (hl : l ≠ .serveReadErr i ∧ ∀ k, l ≠ .serveReadFail i k) :
    s'.serves[i]? = some .running := by
  -- a call that is not running is another call
  have enter : ∀ {j : Nat} {a : ServePc} (b : ServePc), s.serves[j]? = some a → a ≠ .running →
      (s.serves.set j b)[i]? = some .running := by
    intro j a b hj ha
    have : j ≠ i := by
      intro e; subst e; rw [hj] at hi; cases hi; exact ha rfl
    rw [List.getElem?_set_ne this]; exact hi
  have leave : ∀ j r, j ≠ i → (serveLeave s j r).serves[i]? = some .running := by
    intro j r hne
    simp only [serveLeave, activeDone_eq]
    rw [List.getElem?_set_ne hne]; exact hi
  cases step_iff.mp hs with
  | serve h =>
    cases h with
    | refuse hj | enter hj | register hj | count hj => exact enter _ hj (by simp)
    | readErr => exact leave _ _ fun e => hl.1 (by rw [e])
    | failShutdown | failFatal => exact leave _ _ fun e => hl.2 _ (by rw [e])
    | failRetry => exact hi
  | task h => rw [h.keepsServes.serves]; exact hi
  | down h => rw [h.keepsServes.serves]; exact hi

/-- the events a step with label `l` may append to the log, given the state `s` it is taken in -/
def NewEv (H : Hash) (cfg : Cfg) (s : St) (l : Label) (e : Event) : Prop :=
  e = .doubleClose ∨
  match l with
  | .serveEnter i | .serveReadErr i | .serveReadFail i _ => e = .serveReturned i
  | .serveRecv i peer d => e = .recv s.tasks.length i peer d
  | .taskRun t => e = .dropped t ∨
      ∃ i key p, s.tasks[t]? = some (⟨i, .spawned (.handle key p)⟩ : Task) ∧ key ∉ s.inflight.getD i [] ∧
        (e = .request t p (s.peerOf t) (s.connOf.getD i 0) .server ∨ e = .handlerStart t key)
  | .taskFinish t => e = .handlerEnd t
  | .taskReply t code attrs => ∃ i key p w, s.tasks[t]? = some (⟨i, .inHandler key⟩ : Task) ∧
      s.packetOf H cfg t = some p ∧ encode H { response p code with attrs := attrs } = .ok w ∧
      e = .reply t (s.connOf.getD i 0) (s.peerOf t) w
  | .downEnter _ => ∃ c, e = .listenerClosed c
  | .downReturnNil j => e = .downReturned j .nil
  | .downReturnCtx j => e = .downReturned j .ctxErr
  | .serveCount _ | .ctxExpire _ => False

theorem step_log {H : Hash} {cfg : Cfg} {s s' : St} {l : Label} (h : step H cfg s l = some s') :
    ∃ evs, s'.log = s.log ++ evs ∧ ∀ e ∈ evs, NewEv H cfg s l e := by
  -- the events of the rule, then what `activeDone` adds
  have done : ∀ (s0 : St) (evs : List Event), s0.log = s.log ++ evs → (∀ e ∈ evs, NewEv H cfg s l e) →
      ∃ evs', (activeDone s0).log = s.log ++ evs' ∧ ∀ e ∈ evs', NewEv H cfg s l e := by
    intro s0 evs h0 hev
    refine ⟨evs ++ closeEv s0, by rw [activeDone_eq, ← List.append_assoc, ← h0], fun e he => ?_⟩
    rcases List.mem_append.mp he with he | he
    · exact hev e he
    · exact Or.inl (mem_closeEv he)
  have one : ∀ ev, NewEv H cfg s l ev → ∀ e ∈ [ev], NewEv H cfg s l e :=
    fun ev hev e he => by rw [List.mem_singleton.mp he]; exact hev
  cases step_iff.mp h with
  | serve h =>
    cases h with
    | refuse => exact ⟨[.serveReturned _], rfl, one _ (Or.inr rfl)⟩
    | readErr | failShutdown | failFatal => exact done _ [.serveReturned _] rfl (one _ (Or.inr rfl))
    | _ => exact ⟨[], (List.append_nil _).symm, fun _ he => nomatch he⟩
  | task h =>
    cases h with
    | recv => exact ⟨[.recv s.tasks.length _ _ _], rfl, one _ (Or.inr rfl)⟩
    | handle ht hk =>
      refine ⟨_, rfl, fun e he => Or.inr (Or.inr ⟨_, _, _, ht, hk, ?_⟩)⟩
      simpa using he
    | drop => exact done _ [.dropped _] rfl (one _ (Or.inr (Or.inl rfl)))
    | finish => exact done _ [.handlerEnd _] rfl (one _ (Or.inr rfl))
    | reply ht hp hw =>
      refine ⟨_, rfl, fun e he => Or.inr ⟨_, _, _, _, ht, hp, hw, ?_⟩⟩
      simpa using he
  | down h =>
    cases h with
    | shutdown =>
      refine done _ _ rfl fun e he => Or.inr ?_
      obtain ⟨c, _, rfl⟩ := List.mem_map.mp he
      exact ⟨c, rfl⟩
    | returnNil => exact ⟨[.downReturned _ .nil], rfl, one _ (Or.inr rfl)⟩
    | returnCtx => exact ⟨[.downReturned _ .ctxErr], rfl, one _ (Or.inr rfl)⟩
    | _ => exact ⟨[], (List.append_nil _).symm, fun _ he => nomatch he⟩

theorem run_log_mono (H : Hash) (cfg : Cfg) (e : Event) (ls : List Label) (s : St) (h : e ∈ s.log) :
    e ∈ (run H cfg s ls).log :=
  run_preserves H cfg (e ∈ ·.log)
    (fun _ _ _ h hs => by obtain ⟨evs, hl, _⟩ := step_log hs; rw [hl]; exact List.mem_append_left _ h) ls s h

/-- Provenance: an event of the log that was not there initially was appended by one step of the
    schedule — the schedule splits at that step, the event is absent before it and `NewEv` holds.  The trace
    theorems of C06 use it to name the step a `recv`, `handlerStart` or `reply` event came from. -/
theorem log_provenance (H : Hash) (cfg : Cfg) (e : Event) :
    ∀ (ls : List Label) (s0 : St), e ∈ (run H cfg s0 ls).log → e ∉ s0.log →
      ∃ ls1 l ls2 s', ls = ls1 ++ l :: ls2 ∧ step H cfg (run H cfg s0 ls1) l = some s' ∧
        e ∉ (run H cfg s0 ls1).log ∧ NewEv H cfg (run H cfg s0 ls1) l e := by
  intro ls
  induction ls with
  | nil => intro s0 h hn; exact absurd h hn
  | cons l ls ih =>
    intro s0 h hn
    simp only [run] at h
    split at h
    · next s' hs =>
      by_cases hm : e ∈ s'.log
      · obtain ⟨evs, hl, hev⟩ := step_log hs
        rw [hl] at hm
        rcases List.mem_append.mp hm with hm | hm
        · exact absurd hm hn
        · exact ⟨[], l, ls, s', rfl, hs, hn, hev e hm⟩
      · obtain ⟨ls1, l', ls2, s'', he, hst, hne, hnew⟩ := ih s' h hm
        refine ⟨l :: ls1, l', ls2, s'', by simp [he], ?_, ?_, ?_⟩ <;> simp only [run, hs] <;> assumption
    · next hs =>
      obtain ⟨ls1, l', ls2, s'', he, hst, hne, hnew⟩ := ih s0 h hn
      refine ⟨l :: ls1, l', ls2, s'', by simp [he], ?_, ?_, ?_⟩ <;> simp only [run, hs] <;> assumption

theorem newEv_recv {H : Hash} {cfg : Cfg} {s : St} {l : Label} {t i peer : Nat} {d : Bytes}
    (h : NewEv H cfg s l (.recv t i peer d)) : l = .serveRecv i peer d ∧ t = s.tasks.length := by
  cases l <;> simp only [NewEv, reduceCtorEq, false_or, or_false, exists_false, and_false] at h
  cases h
  exact ⟨rfl, rfl⟩

theorem newEv_handlerStart {H : Hash} {cfg : Cfg} {s : St} {l : Label} {t : Nat} {key : Key}
    (h : NewEv H cfg s l (.handlerStart t key)) :
    l = .taskRun t ∧ ∃ i p, s.tasks[t]? = some (⟨i, .spawned (.handle key p)⟩ : Task) ∧ key ∉ s.inflight.getD i [] := by
  cases l <;> simp only [NewEv, reduceCtorEq, false_or, or_false, exists_false, and_false] at h
  obtain ⟨i, k, p, h1, h2, h3⟩ := h
  cases h3
  exact ⟨rfl, i, p, h1, h2⟩

theorem newEv_reply {H : Hash} {cfg : Cfg} {s : St} {l : Label} {t conn addr : Nat} {w : Bytes}
    (h : NewEv H cfg s l (.reply t conn addr w)) :
    ∃ code attrs, l = .taskReply t code attrs ∧ ∃ i key, s.tasks[t]? = some (⟨i, .inHandler key⟩ : Task) := by
  cases l <;> simp only [NewEv, reduceCtorEq, false_or, or_false, exists_false, and_false] at h
  obtain ⟨i, key, _, _, h1, _, _, h2⟩ := h
  cases h2
  exact ⟨_, _, rfl, i, key, h1⟩

end RV.Server
