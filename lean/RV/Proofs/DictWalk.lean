/-
  C15, completeness side.  The `$INCLUDE` walk as a specification, and the repaired parser (`cfg.includePath = true`) against it.
  In this order: `Walk` / `WalkFile`, a big-step relation that mentions neither `includeWith` nor
  `parseFileFix`, up to the first `Fault`; the parser computes it (`walk_sound`), it is total and
  deterministic, so the parser's outcome IS the first fault (`parseFile_eq_walk`); the shape of a fault
  (`Fault.WellFormed`, `walk_fault_wf`); opener logs of both include rules (`Nested`) and of a failing
  walk (`Unwound`, `walk_log`); what a reported RecursiveInclude means; pure include graphs.
  Witnesses and the decidable test for pure graphs: RV.Proofs.DictWalkWitness.
-/
import RV.Proofs.DictInclude

namespace RV.DictParser
open RV RV.Dict RV.C15

/-- what the walk can meet (classification on the SPEC side, independent of what is reported) -/
inductive FaultKind where
  /-- a line too long for the scanner (met at the end of the delivered lines) -/
  | scannerError
  /-- end of file inside a vendor block -/
  | unclosedBlock
  /-- a line refused where it stands -/
  | badLine (c : ErrClass)
  /-- `$INCLUDE n`, the opener fails -/
  | includeMissing (n : Bytes)
  /-- `$INCLUDE n`, `n` is on the include path: THE CYCLE -/
  | includeOnPath (n : Bytes)
deriving DecidableEq, Repr

structure Fault where
  /-- include path at the moment of the fault, innermost (the file in which the fault lies) first,
      root last -/
  path : List Bytes
  /-- 1-based line in `path.head` (for `scannerError`: the number of the line that did not fit) -/
  line : Nat
  kind : FaultKind
deriving DecidableEq, Repr

/-- what the parser must report for a fault -/
def Fault.report (f : Fault) : Failure :=
  match f.kind with
  | .scannerError => .scanner
  | .unclosedBlock => .decl .unclosedVendorBlock (f.path.headD []) f.line
  | .badLine c => .decl c (f.path.headD []) f.line
  | .includeMissing n => .openErr (f.path.headD []) f.line n
  | .includeOnPath n => .recursive (f.path.headD []) f.line n

/-- The walk, depth first, in line order, up to its first fault.
    `Walk cfg ign fs path tooLong ls lineNo vb st r`: the file `path.headD []` (the head of the include
    path `path`) has the lines `ls` left, the first of them is line `lineNo`, the scanner will stop
    with an error after them iff `tooLong`, the open vendor block is `vb`, the state is `st`; the walk
    of these lines (and of everything they include) ends in `r`: no fault, or the first fault, and the
    state then. -/
inductive Walk (cfg : Cfg) (ign : Bool) (fs : FS) :
    List Bytes → Bool → List Bytes → Nat → Option Bytes → St → Option Fault × St → Prop where
  /-- end of the lines, no block open, scanner content -/
  | done (path : List Bytes) (lineNo : Nat) (st : St) :
      Walk cfg ign fs path false [] lineNo none st (none, st)
  /-- end of the delivered lines, the scanner stopped on a line that is too long -/
  | scanErr (path : List Bytes) (lineNo : Nat) (vb : Option Bytes) (st : St) :
      Walk cfg ign fs path true [] lineNo vb st (some ⟨path, lineNo, .scannerError⟩, st)
  /-- end of the lines inside a vendor block -/
  | unclosed (path : List Bytes) (lineNo : Nat) (v : Bytes) (st : St) :
      Walk cfg ign fs path false [] lineNo (some v) st (some ⟨path, lineNo - 1, .unclosedBlock⟩, st)
  /-- a line that performs no include and is accepted -/
  | line {path : List Bytes} {tooLong : Bool} {raw : Bytes} {ls : List Bytes} {lineNo : Nat}
      {vb vb' : Option Bytes} {st st' : St} {r : Option Fault × St}
      (hT : includeTarget vb raw = none)
      (hs : localStep cfg ign (path.headD []) lineNo vb st raw = .next vb' st')
      (hrest : Walk cfg ign fs path tooLong ls (lineNo + 1) vb' st' r) :
      Walk cfg ign fs path tooLong (raw :: ls) lineNo vb st r
  /-- a line that performs no include and is refused (`st'` is `st`: `localStep_fail_inv`) -/
  | bad {path : List Bytes} {tooLong : Bool} {raw : Bytes} {ls : List Bytes} {lineNo : Nat}
      {vb : Option Bytes} {st st' : St} {c : ErrClass}
      (hT : includeTarget vb raw = none)
      (hs : localStep cfg ign (path.headD []) lineNo vb st raw = .fail (.decl c (path.headD []) lineNo) st') :
      Walk cfg ign fs path tooLong (raw :: ls) lineNo vb st (some ⟨path, lineNo, .badLine c⟩, st')
  /-- `$INCLUDE n`, no such file -/
  | missing {path : List Bytes} {tooLong : Bool} {raw : Bytes} {ls : List Bytes} {lineNo : Nat}
      {vb : Option Bytes} {st : St} {n : Bytes}
      (hT : includeTarget vb raw = some n) (hl : fs.lookup n = none) :
      Walk cfg ign fs path tooLong (raw :: ls) lineNo vb st (some ⟨path, lineNo, .includeMissing n⟩, st)
  /-- `$INCLUDE n`, `n` exists and is on the include path: it is opened, found on the path, closed -/
  | onPath {path : List Bytes} {tooLong : Bool} {raw : Bytes} {ls : List Bytes} {lineNo : Nat}
      {vb : Option Bytes} {st : St} {n t : Bytes}
      (hT : includeTarget vb raw = some n) (hl : fs.lookup n = some t) (hp : n ∈ path) :
      Walk cfg ign fs path tooLong (raw :: ls) lineNo vb st
        (some ⟨path, lineNo, .includeOnPath n⟩, (st.opened n).closed n)
  /-- `$INCLUDE n`, `n` exists and is not on the path, its walk meets no fault: closed (twice), go on
      (outside a vendor block: an include is only performed with `vb = none`) -/
  | incOk {path : List Bytes} {tooLong : Bool} {raw : Bytes} {ls : List Bytes} {lineNo : Nat}
      {vb : Option Bytes} {st st1 : St} {n t : Bytes} {r : Option Fault × St}
      (hT : includeTarget vb raw = some n) (hl : fs.lookup n = some t) (hp : ¬ n ∈ path)
      (hin : Walk cfg ign fs (n :: path) (Lex.lines t).2 (Lex.lines t).1 1 none (st.opened n) (none, st1))
      (hrest : Walk cfg ign fs path tooLong ls (lineNo + 1) none ((st1.closed n).closed n) r) :
      Walk cfg ign fs path tooLong (raw :: ls) lineNo vb st r
  /-- `$INCLUDE n`, `n` exists and is not on the path, its walk meets a fault: closed (once), stop -/
  | incFail {path : List Bytes} {tooLong : Bool} {raw : Bytes} {ls : List Bytes} {lineNo : Nat}
      {vb : Option Bytes} {st st1 : St} {n t : Bytes} {f : Fault}
      (hT : includeTarget vb raw = some n) (hl : fs.lookup n = some t) (hp : ¬ n ∈ path)
      (hin : Walk cfg ign fs (n :: path) (Lex.lines t).2 (Lex.lines t).1 1 none (st.opened n) (some f, st1)) :
      Walk cfg ign fs path tooLong (raw :: ls) lineNo vb st (some f, st1.closed n)

/-- the walk of a whole root file: it is opened (by `ParseFile`), then walked from line 1 -/
def WalkFile (cfg : Cfg) (ign : Bool) (fs : FS) (root : Bytes) (r : Option Fault × St) : Prop :=
  ∃ text, fs.lookup root = some text ∧
    Walk cfg ign fs [root] (Lex.lines text).2 (Lex.lines text).1 1 none (St.opened {} root) r

/-- the `$INCLUDE` closure `parseFileFix` runs while the include path is `path` -/
def fixHandler (cfg : Cfg) (ign : Bool) (fs : FS) (path : List Bytes) : IncludeHandler :=
  includeWith fs (fun n => path.contains n) fun name t _ _ st1 =>
    parseFileFix cfg ign fs (name :: path) name t st1

theorem parseFileFix_eq (cfg : Cfg) (ign : Bool) (fs : FS) (path : List Bytes) (file text : Bytes) (st : St) :
    parseFileFix cfg ign fs path file text st
      = parseLines cfg ign (fixHandler cfg ign fs path) file (Lex.lines text).2 (Lex.lines text).1 1 none st := by
  rw [parseFileFix]
  rfl

theorem fixHandler_none (cfg : Cfg) (ign : Bool) (fs : FS) (path : List Bytes) (n file : Bytes) (lineNo : Nat)
    (st : St) (hl : fs.lookup n = none) :
    fixHandler cfg ign fs path n file lineNo st = (some (.openErr file lineNo n), st) :=
  includeWith_none fs _ _ n file lineNo st hl

theorem fixHandler_onPath (cfg : Cfg) (ign : Bool) (fs : FS) (path : List Bytes) (n t file : Bytes)
    (lineNo : Nat) (st : St) (hl : fs.lookup n = some t) (hp : n ∈ path) :
    fixHandler cfg ign fs path n file lineNo st
      = (some (.recursive file lineNo n), (st.opened n).closed n) :=
  includeWith_onPath fs _ _ n t file lineNo st hl (by simpa using hp)

theorem fixHandler_rec (cfg : Cfg) (ign : Bool) (fs : FS) (path : List Bytes) (n t file : Bytes)
    (lineNo : Nat) (st : St) (hl : fs.lookup n = some t) (hp : ¬ n ∈ path) :
    fixHandler cfg ign fs path n file lineNo st
      = afterInclude n (parseLines cfg ign (fixHandler cfg ign fs (n :: path)) n
          (Lex.lines t).2 (Lex.lines t).1 1 none (st.opened n)) := by
  unfold fixHandler
  rw [includeWith_rec fs _ _ n t file lineNo st hl (by simpa using hp), parseFileFix_eq]
  rfl

theorem walk_sound {cfg : Cfg} {ign : Bool} {fs : FS} {path : List Bytes} {tooLong : Bool} {ls : List Bytes}
    {lineNo : Nat} {vb : Option Bytes} {st : St} {r : Option Fault × St}
    (h : Walk cfg ign fs path tooLong ls lineNo vb st r) :
    parseLines cfg ign (fixHandler cfg ign fs path) (path.headD []) tooLong ls lineNo vb st
      = (r.1.map Fault.report, r.2) := by
  induction h with
  | done path lineNo st => simp [parseLines]
  | scanErr path lineNo vb st => simp [parseLines, Fault.report]
  | unclosed path lineNo v st => simp [parseLines, Fault.report]
  | line hT hs _ ih =>
    simp only [parseLines]
    rw [stepLine_local _ _ _ _ _ _ _ _ hT, hs]
    exact ih
  | bad hT hs =>
    simp only [parseLines]
    rw [stepLine_local _ _ _ _ _ _ _ _ hT, hs]
    rfl
  | missing hT hl =>
    simp only [parseLines]
    rw [stepLine_target _ _ _ _ _ _ _ _ _ hT, fixHandler_none _ _ _ _ _ _ _ _ hl]
    rfl
  | onPath hT hl hp =>
    simp only [parseLines]
    rw [stepLine_target _ _ _ _ _ _ _ _ _ hT, fixHandler_onPath _ _ _ _ _ _ _ _ _ hl hp]
    rfl
  | incOk hT hl hp _ _ ih1 ih2 =>
    simp only [parseLines]
    rw [stepLine_target _ _ _ _ _ _ _ _ _ hT, fixHandler_rec _ _ _ _ _ _ _ _ _ hl hp]
    simp only [List.headD_cons] at ih1
    rw [ih1]
    exact ih2
  | incFail hT hl hp _ ih1 =>
    simp only [parseLines]
    rw [stepLine_target _ _ _ _ _ _ _ _ _ hT, fixHandler_rec _ _ _ _ _ _ _ _ _ hl hp]
    simp only [List.headD_cons] at ih1
    rw [ih1]
    rfl

theorem walkFile_sound {cfg : Cfg} {ign : Bool} {fs : FS} {root : Bytes} {r : Option Fault × St}
    (h : WalkFile cfg ign fs root r) (hc : cfg.includePath = true) :
    parseFile cfg ign fs root = (r.1.map Fault.report, r.2.closed root) := by
  obtain ⟨text, hl, hw⟩ := h
  have := walk_sound hw
  simp only [List.headD_cons] at this
  simp only [parseFile, hl, parseRoot, hc, ↓reduceIte, parseFileFix_eq, this]

/-- induction over the measure of `parseFileFix`: the files not on the include path -/
theorem path_induction (fs : FS) {motive : List Bytes → Prop}
    (step : ∀ path, (∀ n t, fs.lookup n = some t → ¬ n ∈ path → motive (n :: path)) → motive path)
    (path : List Bytes) : motive path :=
  parseFileFix.induct fs (fun path _ _ _ => motive path)
    (fun path _ _ _ ih => step path fun n t hl hp => ih n t hl (by simpa using hp) {}) path [] [] {}

theorem walk_total (cfg : Cfg) (ign : Bool) (fs : FS) (path : List Bytes) :
    ∀ (tooLong : Bool) (ls : List Bytes) (lineNo : Nat) (vb : Option Bytes) (st : St),
      ∃ r, Walk cfg ign fs path tooLong ls lineNo vb st r := by
  induction path using path_induction fs with
  | step path ih =>
    intro tooLong ls
    induction ls with
    | nil =>
      intro lineNo vb st
      cases tooLong with
      | true => exact ⟨_, .scanErr path lineNo vb st⟩
      | false =>
        cases vb with
        | none => exact ⟨_, .done path lineNo st⟩
        | some v => exact ⟨_, .unclosed path lineNo v st⟩
    | cons raw ls ihl =>
      intro lineNo vb st
      cases hT : includeTarget vb raw with
      | none =>
        rcases localStep_cases cfg ign (path.headD []) lineNo vb st raw with ⟨vb', st', h1, _⟩ | ⟨c, h1⟩
        · obtain ⟨r, hr⟩ := ihl (lineNo + 1) vb' st'
          exact ⟨r, .line hT h1 hr⟩
        · exact ⟨_, .bad hT h1⟩
      | some n =>
        cases hl : fs.lookup n with
        | none => exact ⟨_, .missing hT hl⟩
        | some t =>
          by_cases hp : n ∈ path
          · exact ⟨_, .onPath hT hl hp⟩
          · obtain ⟨⟨o, st1⟩, hin⟩ := ih n t hl hp (Lex.lines t).2 (Lex.lines t).1 1 none (st.opened n)
            cases o with
            | none =>
              obtain ⟨r, hr⟩ := ihl (lineNo + 1) none ((st1.closed n).closed n)
              exact ⟨r, .incOk hT hl hp hin hr⟩
            | some f => exact ⟨_, .incFail hT hl hp hin⟩

theorem walkFile_total (cfg : Cfg) (ign : Bool) (fs : FS) (root text : Bytes) (hl : fs.lookup root = some text) :
    ∃ r, WalkFile cfg ign fs root r := by
  obtain ⟨r, hr⟩ := walk_total cfg ign fs [root] (Lex.lines text).2 (Lex.lines text).1 1 none (St.opened {} root)
  exact ⟨r, text, hl, hr⟩

theorem walk_unique {cfg : Cfg} {ign : Bool} {fs : FS} {path : List Bytes} {tooLong : Bool} {ls : List Bytes}
    {lineNo : Nat} {vb : Option Bytes} {st : St} {r r' : Option Fault × St}
    (h : Walk cfg ign fs path tooLong ls lineNo vb st r) (h' : Walk cfg ign fs path tooLong ls lineNo vb st r') :
    r = r' := by
  -- in each case the rules with another head do not apply: their premises contradict `hT`, `hs`, `hl` or `hp`
  induction h generalizing r' with
  | done | scanErr | unclosed => cases h'; rfl
  | line hT hs _ ih =>
    cases h' with
    | line _ hs' hrest' => rw [hs] at hs'; cases hs'; exact ih hrest'
    | _ => simp_all
  | bad hT hs =>
    cases h' with
    | bad _ hs' => rw [hs] at hs'; cases hs'; rfl
    | _ => simp_all
  | missing hT hl =>
    cases h' with
    | missing hT' _ => rw [hT] at hT'; cases hT'; rfl
    | _ => simp_all
  | onPath hT hl hp =>
    cases h' with
    | onPath hT' _ _ => rw [hT] at hT'; cases hT'; rfl
    | _ => simp_all
  | incOk hT hl hp _ _ ih1 ih2 =>
    cases h' with
    | incOk hT' hl' _ hin' hrest' =>
      rw [hT] at hT'; cases hT'; rw [hl] at hl'; cases hl'
      cases ih1 hin'
      exact ih2 hrest'
    | incFail hT' hl' _ hin' =>
      rw [hT] at hT'; cases hT'; rw [hl] at hl'; cases hl'
      cases ih1 hin'
    | _ => simp_all
  | incFail hT hl hp _ ih1 =>
    cases h' with
    | incOk hT' hl' _ hin' _ =>
      rw [hT] at hT'; cases hT'; rw [hl] at hl'; cases hl'
      cases ih1 hin'
    | incFail hT' hl' _ hin' =>
      rw [hT] at hT'; cases hT'; rw [hl] at hl'; cases hl'
      cases ih1 hin'
      rfl
    | _ => simp_all

theorem parseFile_eq_walk (cfg : Cfg) (ign : Bool) (fs : FS) (root text : Bytes) (hc : cfg.includePath = true)
    (hl : fs.lookup root = some text) :
    ∃ o st', WalkFile cfg ign fs root (o, st') ∧
      parseFile cfg ign fs root = (o.map Fault.report, st'.closed root) := by
  obtain ⟨⟨o, st'⟩, hw⟩ := walkFile_total cfg ign fs root text hl
  exact ⟨o, st', hw, walkFile_sound hw hc⟩

theorem Fault.report_eq_recursive_iff (f : Fault) (file n : Bytes) (l : Nat) :
    f.report = .recursive file l n ↔ f.kind = .includeOnPath n ∧ f.path.headD [] = file ∧ f.line = l := by
  rcases f with ⟨p, ln, k⟩
  cases k <;> simp [Fault.report]
  rename_i m
  constructor
  · rintro ⟨h1, h2, h3⟩; exact ⟨h3, h1, h2⟩
  · rintro ⟨h1, h2, h3⟩; exact ⟨h2, h3, h1⟩

theorem report_kind (f : Fault) :
    (f.kind = .scannerError ↔ f.report = .scanner) ∧
    (∀ n, f.kind = .includeMissing n ↔ ∃ file l, f.report = .openErr file l n) ∧
    (∀ n, f.kind = .includeOnPath n ↔ ∃ file l, f.report = .recursive file l n) ∧
    ((f.kind = .unclosedBlock ∨ ∃ c, f.kind = .badLine c) ↔ ∃ c file l, f.report = .decl c file l) ∧
    f.report ≠ .rootOpen ∧ f.report ≠ .outOfFuel := by
  rcases f with ⟨p, ln, k⟩
  cases k <;> simp [Fault.report]

/-- consecutive members of an include path (innermost first) are include edges: each file is
    `$INCLUDE`d by a line of the next one -/
def IncludeChain (fs : FS) : List Bytes → Prop
  | child :: parent :: rest => Includes fs parent child ∧ IncludeChain fs (parent :: rest)
  | _ => True

/-- a legitimate include path of a walk started at `root` -/
structure PathOK (fs : FS) (root : Bytes) (p : List Bytes) : Prop where
  ne : p ≠ []
  last : p.getLast? = some root
  nodup : p.Nodup
  chain : IncludeChain fs p
  files : ∀ x, x ∈ p → (fs.lookup x).isSome = true

/-- line `l` (1-based) of the text `t` is a `$INCLUDE n` directive -/
def IncludeLineAt (t : Bytes) (l : Nat) (n : Bytes) : Prop :=
  1 ≤ l ∧ ∃ raw, (Lex.lines t).1[l - 1]? = some raw ∧ Lex.fields (Lex.stripComment raw) = [kwINCLUDE, n]

/-- what a fault of a walk started at `root` looks like -/
def Fault.WellFormed (fs : FS) (root : Bytes) (f : Fault) : Prop :=
  PathOK fs root f.path ∧ ∃ t, fs.lookup (f.path.headD []) = some t ∧
    match f.kind with
    | .includeOnPath n => n ∈ f.path ∧ (fs.lookup n).isSome = true ∧ IncludeLineAt t f.line n
    | .includeMissing n => fs.lookup n = none ∧ IncludeLineAt t f.line n
    | .badLine _ => 1 ≤ f.line ∧ f.line ≤ (Lex.lines t).1.length
    | .unclosedBlock => 1 ≤ f.line ∧ f.line = (Lex.lines t).1.length
    | .scannerError => (Lex.lines t).2 = true ∧ f.line = (Lex.lines t).1.length + 1

/-- where the walk stands in the current file: `pre` are the lines already passed -/
def AtLine (fs : FS) (path : List Bytes) (tooLong : Bool) (ls : List Bytes) (lineNo : Nat)
    (vb : Option Bytes) : Prop :=
  ∃ t pre, fs.lookup (path.headD []) = some t ∧ Lex.lines t = (pre ++ ls, tooLong) ∧
    lineNo = pre.length + 1 ∧ (vb ≠ none → pre ≠ [])

theorem AtLine.start {fs : FS} {n t : Bytes} (path : List Bytes) (hl : fs.lookup n = some t) :
    AtLine fs (n :: path) (Lex.lines t).2 (Lex.lines t).1 1 none :=
  ⟨t, [], hl, rfl, rfl, fun h => absurd rfl h⟩

theorem AtLine.next {fs : FS} {path : List Bytes} {tooLong : Bool} {raw : Bytes} {ls : List Bytes}
    {lineNo : Nat} {vb : Option Bytes} (h : AtLine fs path tooLong (raw :: ls) lineNo vb) (vb' : Option Bytes) :
    AtLine fs path tooLong ls (lineNo + 1) vb' := by
  obtain ⟨t, pre, hl, hlines, hno, _⟩ := h
  refine ⟨t, pre ++ [raw], hl, by simpa using hlines, by simp [hno], fun _ => by simp⟩

theorem AtLine.here {fs : FS} {path : List Bytes} {tooLong : Bool} {raw : Bytes} {ls : List Bytes}
    {lineNo : Nat} {vb : Option Bytes} (h : AtLine fs path tooLong (raw :: ls) lineNo vb) :
    ∃ t, fs.lookup (path.headD []) = some t ∧ 1 ≤ lineNo ∧ lineNo ≤ (Lex.lines t).1.length ∧
      (Lex.lines t).1[lineNo - 1]? = some raw := by
  obtain ⟨t, pre, hl, hlines, hno, _⟩ := h
  refine ⟨t, hl, by omega, ?_, ?_⟩
  · rw [hlines]; simp; omega
  · rw [hlines, hno]; simp

theorem AtLine.includeLine {fs : FS} {path : List Bytes} {tooLong : Bool} {raw : Bytes} {ls : List Bytes}
    {lineNo : Nat} {vb : Option Bytes} {n : Bytes} (h : AtLine fs path tooLong (raw :: ls) lineNo vb)
    (hT : includeTarget vb raw = some n) :
    ∃ t, fs.lookup (path.headD []) = some t ∧ IncludeLineAt t lineNo n ∧ Includes fs (path.headD []) n := by
  obtain ⟨t, hl, h1, _, hget⟩ := h.here
  obtain ⟨_, hf⟩ := includeTarget_eq_some.mp hT
  refine ⟨t, hl, ⟨h1, raw, hget, hf⟩, t, hl, mem_includesOf.mpr ⟨raw, ?_, hf⟩⟩
  exact List.mem_of_getElem? hget

theorem PathOK.root {fs : FS} {root text : Bytes} (hl : fs.lookup root = some text) : PathOK fs root [root] where
  ne := by simp
  last := rfl
  nodup := by simp
  chain := trivial
  files := by intro x hx; simp at hx; subst hx; simp [hl]

theorem PathOK.push {fs : FS} {root : Bytes} {path : List Bytes} {n t : Bytes} (h : PathOK fs root path)
    (hi : Includes fs (path.headD []) n) (hl : fs.lookup n = some t) (hp : ¬ n ∈ path) :
    PathOK fs root (n :: path) := by
  obtain ⟨hne, hlast, hnd, hch, hfiles⟩ := h
  cases path with
  | nil => exact absurd rfl hne
  | cons p rest =>
    refine ⟨by simp, ?_, List.nodup_cons.mpr ⟨hp, hnd⟩, ⟨hi, hch⟩, ?_⟩
    · rw [List.getLast?_cons_cons]; exact hlast
    · intro x hx
      rcases List.mem_cons.mp hx with rfl | hx
      · simp [hl]
      · exact hfiles x hx

theorem walk_fault_wf {cfg : Cfg} {ign : Bool} {fs : FS} {root : Bytes} {path : List Bytes} {tooLong : Bool}
    {ls : List Bytes} {lineNo : Nat} {vb : Option Bytes} {st : St} {r : Option Fault × St}
    (h : Walk cfg ign fs path tooLong ls lineNo vb st r) :
    PathOK fs root path → AtLine fs path tooLong ls lineNo vb →
      ∀ f, r.1 = some f → f.WellFormed fs root := by
  induction h with
  | done path lineNo st => intro _ _ f hf; cases hf
  | scanErr path lineNo vb st =>
    intro hP hA f hf
    cases hf
    obtain ⟨t, pre, hl, hlines, hno, _⟩ := hA
    refine ⟨hP, t, hl, ?_⟩
    simp [hlines, hno]
  | unclosed path lineNo v st =>
    intro hP hA f hf
    cases hf
    obtain ⟨t, pre, hl, hlines, hno, hvb⟩ := hA
    have : pre ≠ [] := hvb (by simp)
    have : 0 < pre.length := List.length_pos_iff.mpr this
    refine ⟨hP, t, hl, ?_⟩
    simp [hlines, hno]
    omega
  | line hT hs _ ih =>
    intro hP hA f hf
    exact ih hP (hA.next _) f hf
  | bad hT hs =>
    intro hP hA f hf
    cases hf
    obtain ⟨t, hl, h1, h2, _⟩ := hA.here
    exact ⟨hP, t, hl, h1, h2⟩
  | missing hT hl =>
    intro hP hA f hf
    cases hf
    obtain ⟨t, hlt, hline, _⟩ := hA.includeLine hT
    exact ⟨hP, t, hlt, hl, hline⟩
  | onPath hT hl hp =>
    intro hP hA f hf
    cases hf
    obtain ⟨t, hlt, hline, _⟩ := hA.includeLine hT
    exact ⟨hP, t, hlt, hp, by simp [hl], hline⟩
  | incOk hT hl hp _ _ _ ih2 =>
    intro hP hA f hf
    exact ih2 hP (hA.next _) f hf
  | incFail hT hl hp _ ih1 =>
    intro hP hA f hf
    cases hf
    obtain ⟨_, _, _, hi⟩ := hA.includeLine hT
    exact ih1 (hP.push hi hl hp) (AtLine.start _ hl) _ rfl

theorem walkFile_fault_wf {cfg : Cfg} {ign : Bool} {fs : FS} {root : Bytes} {f : Fault} {st' : St}
    (h : WalkFile cfg ign fs root (some f, st')) : f.WellFormed fs root := by
  obtain ⟨text, hl, hw⟩ := h
  exact walk_fault_wf hw (PathOK.root hl) (AtLine.start [] hl) f rfl

theorem IncludeChain.reaches {fs : FS} {x : Bytes} {p : List Bytes} (h : IncludeChain fs (x :: p))
    {y : Bytes} (hy : y ∈ p) : Reaches fs y x := by
  induction p generalizing x with
  | nil => simp at hy
  | cons q rest ih =>
    obtain ⟨hi, hch⟩ := h
    rcases List.mem_cons.mp hy with rfl | hy
    · exact .step hi
    · exact (ih hch hy).snoc hi

theorem IncludeChain.from_last {fs : FS} {root : Bytes} {p : List Bytes} (hlast : p.getLast? = some root)
    (hch : IncludeChain fs p) {x : Bytes} (hx : x ∈ p) : x = root ∨ Reaches fs root x := by
  induction p with
  | nil => simp at hx
  | cons q rest ih =>
    cases rest with
    | nil =>
      simp at hx hlast
      left; rw [hx, hlast]
    | cons q' rest' =>
      rw [List.getLast?_cons_cons] at hlast
      have hroot : root ∈ q' :: rest' := List.mem_of_getLast? hlast
      rcases List.mem_cons.mp hx with rfl | hx
      · exact Or.inr (IncludeChain.reaches hch hroot)
      · exact ih hlast hch.2 hx

theorem hasCycle_of_back_edge {fs : FS} {root f n : Bytes} (hi : Includes fs f n)
    (hback : n = f ∨ Reaches fs n f) (hroot : f = root ∨ Reaches fs root f) : HasCycle fs root := by
  refine ⟨f, hroot, ?_⟩
  rcases hback with rfl | hreach
  · exact .step hi
  · exact .trans hi hreach

theorem Fault.onPath_cycle {fs : FS} {root : Bytes} {f : Fault} (h : f.WellFormed fs root) {n : Bytes}
    (hk : f.kind = .includeOnPath n) :
    Includes fs (f.path.headD []) n ∧ (n = f.path.headD [] ∨ Reaches fs n (f.path.headD [])) ∧
      (f.path.headD [] = root ∨ Reaches fs root (f.path.headD [])) := by
  obtain ⟨hP, t, hl, hm⟩ := h
  rw [hk] at hm
  obtain ⟨hn, _, _, raw, hget, hf⟩ := hm
  have hi : Includes fs (f.path.headD []) n :=
    ⟨t, hl, mem_includesOf.mpr ⟨raw, List.mem_of_getElem? hget, hf⟩⟩
  cases hpath : f.path with
  | nil => exact absurd hpath hP.ne
  | cons q rest =>
    have hq : q = root ∨ Reaches fs root q := IncludeChain.from_last hP.last hP.chain (by rw [hpath]; exact List.mem_cons_self)
    rw [hpath] at hn hi
    refine ⟨hi, ?_, hq⟩
    rcases List.mem_cons.mp hn with rfl | hn
    · exact Or.inl rfl
    · exact Or.inr (IncludeChain.reaches (hpath ▸ hP.chain) hn)

/-- Well-nestedness of an opener log: every successfully opened file is closed, in LIFO order,
    once - or TWICE.

    "Every opened file is closed exactly once" is FALSE of dictionary/parser.go for files that are
    included successfully: on the success path of the `$INCLUDE` closure the file is closed
    explicitly (`incFile.Close()`, parser.go line 233) and then once more by the deferred
    `incFile.Close()` of line 214 (for an `*os.File` the second `Close` returns `ErrClosed`, which
    the `defer` ignores; `afterInclude` of the model mirrors this).  It is TRUE (exactly once) on
    every error path - the opener's file found on the path (`includeOnPath`), and every file on the
    include path of the fault when the nested parse fails - and for the root file, which `ParseFile`
    closes once.  `twice` records which of the two happened.

    `Nested` / `Unwound` here and `ClosedTwice` / `UnwoundIO` (RV.Proofs.DictIO) are the same two shapes -
    what a completed stretch looks like, and what a run that stopped at a fault looks like - read off
    `afterInclude` and `afterIncludeIO`: a change to either closure has to be made in all four. -/
inductive Nested : List Event → Prop where
  | nil : Nested []
  | file (n : Bytes) (twice : Bool) {inner rest : List Event} : Nested inner → Nested rest →
      Nested (Event.opened n :: (inner ++ Event.closed n :: ((if twice then [Event.closed n] else []) ++ rest)))

theorem OpensClosed_nil : OpensClosed [] := by
  intro pre n post h
  cases pre <;> simp at h

theorem OpensClosed_append {a b : List Event} (ha : OpensClosed a) (hb : OpensClosed b) :
    OpensClosed (a ++ b) := by
  intro pre n post h
  rcases List.append_eq_append_iff.mp h with ⟨a', rfl, h2⟩ | ⟨c', rfl, h2⟩
  · exact hb _ _ _ h2
  · cases c' with
    | nil => simp at h2; exact hb [] n post h2.symm
    | cons x c'' =>
      simp at h2
      obtain ⟨rfl, rfl⟩ := h2
      exact List.mem_append_left _ (ha _ _ _ rfl)

theorem OpensClosed_closed (n : Bytes) : OpensClosed [Event.closed n] := by
  intro pre m post h
  cases pre with
  | nil => simp at h
  | cons x pre' => cases pre' <;> simp at h

theorem OpensClosed_bracket {w : List Event} (n : Bytes) (hw : OpensClosed w) (hc : Event.closed n ∈ w) :
    OpensClosed (Event.opened n :: w) := by
  intro pre m post h
  cases pre with
  | nil => simp at h; obtain ⟨rfl, rfl⟩ := h; exact hc
  | cons x pre' =>
    simp at h
    exact hw _ _ _ h.2

theorem Nested.append {a b : List Event} (ha : Nested a) (hb : Nested b) : Nested (a ++ b) := by
  induction ha with
  | nil => exact hb
  | @file n twice inner rest h1 _ _ ih2 =>
    have := Nested.file n twice h1 ih2
    simpa [List.append_assoc] using this

theorem Nested.openClose (n : Bytes) : Nested [Event.opened n, Event.closed n] :=
  Nested.file n false Nested.nil Nested.nil

theorem Nested.count_le {w : List Event} (h : Nested w) (n : Bytes) :
    w.count (Event.opened n) ≤ w.count (Event.closed n) ∧
      w.count (Event.closed n) ≤ 2 * w.count (Event.opened n) := by
  induction h with
  | nil => simp
  | @file m twice inner rest _ _ ih1 ih2 =>
    cases twice <;> by_cases hm : m = n <;>
      simp [List.count_append, hm] <;> omega

theorem Nested.opensClosed {w : List Event} (h : Nested w) : OpensClosed w := by
  induction h with
  | nil => exact OpensClosed_nil
  | @file n twice inner rest _ _ ih1 ih2 =>
    refine OpensClosed_bracket n ?_ (by simp)
    refine OpensClosed_append ih1 ?_
    have : Event.closed n :: ((if twice = true then [Event.closed n] else []) ++ rest)
        = [Event.closed n] ++ ((if twice = true then [Event.closed n] else []) ++ rest) := rfl
    rw [this]
    refine OpensClosed_append (OpensClosed_closed n) (OpensClosed_append ?_ ih2)
    cases twice
    · exact OpensClosed_nil
    · exact OpensClosed_closed n

def AddsNested (st : St) (r : Result) : Prop := ∃ w, r.2.log = st.log ++ w ∧ Nested w

theorem AddsNested_refl (st : St) (e : Option Failure) : AddsNested st (e, st) :=
  ⟨[], by simp, Nested.nil⟩

theorem parseLines_nested (cfg : Cfg) (ign : Bool) (h : IncludeHandler) (file : Bytes) (tooLong : Bool)
    (hh : ∀ n f l st, AddsNested st (h n f l st))
    (lines : List Bytes) (lineNo : Nat) (vb : Option Bytes) (st : St) :
    AddsNested st (parseLines cfg ign h file tooLong lines lineNo vb st) := by
  induction lines generalizing lineNo vb st with
  | nil =>
    simp only [parseLines]
    split
    · exact AddsNested_refl ..
    · split <;> exact AddsNested_refl ..
  | cons raw ls ih =>
    simp only [parseLines]
    cases hT : includeTarget vb raw with
    | none =>
      rw [stepLine_local cfg ign h file lineNo vb st raw hT]
      rcases localStep_cases cfg ign file lineNo vb st raw with ⟨vb', st', hs, hl⟩ | ⟨c, hs⟩
      · rw [hs]
        obtain ⟨w, hw, hn⟩ := ih (lineNo + 1) vb' st'
        exact ⟨w, by rw [hw, hl], hn⟩
      · rw [hs]; exact AddsNested_refl ..
    | some n =>
      rw [stepLine_target cfg ign h file lineNo vb st raw n hT]
      obtain ⟨w1, hw1, hn1⟩ := hh n file lineNo st
      rcases hr : h n file lineNo st with ⟨_ | e, st1⟩
      · rw [hr] at hw1
        obtain ⟨w2, hw2, hn2⟩ := ih (lineNo + 1) none st1
        exact ⟨w1 ++ w2, hw2.trans (by rw [hw1, List.append_assoc]), hn1.append hn2⟩
      · rw [hr] at hw1
        exact ⟨w1, hw1, hn1⟩

theorem parseBody_log (cfg : Cfg) (ign : Bool) (h : IncludeHandler) (file text : Bytes) (st : St)
    (hh : ∀ n f l st, AddsNested st (h n f l st)) :
    AddsNested st (parseBody cfg ign h file text st) :=
  parseLines_nested cfg ign h file _ hh _ _ _ _

theorem includeWith_nested (fs : FS) (onPath : Bytes → Bool)
    (recur : (name t : Bytes) → fs.lookup name = some t → onPath name = false → St → Result)
    (hrec : ∀ name t hl hp st, AddsNested st (recur name t hl hp st))
    (name file : Bytes) (lineNo : Nat) (st : St) :
    AddsNested st (includeWith fs onPath recur name file lineNo st) := by
  cases hl : fs.lookup name with
  | none =>
    rw [includeWith_none fs onPath recur name file lineNo st hl]
    exact AddsNested_refl ..
  | some t =>
    cases hp : onPath name with
    | true =>
      rw [includeWith_onPath fs onPath recur name t file lineNo st hl hp]
      exact ⟨[.opened name, .closed name], by simp [St.opened, St.closed], Nested.openClose name⟩
    | false =>
      rw [includeWith_rec fs onPath recur name t file lineNo st hl hp]
      obtain ⟨w, hw, hoc⟩ := hrec name t hl hp (st.opened name)
      rcases hres : recur name t hl hp (st.opened name) with ⟨_ | e2, st2⟩
      · rw [hres] at hw
        simp only [St.opened] at hw
        have := Nested.file name true hoc Nested.nil
        exact ⟨_, by simp [afterInclude, St.closed, hw], this⟩
      · rw [hres] at hw
        simp only [St.opened] at hw
        have := Nested.file name false hoc Nested.nil
        exact ⟨_, by simp [afterInclude, St.closed, hw], this⟩

theorem parseFileFix_nested (cfg : Cfg) (ign : Bool) (fs : FS) (path : List Bytes) (file text : Bytes) (st : St) :
    AddsNested st (parseFileFix cfg ign fs path file text st) := by
  induction path, file, text, st using parseFileFix.induct fs with
  | _ path file text st ih =>
    rw [parseFileFix]
    apply parseLines_nested
    apply includeWith_nested
    exact ih

theorem parseFileCur_nested (cfg : Cfg) (ign : Bool) (fs : FS) (root : Bytes) (fuel : Nat) (file text : Bytes)
    (st : St) : AddsNested st (parseFileCur cfg ign fs root fuel file text st) := by
  induction fuel generalizing file text st with
  | zero => exact AddsNested_refl ..
  | succ fuel ih =>
    rw [parseFileCur]
    apply parseLines_nested
    apply includeWith_nested
    intro n t hl hp st0
    exact ih n t st0

theorem parseFileCur_nested_log (cfg : Cfg) (ign : Bool) (fs : FS) (root file text : Bytes) (fuel : Nat) :
    Nested (parseFileCur cfg ign fs root fuel file text {}).2.log := by
  obtain ⟨w, hw, hn⟩ := parseFileCur_nested cfg ign fs root fuel file text {}
  rw [hw]
  exact Nested.nil.append hn

theorem parseRoot_nested (cfg : Cfg) (ign : Bool) (fs : FS) (root text : Bytes) (st : St) :
    AddsNested st (parseRoot cfg ign fs root text st) := by
  unfold parseRoot
  split
  · exact parseFileFix_nested ..
  · exact parseFileCur_nested ..

theorem parseFile_nested (cfg : Cfg) (ign : Bool) (fs : FS) (root : Bytes) :
    Nested (parseFile cfg ign fs root).2.log := by
  unfold parseFile
  split
  · exact Nested.nil
  · rename_i text _
    obtain ⟨w, hw, hoc⟩ := parseRoot_nested cfg ign fs root text (St.opened {} root)
    show Nested ((parseRoot cfg ign fs root text (St.opened {} root)).2.log ++ [Event.closed root])
    rw [hw]
    have := Nested.file root false hoc Nested.nil
    simpa [St.opened] using this

/-- The log of a run that stopped at a fault, the files `ns` (outermost first) being open at that
    moment: before each of them was opened a well-nested stretch `w` ran (completed includes, each
    closed once or twice, see `Nested`); the file is opened ONCE; after the fault the files are closed
    innermost first, each exactly ONCE (only the deferred `Close` runs on an error path). -/
inductive Unwound : List Bytes → List Event → Prop where
  | here {w : List Event} : Nested w → Unwound [] w
  | into (n : Bytes) {ns : List Bytes} {w inner : List Event} : Nested w → Unwound ns inner →
      Unwound (n :: ns) (w ++ Event.opened n :: (inner ++ [Event.closed n]))

theorem Unwound.nested {ns : List Bytes} {w : List Event} (h : Unwound ns w) : Nested w := by
  induction h with
  | here h => exact h
  | into n h1 _ ih =>
    have := Nested.file n false ih Nested.nil
    exact h1.append (by simpa using this)

theorem Unwound.prepend {ns : List Bytes} {a w : List Event} (ha : Nested a) (h : Unwound ns w) :
    Unwound ns (a ++ w) := by
  cases h with
  | here h => exact .here (ha.append h)
  | into n h1 h2 =>
    rw [← List.append_assoc]
    exact .into n (ha.append h1) h2

theorem walk_log_here (path : List Bytes) (st : St) (o : Option Fault) (ho : ∀ f, o = some f → f.path = path) :
    ∃ w, st.log = st.log ++ w ∧ Nested w ∧
      ∀ f, o = some f → ∃ new, f.path = new.reverse ++ path ∧ Unwound new w :=
  ⟨[], (List.append_nil _).symm, .nil, fun f hf => ⟨[], ho f hf, .here .nil⟩⟩

/-- `new` = the files the walk itself opened and that are still open at the fault, outermost first, as
    `Unwound` lists them; a `Fault.path` is innermost first, hence `new.reverse` -/
theorem walk_log {cfg : Cfg} {ign : Bool} {fs : FS} {path : List Bytes} {tooLong : Bool}
    {ls : List Bytes} {lineNo : Nat} {vb : Option Bytes} {st : St} {r : Option Fault × St}
    (h : Walk cfg ign fs path tooLong ls lineNo vb st r) :
    ∃ w, r.2.log = st.log ++ w ∧ Nested w ∧
      ∀ f, r.1 = some f → ∃ new, f.path = new.reverse ++ path ∧ Unwound new w := by
  induction h with
  | done => exact walk_log_here _ _ _ fun f hf => nomatch hf
  | scanErr => exact walk_log_here _ _ _ fun f hf => by cases hf; rfl
  | unclosed => exact walk_log_here _ _ _ fun f hf => by cases hf; rfl
  | @line path tooLong raw ls lineNo vb vb' st st' r hT hs _ ih =>
    obtain ⟨w, hw, hn, hf⟩ := ih
    have hlog : st'.log = st.log := by
      rcases localStep_cases cfg ign (path.headD []) lineNo vb st raw with ⟨_, _, h1, h2⟩ | ⟨c, h1⟩
      · rw [h1] at hs; cases hs; exact h2
      · rw [h1] at hs; cases hs
    exact ⟨w, by rw [hw, hlog], hn, hf⟩
  | bad hT hs =>
    obtain ⟨c', _, rfl⟩ := localStep_fail_inv hs
    exact walk_log_here _ _ _ fun f hf => by cases hf; rfl
  | missing => exact walk_log_here _ _ _ fun f hf => by cases hf; rfl
  | @onPath path tooLong raw ls lineNo vb st n t hT hl hp =>
    exact ⟨[.opened n, .closed n], by simp [St.opened, St.closed], Nested.openClose n,
      fun f hf => by cases hf; exact ⟨[], rfl, .here (Nested.openClose n)⟩⟩
  | @incOk path tooLong raw ls lineNo vb st st1 n t r hT hl hp _ _ ih1 ih2 =>
    obtain ⟨w1, hw1, hn1, _⟩ := ih1
    obtain ⟨w2, hw2, hn2, hf2⟩ := ih2
    have hb : Nested (Event.opened n :: (w1 ++ Event.closed n :: ([Event.closed n] ++ []))) :=
      Nested.file n true hn1 Nested.nil
    refine ⟨Event.opened n :: (w1 ++ Event.closed n :: ([Event.closed n] ++ [])) ++ w2, ?_, hb.append hn2, ?_⟩
    · rw [hw2]
      simp only [St.closed, St.opened] at hw1 ⊢
      rw [hw1]
      simp
    · intro f hf
      obtain ⟨new, hp2, hu⟩ := hf2 f hf
      exact ⟨new, hp2, hu.prepend hb⟩
  | @incFail path tooLong raw ls lineNo vb st st1 n t f hT hl hp _ ih1 =>
    obtain ⟨w1, hw1, hn1, hf1⟩ := ih1
    obtain ⟨new, hp1, hu⟩ := hf1 f rfl
    have hun : Unwound (n :: new) ([] ++ Event.opened n :: (w1 ++ [Event.closed n])) := .into n .nil hu
    refine ⟨Event.opened n :: (w1 ++ [Event.closed n]), ?_, hun.nested, ?_⟩
    · simp only [St.closed, St.opened] at hw1 ⊢
      rw [hw1]
      simp
    · intro f' hf'
      cases hf'
      exact ⟨n :: new, by rw [hp1]; simp, hun⟩

theorem walkFile_fail_log {cfg : Cfg} {ign : Bool} {fs : FS} {root : Bytes} {f : Fault} {st' : St}
    (h : WalkFile cfg ign fs root (some f, st')) : Unwound f.path.reverse (st'.closed root).log := by
  obtain ⟨text, hl, hw⟩ := h
  obtain ⟨w, hw1, _, hf⟩ := walk_log hw
  obtain ⟨new, hp, hu⟩ := hf f rfl
  have : Unwound (root :: new) ([] ++ Event.opened root :: (w ++ [Event.closed root])) := .into root .nil hu
  simp only at hw1
  rw [hp]
  simp only [St.closed, hw1, St.opened]
  simpa using this

theorem parseFile_fail_log (cfg : Cfg) (ign : Bool) (fs : FS) (root text : Bytes) (hc : cfg.includePath = true)
    (hl : fs.lookup root = some text) (e : Failure) (he : (parseFile cfg ign fs root).1 = some e) :
    ∃ f st', WalkFile cfg ign fs root (some f, st') ∧ e = f.report ∧
      Unwound f.path.reverse (parseFile cfg ign fs root).2.log := by
  obtain ⟨o, st', hw, heq⟩ := parseFile_eq_walk cfg ign fs root text hc hl
  rw [heq] at he ⊢
  cases o with
  | none => cases he
  | some f =>
    simp at he
    exact ⟨f, st', hw, he.symm, walkFile_fail_log hw⟩

theorem parseFile_recursive_iff (cfg : Cfg) (ign : Bool) (fs : FS) (root f n : Bytes) (l : Nat)
    (hc : cfg.includePath = true) :
    (parseFile cfg ign fs root).1 = some (.recursive f l n) ↔
      ∃ flt st', WalkFile cfg ign fs root (some flt, st') ∧ flt.kind = .includeOnPath n ∧
        flt.path.headD [] = f ∧ flt.line = l := by
  constructor
  · intro hr
    rcases opt_cases (fs.lookup root) with hl | ⟨text, hl⟩
    · rw [parseFile_none cfg ign fs root hl] at hr; simp at hr
    · obtain ⟨o, st', hw, heq⟩ := parseFile_eq_walk cfg ign fs root text hc hl
      rw [heq] at hr
      cases o with
      | none => cases hr
      | some flt =>
        simp at hr
        exact ⟨flt, st', hw, (flt.report_eq_recursive_iff f n l).mp hr⟩
  · rintro ⟨flt, st', hw, hk⟩
    rw [walkFile_sound hw hc]
    simp [(flt.report_eq_recursive_iff f n l).mpr hk]

theorem parseFile_recursive_real (cfg : Cfg) (ign : Bool) (fs : FS) (root f n : Bytes) (l : Nat)
    (h : cfg.includePath = true) (hr : (parseFile cfg ign fs root).1 = some (.recursive f l n)) :
    Includes fs f n ∧ (n = f ∨ Reaches fs n f) ∧ (f = root ∨ Reaches fs root f) := by
  obtain ⟨flt, st', hw, hk, rfl, _⟩ := (parseFile_recursive_iff cfg ign fs root f n l h).mp hr
  exact Fault.onPath_cycle (walkFile_fault_wf hw) hk

theorem parseFile_acyclic_not_recursive (cfg : Cfg) (ign : Bool) (fs : FS) (root : Bytes)
    (h : cfg.includePath = true) (hac : ¬ HasCycle fs root) (f n : Bytes) (l : Nat) :
    (parseFile cfg ign fs root).1 ≠ some (.recursive f l n) := by
  intro hr
  obtain ⟨hi, hback, hroot⟩ := parseFile_recursive_real cfg ign fs root f n l h hr
  exact hac (hasCycle_of_back_edge hi hback hroot)

/-- a line of a pure include graph: blank (no fields), or `$INCLUDE n` of an existing file -/
def PureLine (fs : FS) (raw : Bytes) : Prop :=
  Lex.fields (Lex.stripComment raw) = [] ∨
    ∃ n, Lex.fields (Lex.stripComment raw) = [kwINCLUDE, n] ∧ (fs.lookup n).isSome = true

/-- a file system that is nothing but an include graph (the members with empty bodies of the family
    "all include graphs on up to 4 files" of the differential test): every file scans, and every line is blank/comment
    or a `$INCLUDE` of an existing file -/
def PureIncludeFS (fs : FS) : Prop :=
  ∀ name text, fs.lookup name = some text → (Lex.lines text).2 = false ∧
    ∀ raw, raw ∈ (Lex.lines text).1 →
      Lex.fields (Lex.stripComment raw) = [] ∨
        ∃ n, Lex.fields (Lex.stripComment raw) = [kwINCLUDE, n] ∧ (fs.lookup n).isSome = true

theorem localStep_blank (cfg : Cfg) (ign : Bool) (file : Bytes) (lineNo : Nat) (vb : Option Bytes) (st : St)
    (raw : Bytes) (h11 : cfg.skipNoFields = true) (hf : Lex.fields (Lex.stripComment raw) = []) :
    localStep cfg ign file lineNo vb st raw = .next vb st := by
  simp only [localStep, stepLine]
  split
  · rfl
  · simp [h11, hf]

theorem PureLine.blank {fs : FS} {raw : Bytes} (h : PureLine fs raw) (hT : includeTarget none raw = none) :
    Lex.fields (Lex.stripComment raw) = [] := by
  rcases h with hb | ⟨n, hf, _⟩
  · exact hb
  · rw [includeTarget_eq_some.mpr ⟨rfl, hf⟩] at hT; cases hT

theorem walk_pure {cfg : Cfg} {ign : Bool} {fs : FS} {path : List Bytes} {tooLong : Bool}
    {ls : List Bytes} {lineNo : Nat} {vb : Option Bytes} {st : St} {r : Option Fault × St}
    (h : Walk cfg ign fs path tooLong ls lineNo vb st r)
    (h11 : cfg.skipNoFields = true) (hp : PureIncludeFS fs) :
    tooLong = false → vb = none → (∀ raw, raw ∈ ls → PureLine fs raw) →
      r.1 = none ∨ ∃ f n, r.1 = some f ∧ f.kind = .includeOnPath n := by
  induction h with
  | done => intro _ _ _; exact Or.inl rfl
  | scanErr => intro h1; cases h1
  | unclosed => intro _ h2; cases h2
  | line hT hs _ ih =>
    intro h1 h2 h3
    subst h2
    rw [localStep_blank _ _ _ _ _ _ _ h11 ((h3 _ List.mem_cons_self).blank hT)] at hs
    cases hs
    exact ih h1 rfl (fun raw' hm => h3 raw' (List.mem_cons_of_mem _ hm))
  | bad hT hs =>
    intro h1 h2 h3
    subst h2
    rw [localStep_blank _ _ _ _ _ _ _ h11 ((h3 _ List.mem_cons_self).blank hT)] at hs
    cases hs
  | missing hT hl =>
    intro h1 h2 h3
    obtain ⟨_, hf⟩ := includeTarget_eq_some.mp hT
    rcases h3 _ List.mem_cons_self with hb | ⟨n', hf', hsome⟩
    · rw [hb] at hf; cases hf
    · rw [hf'] at hf; cases hf
      rw [hl] at hsome; cases hsome
  | onPath => intro _ _ _; exact Or.inr ⟨_, _, rfl, rfl⟩
  | incOk _ _ _ _ _ _ ih2 =>
    intro h1 _ h3
    exact ih2 h1 rfl (fun raw' hm => h3 raw' (List.mem_cons_of_mem _ hm))
  | incFail _ hl _ _ ih1 =>
    intro _ _ _
    obtain ⟨htl, hlines⟩ := hp _ _ hl
    rcases ih1 htl rfl hlines with h | ⟨f', n', h, hk⟩
    · cases h
    · cases h; exact Or.inr ⟨_, n', rfl, hk⟩

theorem pure_graph_outcome (cfg : Cfg) (ign : Bool) (fs : FS) (root : Bytes) (h10 : cfg.includePath = true)
    (h11 : cfg.skipNoFields = true) (hp : PureIncludeFS fs) (hroot : (fs.lookup root).isSome = true) :
    (parseFile cfg ign fs root).1 = none ∨ ∃ f l n, (parseFile cfg ign fs root).1 = some (.recursive f l n) := by
  rcases opt_cases (fs.lookup root) with hl | ⟨text, hl⟩
  · rw [hl] at hroot; cases hroot
  · obtain ⟨o, st', hw, heq⟩ := parseFile_eq_walk cfg ign fs root text h10 hl
    obtain ⟨text', hl', hwalk⟩ := hw
    rw [hl] at hl'; cases hl'
    obtain ⟨htl, hlines⟩ := hp root text hl
    rw [heq]
    rcases walk_pure hwalk h11 hp htl rfl hlines with h | ⟨f, n, h, hk⟩
    · simp only at h; subst h; exact Or.inl rfl
    · simp only at h; subst h
      right
      exact ⟨f.path.headD [], f.line, n, by simp [Fault.report, hk]⟩

theorem pure_graph_recursive_iff (cfg : Cfg) (ign : Bool) (fs : FS) (root : Bytes) (h10 : cfg.includePath = true)
    (h11 : cfg.skipNoFields = true) (hp : PureIncludeFS fs) (hroot : (fs.lookup root).isSome = true) :
    (∃ f l n, (parseFile cfg ign fs root).1 = some (.recursive f l n)) ↔ HasCycle fs root := by
  constructor
  · rintro ⟨f, l, n, hr⟩
    exact Classical.byContradiction fun hac => parseFile_acyclic_not_recursive cfg ign fs root h10 hac f n l hr
  · intro hc
    rcases pure_graph_outcome cfg ign fs root h10 h11 hp hroot with h | h
    · exact absurd hc (parseFile_ok_acyclic cfg ign fs root h10 h)
    · exact h

theorem pure_graph_accepted_iff (cfg : Cfg) (ign : Bool) (fs : FS) (root : Bytes) (h10 : cfg.includePath = true)
    (h11 : cfg.skipNoFields = true) (hp : PureIncludeFS fs) (hroot : (fs.lookup root).isSome = true) :
    (parseFile cfg ign fs root).1 = none ↔ ¬ HasCycle fs root := by
  constructor
  · exact parseFile_ok_acyclic cfg ign fs root h10
  · intro hac
    rcases pure_graph_outcome cfg ign fs root h10 h11 hp hroot with h | ⟨f, l, n, h⟩
    · exact h
    · exact absurd h (parseFile_acyclic_not_recursive cfg ign fs root h10 hac f n l)

/-- `Nested` is not vacuous: an open that is never closed is not well nested -/
theorem not_nested_unclosed (n : Bytes) : ¬ Nested [Event.opened n] := by
  intro h
  have := (h.count_le n).1
  simp at this

/-- … nor are crossed brackets (LIFO order matters) -/
theorem not_nested_crossed : ¬ Nested [Event.opened nmA, Event.opened nmB, Event.closed nmA, Event.closed nmB] := by
  intro h
  generalize hw : [Event.opened nmA, Event.opened nmB, Event.closed nmA, Event.closed nmB] = w at h
  cases h with
  | nil => cases hw
  | @file n twice inner rest hin hrest =>
    simp only [List.cons.injEq, Event.opened.injEq] at hw
    obtain ⟨rfl, hw⟩ := hw
    cases inner with
    | nil => simp at hw
    | cons x inner =>
      simp only [List.cons_append, List.cons.injEq] at hw
      obtain ⟨rfl, hw⟩ := hw
      cases inner with
      | nil => exact not_nested_unclosed nmB hin
      | cons y inner =>
        simp only [List.cons_append, List.cons.injEq] at hw
        obtain ⟨rfl, hw⟩ := hw
        cases inner with
        | nil =>
          simp only [List.nil_append, List.cons.injEq, Event.closed.injEq] at hw
          exact absurd hw.1 (by decide)
        | cons z inner =>
          simp only [List.cons_append, List.cons.injEq] at hw
          obtain ⟨_, hw⟩ := hw
          simp at hw

end RV.DictParser
