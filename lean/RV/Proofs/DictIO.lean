/-
  C15, I/O failures.  The layer RV.Model.DictParserIO (read and close failures of files): without failure flags it is
  `parseFile` of RV.Model.DictParser (`parseFileIO_refines`); what each failure says about the file
  system (`FailureIO.Explained`); a run that succeeds met no flag; the log, handle by handle
  (`parseFileIO_log_shape`).
-/
import RV.Model.DictParserIO
import RV.Proofs.DictWalk

namespace RV.DictParser
open RV RV.Dict RV.C15

def StepIO.ofResult (vb : Option Bytes) : ResultIO → StepIO
  | (none, st') => .next vb st'
  | (some e, st') => .fail e st'

/-- a step of RV.Model.DictParser as a step of this layer -/
def Step.lift : Step → StepIO
  | .next vb st => .next vb st
  | .fail e st => .fail (.base e) st

/-- a handler of RV.Model.DictParser as a handler of this layer -/
def IncludeHandler.lift (h : IncludeHandler) : IncludeHandlerIO := fun n f l st => (h n f l st).lift

theorem stepLineIO_of_local (cfg : Cfg) (ign : Bool) (h : IncludeHandlerIO) (file : Bytes) (lineNo : Nat)
    (vb : Option Bytes) (st : St) (raw : Bytes) (hT : includeTarget vb raw = none) :
    stepLineIO cfg ign h file lineNo vb st raw = (localStep cfg ign file lineNo vb st raw).lift := by
  unfold stepLineIO
  rw [stepLine_local cfg ign askInclude file lineNo vb st raw hT]
  rcases localStep_cases cfg ign file lineNo vb st raw with ⟨vb', st', hs, _⟩ | ⟨c, hs⟩
  · rw [hs]; rfl
  · rw [hs]; rfl

theorem stepLineIO_of_target (cfg : Cfg) (ign : Bool) (h : IncludeHandlerIO) (file : Bytes) (lineNo : Nat)
    (vb : Option Bytes) (st : St) (raw n : Bytes) (hT : includeTarget vb raw = some n) :
    stepLineIO cfg ign h file lineNo vb st raw = StepIO.ofResult none (h n file lineNo st) := by
  unfold stepLineIO
  rw [stepLine_target cfg ign askInclude file lineNo vb st raw n hT]
  obtain ⟨rfl, _⟩ := includeTarget_eq_some.mp hT
  simp only [askInclude, Step.ofResult]
  rcases h n file lineNo st with ⟨_ | e, st'⟩ <;> rfl

theorem stepLineIO_lift (cfg : Cfg) (ign : Bool) (h : IncludeHandler) (file : Bytes) (lineNo : Nat)
    (vb : Option Bytes) (st : St) (raw : Bytes) :
    stepLineIO cfg ign h.lift file lineNo vb st raw = (stepLine cfg ign h file lineNo vb st raw).lift := by
  rcases opt_cases (includeTarget vb raw) with hT | ⟨n, hT⟩
  · rw [stepLineIO_of_local _ _ _ _ _ _ _ _ hT, stepLine_local cfg ign h file lineNo vb st raw hT]
  · rw [stepLineIO_of_target _ _ _ _ _ _ _ _ n hT, stepLine_target cfg ign h file lineNo vb st raw n hT]
    simp only [IncludeHandler.lift]
    rcases h n file lineNo st with ⟨_ | e, st'⟩ <;> rfl

theorem stepLineIO_cases (cfg : Cfg) (ign : Bool) (h : IncludeHandlerIO) (file : Bytes) (lineNo : Nat)
    (vb : Option Bytes) (st : St) (raw : Bytes) :
    (∃ vb' st', stepLineIO cfg ign h file lineNo vb st raw = .next vb' st' ∧ st'.log = st.log) ∨
    (∃ c, stepLineIO cfg ign h file lineNo vb st raw = .fail (.base (.decl c file lineNo)) st) ∨
    (∃ n, Lex.fields (Lex.stripComment raw) = [kwINCLUDE, n] ∧ vb = none ∧
      stepLineIO cfg ign h file lineNo vb st raw = StepIO.ofResult none (h n file lineNo st)) := by
  rcases opt_cases (includeTarget vb raw) with hT | ⟨n, hT⟩
  · rw [stepLineIO_of_local _ _ _ _ _ _ _ _ hT]
    rcases localStep_cases cfg ign file lineNo vb st raw with ⟨vb', st', hs, hl⟩ | ⟨c, hs⟩
    · exact Or.inl ⟨vb', st', by rw [hs]; rfl, hl⟩
    · exact Or.inr (Or.inl ⟨c, by rw [hs]; rfl⟩)
  · obtain ⟨hvb, hf⟩ := includeTarget_eq_some.mp hT
    exact Or.inr (Or.inr ⟨n, hf, hvb, stepLineIO_of_target _ _ _ _ _ _ _ _ n hT⟩)

section includeWithIO
variable (fs : FSIO) (onPath : Bytes → Bool)
  (recur : (name : Bytes) → (e : Bytes × Bool × Bool) → fs.lookup name = some e → onPath name = false →
    St → ResultIO)

theorem includeWithIO_none (name file : Bytes) (lineNo : Nat) (st : St) (h : fs.lookup name = none) :
    includeWithIO fs onPath recur name file lineNo st = (some (.base (.openErr file lineNo name)), st) := by
  unfold includeWithIO
  split
  · rfl
  · rename_i t ht; rw [h] at ht; cases ht

theorem includeWithIO_onPath (name : Bytes) (e : Bytes × Bool × Bool) (file : Bytes) (lineNo : Nat) (st : St)
    (h : fs.lookup name = some e) (hp : onPath name = true) :
    includeWithIO fs onPath recur name file lineNo st
      = (some (.base (.recursive file lineNo name)), (st.opened name).closed name) := by
  unfold includeWithIO
  split
  · rename_i ht; rw [h] at ht; cases ht
  · simp [hp]

theorem includeWithIO_rec (name : Bytes) (e : Bytes × Bool × Bool) (file : Bytes) (lineNo : Nat) (st : St)
    (h : fs.lookup name = some e) (hp : onPath name = false) :
    includeWithIO fs onPath recur name file lineNo st
      = afterIncludeIO e.2.2 name file lineNo (recur name e h hp (st.opened name)) := by
  unfold includeWithIO
  split
  · rename_i ht; rw [h] at ht; cases ht
  · rename_i e' ht
    have : e' = e := by rw [h] at ht; cases ht; rfl
    subst this
    simp [hp]

end includeWithIO

/-- the `$INCLUDE` closure `parseFileFixIO` runs while the include path is `path` -/
def fixHandlerIO (cfg : Cfg) (ign : Bool) (fs : FSIO) (path : List Bytes) : IncludeHandlerIO :=
  includeWithIO fs (fun n => path.contains n) fun name e _ _ st1 =>
    parseFileFixIO cfg ign fs (name :: path) name e.1 e.2.1 st1

theorem parseFileFixIO_eq (cfg : Cfg) (ign : Bool) (fs : FSIO) (path : List Bytes) (file text : Bytes)
    (rf : Bool) (st : St) :
    parseFileFixIO cfg ign fs path file text rf st
      = parseLinesIO cfg ign (fixHandlerIO cfg ign fs path) file (Lex.lines text).2 rf (Lex.lines text).1 1 none st := by
  rw [parseFileFixIO]
  rfl

theorem fixHandlerIO_none (cfg : Cfg) (ign : Bool) (fs : FSIO) (path : List Bytes) (n file : Bytes) (lineNo : Nat)
    (st : St) (hl : fs.lookup n = none) :
    fixHandlerIO cfg ign fs path n file lineNo st = (some (.base (.openErr file lineNo n)), st) :=
  includeWithIO_none fs _ _ n file lineNo st hl

theorem fixHandlerIO_onPath (cfg : Cfg) (ign : Bool) (fs : FSIO) (path : List Bytes) (n : Bytes)
    (e : Bytes × Bool × Bool) (file : Bytes) (lineNo : Nat) (st : St) (hl : fs.lookup n = some e)
    (hp : path.contains n = true) :
    fixHandlerIO cfg ign fs path n file lineNo st
      = (some (.base (.recursive file lineNo n)), (st.opened n).closed n) :=
  includeWithIO_onPath fs _ _ n e file lineNo st hl hp

theorem fixHandlerIO_rec (cfg : Cfg) (ign : Bool) (fs : FSIO) (path : List Bytes) (n : Bytes)
    (e : Bytes × Bool × Bool) (file : Bytes) (lineNo : Nat) (st : St) (hl : fs.lookup n = some e)
    (hp : path.contains n = false) :
    fixHandlerIO cfg ign fs path n file lineNo st
      = afterIncludeIO e.2.2 n file lineNo (parseFileFixIO cfg ign fs (n :: path) n e.1 e.2.1 (st.opened n)) := by
  unfold fixHandlerIO
  rw [includeWithIO_rec fs _ _ n e file lineNo st hl hp]

/-- no file of the file system has a failure flag -/
def FSIO.NoFlags (fs : FSIO) : Prop := ∀ x, x ∈ fs → x.2.2.1 = false ∧ x.2.2.2 = false

theorem FSIO.lookup_mem (fs : FSIO) (name : Bytes) (e : Bytes × Bool × Bool) (h : fs.lookup name = some e) :
    ∃ x, x ∈ fs ∧ x.2 = e := by
  unfold FSIO.lookup at h
  cases hf : fs.find? (·.1 == name) with
  | none => rw [hf] at h; cases h
  | some x =>
    rw [hf] at h
    exact ⟨x, List.mem_of_find?_eq_some hf, by simpa using h⟩

theorem FSIO.NoFlags.lookup {fs : FSIO} (hnf : fs.NoFlags) {name : Bytes} {e : Bytes × Bool × Bool}
    (h : fs.lookup name = some e) : e.2.1 = false ∧ e.2.2 = false := by
  obtain ⟨x, hx, rfl⟩ := FSIO.lookup_mem fs name e h
  exact hnf x hx

theorem FSIO.erase_ofFS (fs : FS) : (FSIO.ofFS fs).erase = fs := by
  unfold FSIO.erase FSIO.ofFS
  rw [List.map_map]
  exact List.map_id _

theorem FSIO.noFlags_ofFS (fs : FS) : (FSIO.ofFS fs).NoFlags := by
  intro x hx
  unfold FSIO.ofFS at hx
  obtain ⟨y, _, rfl⟩ := List.mem_map.mp hx
  exact ⟨rfl, rfl⟩

theorem parseLinesIO_lift (cfg : Cfg) (ign : Bool) (h : IncludeHandler) (file : Bytes) (tooLong : Bool)
    (lines : List Bytes) (lineNo : Nat) (vb : Option Bytes) (st : St) :
    parseLinesIO cfg ign h.lift file tooLong false lines lineNo vb st
      = (parseLines cfg ign h file tooLong lines lineNo vb st).lift := by
  induction lines generalizing lineNo vb st with
  | nil =>
    simp only [parseLinesIO, parseLines]
    cases tooLong with
    | true => rfl
    | false => cases vb <;> rfl
  | cons raw ls ih =>
    simp only [parseLinesIO, parseLines, stepLineIO_lift]
    cases stepLine cfg ign h file lineNo vb st raw with
    | next vb' st' => exact ih ..
    | fail e st' => rfl

theorem includeWithIO_lift (fs : FSIO) (hnf : fs.NoFlags) (onPath : Bytes → Bool)
    (recurIO : (name : Bytes) → (e : Bytes × Bool × Bool) → fs.lookup name = some e → onPath name = false →
      St → ResultIO)
    (recur : (name t : Bytes) → fs.erase.lookup name = some t → onPath name = false → St → Result)
    (hrec : ∀ name e hl hl' hp st, recurIO name e hl hp st = (recur name e.1 hl' hp st).lift)
    (name file : Bytes) (lineNo : Nat) (st : St) :
    includeWithIO fs onPath recurIO name file lineNo st
      = (includeWith fs.erase onPath recur name file lineNo st).lift := by
  rcases opt_cases (fs.lookup name) with hl | ⟨e, hl⟩
  · have hl' : fs.erase.lookup name = none := by rw [FSIO.lookup_erase, hl]; rfl
    rw [includeWithIO_none fs onPath recurIO name file lineNo st hl,
      includeWith_none fs.erase onPath recur name file lineNo st hl']
    rfl
  · have hl' := FSIO.lookup_erase_some fs name e hl
    rcases bool_cases (onPath name) with hp | hp
    · rw [includeWithIO_onPath fs onPath recurIO name e file lineNo st hl hp,
        includeWith_onPath fs.erase onPath recur name e.1 file lineNo st hl' hp]
      rfl
    · rw [includeWithIO_rec fs onPath recurIO name e file lineNo st hl hp,
        includeWith_rec fs.erase onPath recur name e.1 file lineNo st hl' hp,
        hrec name e hl hl' hp, (hnf.lookup hl).2]
      rcases recur name e.1 hl' hp (st.opened name) with ⟨_ | e2, st2⟩ <;> rfl

theorem parseFileFixIO_lift (cfg : Cfg) (ign : Bool) (fs : FSIO) (hnf : fs.NoFlags) (path : List Bytes)
    (file text : Bytes) (st : St) :
    parseFileFixIO cfg ign fs path file text false st
      = (parseFileFix cfg ign fs.erase path file text st).lift := by
  -- `parseFileFixIO.induct` wants `readFails` as a variable
  generalize hrf : false = rf
  induction path, file, text, rf, st using parseFileFixIO.induct fs with
  | _ path file text rf st ih =>
    subst hrf
    rw [parseFileFixIO_eq, parseFileFix_eq]
    have hH : fixHandlerIO cfg ign fs path = (fixHandler cfg ign fs.erase path).lift := by
      funext name f l s
      unfold fixHandlerIO fixHandler IncludeHandler.lift
      apply includeWithIO_lift fs hnf
      intro n e hl hl' hp st0
      exact ih n e hl hp st0 (hnf.lookup hl).1.symm
    rw [hH]
    exact parseLinesIO_lift ..

theorem parseFileIO_refines (cfg : Cfg) (ign : Bool) (fs : FSIO) (root : Bytes) (hc : cfg.includePath = true)
    (hnf : fs.NoFlags) : parseFileIO cfg ign fs root = (parseFile cfg ign fs.erase root).lift := by
  unfold parseFileIO parseFile
  rcases opt_cases (fs.lookup root) with hl | ⟨e, hl⟩
  · have hl' : fs.erase.lookup root = none := by rw [FSIO.lookup_erase, hl]; rfl
    rw [hl, hl']; rfl
  · have hl' := FSIO.lookup_erase_some fs root e hl
    rw [hl, hl']
    simp only [parseRoot, hc, if_true]
    rw [(hnf.lookup hl).1, parseFileFixIO_lift cfg ign fs hnf]
    rfl

/-- Where a failure of the line loop of a file with the lines `all` comes from; `pre` = the lines
    already passed, and `hpre` says that the loop over `all`, started in `st0`, has arrived here.
    A read error reported HERE (`hread`) means: the scanner was content, every line went through -
    with a reader that does not fail the loop over `all` ends in success, or in nothing but the
    unclosed vendor block. -/
theorem parseLinesIO_fail (cfg : Cfg) (ign : Bool) (h : IncludeHandlerIO) (file : Bytes) (tooLong rf : Bool)
    (Q : FailureIO → Prop) (all : List Bytes) (st0 : St)
    (hscan : tooLong = true → Q (.base .scanner))
    (hread : ∀ st', tooLong = false → rf = true →
      (parseLinesIO cfg ign h file tooLong false all 1 none st0 = (none, st') ∨
       ∃ l, parseLinesIO cfg ign h file tooLong false all 1 none st0
         = (some (.base (.decl .unclosedVendorBlock file l)), st')) → Q .readErr)
    (hdecl : ∀ c l, 1 ≤ l → l ≤ all.length → Q (.base (.decl c file l)))
    (hinc : ∀ raw n l st1 e st2, all[l - 1]? = some raw → 1 ≤ l →
      Lex.fields (Lex.stripComment raw) = [kwINCLUDE, n] → h n file l st1 = (some e, st2) → Q e)
    (pre lines : List Bytes) (lineNo : Nat) (vb : Option Bytes) (st : St) (e : FailureIO) (st' : St)
    (hall : all = pre ++ lines) (hno : lineNo = pre.length + 1) (hvb : vb ≠ none → pre ≠ [])
    (hpre : ∀ b, parseLinesIO cfg ign h file tooLong b all 1 none st0
      = parseLinesIO cfg ign h file tooLong b lines lineNo vb st)
    (hr : parseLinesIO cfg ign h file tooLong rf lines lineNo vb st = (some e, st')) : Q e := by
  induction lines generalizing pre lineNo vb st with
  | nil =>
    simp only [parseLinesIO] at hr
    cases tooLong with
    | true => cases hr; exact hscan rfl
    | false =>
      cases rf with
      | true =>
        cases hr
        refine hread st' rfl rfl ?_
        rw [hpre false]
        cases vb with
        | none => exact Or.inl rfl
        | some v => exact Or.inr ⟨lineNo - 1, rfl⟩
      | false =>
        cases vb with
        | none => cases hr
        | some v =>
          cases hr
          have := List.length_pos_iff.mpr (hvb (by simp))
          exact hdecl _ _ (by omega) (by rw [hall, List.append_nil]; omega)
  | cons raw ls ih =>
    have hlen : lineNo ≤ all.length := by rw [hall, List.length_append, List.length_cons]; omega
    -- the loop goes on behind this line
    have next : ∀ vb1 st1, (∀ b, parseLinesIO cfg ign h file tooLong b (raw :: ls) lineNo vb st
          = parseLinesIO cfg ign h file tooLong b ls (lineNo + 1) vb1 st1) → Q e := fun vb1 st1 hstep =>
      ih (pre ++ [raw]) (lineNo + 1) vb1 st1 (by rw [hall, List.append_assoc]; rfl)
        (by rw [List.length_append, hno]; rfl) (fun _ => by simp) (fun b => (hpre b).trans (hstep b))
        ((hstep rf).symm.trans hr)
    rcases stepLineIO_cases cfg ign h file lineNo vb st raw with
      ⟨vb1, st1, hs, _⟩ | ⟨c, hs⟩ | ⟨n, hf, _, hs⟩
    · exact next vb1 st1 fun b => by simp only [parseLinesIO, hs]
    · simp only [parseLinesIO, hs] at hr
      cases hr
      exact hdecl c lineNo (by omega) hlen
    · rcases hres : h n file lineNo st with ⟨_ | e1, st1⟩
      · rw [hres] at hs
        exact next none st1 fun b => by simp only [parseLinesIO, hs, StepIO.ofResult]
      · rw [hres] at hs
        simp only [parseLinesIO, hs, StepIO.ofResult] at hr
        cases hr
        exact hinc raw n lineNo st e st' (by rw [hall, hno]; simp) (by omega) hf hres

/-- `f` is the root file or a file the root leads to through `$INCLUDE` lines -/
def OnWalk (fs : FSIO) (root f : Bytes) : Prop := f = root ∨ Reaches fs.erase root f

/-- What a failure of a run started at `root` says.
    * a ParseError-class failure names a file ON THE WALK and a line of it, counted from 1; for the
      `$INCLUDE` failures that line is the directive `$INCLUDE n`;
    * `closeErr f l n`: line `l` of `f` is `$INCLUDE n`, `n` is a file whose `Close` fails, and the
      parse of `n` (on some include path, from some state) went through without failure;
    * `readErr`: some file `g` on the walk has a failing reader, the scanner was content with what
      `g` delivered, and all of its lines went through: with a reader that does not fail, the parse
      of `g` from the same state ends in success or in nothing but an unclosed vendor block;
    * `scanner`: some file on the walk has a line that does not fit the scanner's buffer. -/
def FailureIO.Explained (cfg : Cfg) (ign : Bool) (fs : FSIO) (root : Bytes) : FailureIO → Prop
  | .base .scanner => ∃ g e, OnWalk fs root g ∧ fs.lookup g = some e ∧ (Lex.lines e.1).2 = true
  | .base (.decl _ f l) =>
      ∃ e, OnWalk fs root f ∧ fs.lookup f = some e ∧ 1 ≤ l ∧ l ≤ (Lex.lines e.1).1.length
  | .base (.openErr f l n) =>
      ∃ e, OnWalk fs root f ∧ fs.lookup f = some e ∧ IncludeLineAt e.1 l n ∧ fs.lookup n = none
  | .base (.recursive f l n) =>
      ∃ e, OnWalk fs root f ∧ fs.lookup f = some e ∧ IncludeLineAt e.1 l n ∧ (fs.lookup n).isSome = true ∧
        (n = f ∨ Reaches fs.erase n f)
  | .base .rootOpen => fs.lookup root = none
  | .base .outOfFuel => False
  | .readErr =>
      ∃ g e path st0 st1, OnWalk fs root g ∧ fs.lookup g = some e ∧ e.2.1 = true ∧ (Lex.lines e.1).2 = false ∧
        (parseFileFixIO cfg ign fs path g e.1 false st0 = (none, st1) ∨
         ∃ l, parseFileFixIO cfg ign fs path g e.1 false st0
           = (some (.base (.decl .unclosedVendorBlock g l)), st1))
  | .closeErr f l n =>
      ∃ e en path st0 st1, OnWalk fs root f ∧ fs.lookup f = some e ∧ IncludeLineAt e.1 l n ∧
        fs.lookup n = some en ∧ en.2.2 = true ∧
        parseFileFixIO cfg ign fs path n en.1 en.2.1 st0 = (none, st1)

theorem IncludeLineAt.includes {fs : FSIO} {f n : Bytes} {e : Bytes × Bool × Bool} {l : Nat}
    (hl : fs.lookup f = some e) (h : IncludeLineAt e.1 l n) : Includes fs.erase f n := by
  obtain ⟨_, raw, hget, hf⟩ := h
  exact ⟨e.1, FSIO.lookup_erase_some fs f e hl, mem_includesOf.mpr ⟨raw, List.mem_of_getElem? hget, hf⟩⟩

theorem IncludeLineAt.le {t n : Bytes} {l : Nat} (h : IncludeLineAt t l n) : l ≤ (Lex.lines t).1.length := by
  obtain ⟨h1, raw, hget, _⟩ := h
  have := (List.getElem?_eq_some_iff.mp hget).1
  omega

theorem parseFileFixIO_explained (cfg : Cfg) (ign : Bool) (fs : FSIO) (root : Bytes)
    (path : List Bytes) (file text : Bytes) (rf : Bool) (st : St) (e : FailureIO) (st' : St)
    (hl : ∃ cf, fs.lookup file = some (text, rf, cf))
    (hpath : ∀ p, p ∈ path → p = file ∨ Reaches fs.erase p file)
    (hroot : OnWalk fs root file)
    (hr : parseFileFixIO cfg ign fs path file text rf st = (some e, st')) :
    e.Explained cfg ign fs root := by
  induction path, file, text, rf, st using parseFileFixIO.induct fs generalizing e st' with
  | _ path file text rf st ih =>
    obtain ⟨cf, hl⟩ := hl
    rw [parseFileFixIO_eq] at hr
    refine parseLinesIO_fail cfg ign _ file _ rf (FailureIO.Explained cfg ign fs root) (Lex.lines text).1 st
      (fun h2 => ⟨file, _, hroot, hl, h2⟩)
      (fun st' h2 h3 h4 => ⟨file, _, path, st, st', hroot, hl, h3, h2, by rw [parseFileFixIO_eq]; exact h4⟩)
      (fun c l h1 h2 => ⟨_, hroot, hl, h1, h2⟩)
      ?_ [] _ 1 none st e st' rfl rfl (fun h => absurd rfl h) (fun _ => rfl) hr
    intro raw n l st1 e1 st2 hget h1 hf hh
    have hline : IncludeLineAt text l n := ⟨h1, raw, hget, hf⟩
    have hinc : Includes fs.erase file n := IncludeLineAt.includes hl hline
    rcases opt_cases (fs.lookup n) with hn | ⟨en, hn⟩
    · rw [fixHandlerIO_none cfg ign fs path n file l st1 hn] at hh
      cases hh
      exact ⟨_, hroot, hl, hline, hn⟩
    rcases bool_cases (path.contains n) with hp | hp
    · rw [fixHandlerIO_onPath cfg ign fs path n en file l st1 hn hp] at hh
      cases hh
      exact ⟨_, hroot, hl, hline, by simp [hn], hpath n (by simpa using hp)⟩
    · rw [fixHandlerIO_rec cfg ign fs path n en file l st1 hn hp] at hh
      rcases hres : parseFileFixIO cfg ign fs (n :: path) n en.1 en.2.1 (st1.opened n) with ⟨_ | e2, st3⟩
      · -- the parse of `n` went through: what fails is its `Close`
        rw [hres] at hh
        cases hc : en.2.2 with
        | false => rw [afterIncludeIO, hc] at hh; cases hh
        | true =>
          rw [afterIncludeIO, hc] at hh
          cases hh
          exact ⟨_, en, n :: path, _, st3, hroot, hl, hline, hn, hc, hres⟩
      · rw [hres] at hh
        cases hh
        refine ih n en hn hp _ e1 st3 ⟨en.2.2, hn⟩ ?_ ?_ hres
        · intro p hpm
          rcases List.mem_cons.mp hpm with rfl | hpm
          · exact Or.inl rfl
          · rcases hpath p hpm with rfl | hreach
            · exact Or.inr (.step hinc)
            · exact Or.inr (hreach.snoc hinc)
        · rcases hroot with rfl | hreach
          · exact Or.inr (.step hinc)
          · exact Or.inr (hreach.snoc hinc)

theorem parseFileIO_none (cfg : Cfg) (ign : Bool) (fs : FSIO) (root : Bytes) (hl : fs.lookup root = none) :
    parseFileIO cfg ign fs root = (some (.base .rootOpen), {}) := by
  simp [parseFileIO, hl]

theorem parseFileIO_some (cfg : Cfg) (ign : Bool) (fs : FSIO) (root : Bytes) (e : Bytes × Bool × Bool)
    (hl : fs.lookup root = some e) :
    parseFileIO cfg ign fs root
      = ((parseFileFixIO cfg ign fs [root] root e.1 e.2.1 (St.opened {} root)).1,
         (parseFileFixIO cfg ign fs [root] root e.1 e.2.1 (St.opened {} root)).2.closed root) := by
  simp [parseFileIO, hl]

/-- the files a log says were opened have a reader that works and a `Close` that works -/
def LogClean (fs : FSIO) (w : List Event) : Prop :=
  ∀ n, Event.opened n ∈ w → ∃ en, fs.lookup n = some en ∧ en.2.1 = false ∧ en.2.2 = false

theorem parseLinesIO_ok (cfg : Cfg) (ign : Bool) (hIO : IncludeHandlerIO) (h : IncludeHandler) (file : Bytes)
    (tooLong rf : Bool) (fs : FSIO)
    (hh : ∀ n f l st st1, hIO n f l st = (none, st1) →
      h n f l st = (none, st1) ∧ ∃ w, st1.log = st.log ++ w ∧ LogClean fs w)
    (lines : List Bytes) (lineNo : Nat) (vb : Option Bytes) (st st' : St)
    (hr : parseLinesIO cfg ign hIO file tooLong rf lines lineNo vb st = (none, st')) :
    rf = false ∧ parseLines cfg ign h file tooLong lines lineNo vb st = (none, st') ∧
      ∃ w, st'.log = st.log ++ w ∧ LogClean fs w := by
  induction lines generalizing lineNo vb st with
  | nil =>
    simp only [parseLinesIO] at hr
    cases tooLong <;> cases rf <;> cases vb <;> cases hr
    exact ⟨rfl, rfl, [], (List.append_nil _).symm, fun n hn => nomatch hn⟩
  | cons raw ls ih =>
    simp only [parseLinesIO] at hr
    simp only [parseLines]
    cases hT : includeTarget vb raw with
    | none =>
      rw [stepLineIO_of_local _ _ _ _ _ _ _ _ hT] at hr
      rw [stepLine_local cfg ign h file lineNo vb st raw hT]
      rcases localStep_cases cfg ign file lineNo vb st raw with ⟨vb1, st1, hs, hl⟩ | ⟨c, hs⟩
      · rw [hs] at hr ⊢
        obtain ⟨h1, h2, w, hw, hc⟩ := ih _ _ _ hr
        exact ⟨h1, h2, w, by rw [hw, hl], hc⟩
      · rw [hs] at hr; cases hr
    | some n =>
      rw [stepLineIO_of_target _ _ _ _ _ _ _ _ n hT] at hr
      rw [stepLine_target cfg ign h file lineNo vb st raw n hT]
      rcases hres : hIO n file lineNo st with ⟨_ | e1, st1⟩
      · rw [hres] at hr
        obtain ⟨hsim, w1, hw1, hc1⟩ := hh n file lineNo st st1 hres
        obtain ⟨h1, h2, w2, hw2, hc2⟩ := ih _ _ _ hr
        rw [hsim]
        refine ⟨h1, h2, w1 ++ w2, by rw [hw2, hw1, List.append_assoc], fun m hm => ?_⟩
        exact (List.mem_append.mp hm).elim (hc1 m) (hc2 m)
      · rw [hres] at hr; cases hr

theorem fixHandlerIO_ok_inv (cfg : Cfg) (ign : Bool) (fs : FSIO) (path : List Bytes) (n file : Bytes)
    (lineNo : Nat) (st st1 : St) (hr : fixHandlerIO cfg ign fs path n file lineNo st = (none, st1)) :
    ∃ en st2, fs.lookup n = some en ∧ path.contains n = false ∧ en.2.2 = false ∧
      parseFileFixIO cfg ign fs (n :: path) n en.1 en.2.1 (st.opened n) = (none, st2) ∧
      st1 = (st2.closed n).closed n := by
  rcases opt_cases (fs.lookup n) with hl | ⟨en, hl⟩
  · rw [fixHandlerIO_none cfg ign fs path n file lineNo st hl] at hr; cases hr
  rcases bool_cases (path.contains n) with hp | hp
  · rw [fixHandlerIO_onPath cfg ign fs path n en file lineNo st hl hp] at hr; cases hr
  · rw [fixHandlerIO_rec cfg ign fs path n en file lineNo st hl hp] at hr
    rcases hres : parseFileFixIO cfg ign fs (n :: path) n en.1 en.2.1 (st.opened n) with ⟨_ | e2, st2⟩
    · rw [hres] at hr
      cases hc : en.2.2 with
      | true => rw [afterIncludeIO, hc] at hr; cases hr
      | false =>
        rw [afterIncludeIO, hc] at hr
        cases hr
        exact ⟨en, st2, hl, hp, hc, hres, rfl⟩
    · rw [hres] at hr; cases hr

theorem parseFileFixIO_ok (cfg : Cfg) (ign : Bool) (fs : FSIO) (path : List Bytes) (file text : Bytes)
    (rf : Bool) (st st' : St) (hr : parseFileFixIO cfg ign fs path file text rf st = (none, st')) :
    rf = false ∧ parseFileFix cfg ign fs.erase path file text st = (none, st') ∧
      ∃ w, st'.log = st.log ++ w ∧ LogClean fs w := by
  induction path, file, text, rf, st using parseFileFixIO.induct fs generalizing st' with
  | _ path file text rf st ih =>
    rw [parseFileFixIO_eq] at hr
    rw [parseFileFix_eq]
    refine parseLinesIO_ok cfg ign _ _ file _ rf fs ?_ _ _ _ _ _ hr
    intro n f l st0 st1 hh
    obtain ⟨en, st2, hl, hp, hcf, hsub, rfl⟩ := fixHandlerIO_ok_inv cfg ign fs path n f l st0 st1 hh
    obtain ⟨hrf, hsim, w, hw, hc⟩ := ih n en hl hp _ st2 hsub
    constructor
    · rw [fixHandler_rec cfg ign fs.erase path n en.1 f l st0 (FSIO.lookup_erase_some fs n en hl)
        (by simpa using hp), ← parseFileFix_eq, hsim]
      rfl
    · refine ⟨Event.opened n :: (w ++ [Event.closed n, Event.closed n]), by simp [St.closed, hw, St.opened], ?_⟩
      intro m' hm'
      simp only [List.mem_cons, List.mem_append, Event.opened.injEq, reduceCtorEq, List.not_mem_nil, or_false,
        or_self] at hm'
      rcases hm' with rfl | hm'
      · exact ⟨en, hl, hrf, hcf⟩
      · exact hc m' hm'

theorem parseFileIO_ok (cfg : Cfg) (ign : Bool) (fs : FSIO) (root : Bytes) (st : St)
    (hr : parseFileIO cfg ign fs root = (none, st)) :
    (cfg.includePath = true → parseFile cfg ign fs.erase root = (none, st)) ∧
    (∃ en, fs.lookup root = some en ∧ en.2.1 = false) ∧
    ∃ w, st.log = Event.opened root :: (w ++ [Event.closed root]) ∧ LogClean fs w := by
  rcases opt_cases (fs.lookup root) with hl | ⟨en, hl⟩
  · rw [parseFileIO_none cfg ign fs root hl] at hr; cases hr
  · rw [parseFileIO_some cfg ign fs root en hl] at hr
    rcases hres : parseFileFixIO cfg ign fs [root] root en.1 en.2.1 (St.opened {} root) with ⟨e', st'⟩
    rw [hres] at hr
    cases hr
    obtain ⟨hrf, hsim, w, hw, hc⟩ := parseFileFixIO_ok cfg ign fs [root] root en.1 en.2.1 _ st' hres
    refine ⟨fun hc => ?_, ⟨en, hl, hrf⟩, w, by simp [St.closed, hw, St.opened], hc⟩
    simp [parseFile, FSIO.lookup_erase_some fs root en hl, parseRoot, hc, hsim]

/-- `parseFileFixIO` is defined by well-founded recursion, which `decide` does not evaluate; this twin
    recurses on fuel and is what the examples evaluate -/
def parseFuelIO (cfg : Cfg) (ign : Bool) (fs : FSIO) : Nat → List Bytes → Bytes → Bytes → Bool → St → ResultIO
  | 0, _, _, _, _, st => (some (.base .outOfFuel), st)
  | fuel + 1, path, file, text, rf, st =>
    parseBodyIO cfg ign
      (includeWithIO fs (fun n => path.contains n) fun name e _ _ st1 =>
        parseFuelIO cfg ign fs fuel (name :: path) name e.1 e.2.1 st1)
      file text rf st

theorem parseFuelIO_eq (cfg : Cfg) (ign : Bool) (fs : FSIO) (fuel : Nat) (path : List Bytes) (file text : Bytes)
    (rf : Bool) (st : St) (hf : unvisited fs.erase path < fuel) :
    parseFuelIO cfg ign fs fuel path file text rf st = parseFileFixIO cfg ign fs path file text rf st := by
  induction fuel generalizing path file text rf st with
  | zero => omega
  | succ k ih =>
    rw [parseFuelIO, parseFileFixIO_eq]
    have hH : (includeWithIO fs (fun n => path.contains n) fun name e _ _ st1 =>
        parseFuelIO cfg ign fs k (name :: path) name e.1 e.2.1 st1) = fixHandlerIO cfg ign fs path := by
      funext name f l s
      rcases opt_cases (fs.lookup name) with hl | ⟨en, hl⟩
      · rw [includeWithIO_none fs _ _ name f l s hl, fixHandlerIO_none cfg ign fs path name f l s hl]
      · rcases bool_cases (path.contains name) with hp | hp
        · rw [includeWithIO_onPath fs _ _ name en f l s hl hp, fixHandlerIO_onPath cfg ign fs path name en f l s hl hp]
        · rw [includeWithIO_rec fs _ _ name en f l s hl hp, fixHandlerIO_rec cfg ign fs path name en f l s hl hp]
          have := unvisited_lt fs.erase path name en.1 (FSIO.lookup_erase_some fs name en hl) (by simpa using hp)
          rw [ih (name :: path) name en.1 en.2.1 (s.opened name) (by omega)]
    rw [hH]
    rfl

theorem unvisited_le_length (fs : FS) (path : List Bytes) : unvisited fs path ≤ fs.length := by
  induction fs with
  | nil => simp [unvisited]
  | cons e es ih => simp only [unvisited, List.length_cons]; split <;> omega

/-- `parseFileIO` with the recursion unfolded `fs.length + 1` levels deep: the same function -/
def parseFileFuelIO (cfg : Cfg) (ign : Bool) (fs : FSIO) (root : Bytes) : ResultIO :=
  match fs.lookup root with
  | none => (some (.base .rootOpen), {})
  | some e =>
    let r := parseFuelIO cfg ign fs (fs.length + 1) [root] root e.1 e.2.1 (St.opened {} root)
    (r.1, r.2.closed root)

/-- `VALUE A v 1\n` -/
def textLeaf : Bytes := kwVALUE ++ [32, 65, 32, 118, 32, 49, 10]

/-- root: `$INCLUDE a`, then a VALUE line; the reader of `a` fails after its only line -/
def fsReadFails : FSIO :=
  [(nmRoot, inc nmA ++ textLeaf, false, false), (nmA, textLeaf, true, false)]

/-- the same, but the reader of `a` fails in the middle of a second line: `VAL` has been delivered.
    The scanner hands `VAL` out as a last line, and its refusal is what `parse` reports -/
def fsReadTruncated : FSIO :=
  [(nmRoot, inc nmA ++ textLeaf, false, false), (nmA, textLeaf ++ [86, 65, 76], true, false)]

/-- `VENDOR v 1\nBEGIN-VENDOR v\n` -/
def textOpenBlock : Bytes :=
  kwVENDOR ++ [32, 118, 32, 49, 10] ++ kwBEGIN ++ [32, 118, 10]

/-- the reader of the root fails at the end of a text that leaves a vendor block open:
    `s.Err()` is looked at before the block -/
def fsReadThenUnclosed : FSIO := [(nmRoot, textOpenBlock, true, false)]

/-- root: `$INCLUDE a`, then a VALUE line; the first `Close` of `a` fails -/
def fsCloseFails : FSIO :=
  [(nmRoot, inc nmA ++ textLeaf, false, false), (nmA, textLeaf, false, true)]

/-- `Close` failures that cannot show: the root's (the error of `defer f.Close()` is dropped), and
    that of `a`, whose parse fails (root → a → root), so that only the deferred `Close` runs -/
def fsCloseIgnored : FSIO := [(nmRoot, inc nmA, false, true), (nmA, inc nmRoot, false, true)]

/-! ## Logs, per HANDLE: well nested; closed twice / once

`OpensClosed` (`RV.C15.io_opens_closed`) matches opens and closes BY NAME.  Where one name
is open twice - every RecursiveInclude opens a file that is already open on the include path - the
later close of the OUTER handle also "closes" the re-opened one, so `OpensClosed` would hold of a
log in which the re-opened handle is never closed.  The statements of this section are about
handles: `Nested` (RV.Proofs.DictWalk) is the language of well-bracketed logs, every `opened n`
matched by its OWN `closed n` (once or twice, directly after one another); `ClosedTwice` and
`UnwoundIO` say which of the two it is.  They are the forms of `Nested` and `Unwound` in which the
success path (closed twice) and the error path (closed once) are told apart; all four are read off
`afterInclude` / `afterIncludeIO` and change with them. -/

/-- the log of a stretch in which every include SUCCEEDED: well bracketed, every handle closed
    exactly TWICE (the explicit `incFile.Close()` and the deferred one), the two directly after one another -/
inductive ClosedTwice : List Event → Prop where
  | nil : ClosedTwice []
  | file (n : Bytes) {inner rest : List Event} : ClosedTwice inner → ClosedTwice rest →
      ClosedTwice (Event.opened n :: (inner ++ Event.closed n :: Event.closed n :: rest))

theorem ClosedTwice.append {a b : List Event} (ha : ClosedTwice a) (hb : ClosedTwice b) : ClosedTwice (a ++ b) := by
  induction ha with
  | nil => exact hb
  | @file n inner rest h1 _ _ ih2 =>
    have := ClosedTwice.file n h1 ih2
    simpa [List.append_assoc] using this

theorem ClosedTwice.nested {w : List Event} (h : ClosedTwice w) : Nested w := by
  induction h with
  | nil => exact .nil
  | @file n inner rest _ _ ih1 ih2 => exact Nested.file n true ih1 ih2

theorem ClosedTwice.count_eq {w : List Event} (h : ClosedTwice w) (n : Bytes) :
    w.count (Event.closed n) = 2 * w.count (Event.opened n) := by
  induction h with
  | nil => simp
  | @file m inner rest _ _ ih1 ih2 =>
    by_cases hm : m = n <;> simp [List.count_append, hm] <;> omega

/-- the file a ParseError-class failure names -/
def FailureIO.file? : FailureIO → Option Bytes
  | .base (.decl _ f _) | .base (.openErr f _ _) | .base (.recursive f _ _) | .closeErr f _ _ => some f
  | _ => none

/-- what the failing line itself adds to the log, in the file where the failure arises:
    * RecursiveInclude of `n`: the handle that was opened - a second handle on a file of the include
      path - and its ONE close (the deferred one);
    * a failing `Close` of `n`: the handle, the log of its (successful) parse, its TWO closes;
    * every other failure (refused line, scanner, reader, unclosed block, missing file): nothing. -/
inductive FaultTail : FailureIO → List Event → Prop where
  | plain {e : FailureIO} : (∀ f l n, e ≠ .base (.recursive f l n)) → (∀ f l n, e ≠ .closeErr f l n) →
      FaultTail e []
  | reopened (f : Bytes) (l : Nat) (n : Bytes) :
      FaultTail (.base (.recursive f l n)) [Event.opened n, Event.closed n]
  | closeFailed (f : Bytes) (l : Nat) (n : Bytes) {inner : List Event} : ClosedTwice inner →
      FaultTail (.closeErr f l n) (Event.opened n :: (inner ++ [Event.closed n, Event.closed n]))

theorem FaultTail.nested {e : FailureIO} {t : List Event} (h : FaultTail e t) : Nested t := by
  cases h with
  | plain => exact .nil
  | reopened f l n => exact Nested.openClose n
  | closeFailed f l n hin =>
    have := Nested.file n true hin.nested Nested.nil
    simpa using this

/-- The log that the parse of `file` (already open) adds when it fails with `e`; `ns` = the handles
    opened below `file` that are still open when the failure arises, outermost first.  Everything
    that completed before (`w`) is `ClosedTwice`; each handle of `ns` is opened once and, after the
    failure, closed exactly ONCE, innermost first (only the deferred `Close` runs on an error path);
    the failure arises in the last file of `file :: ns`, which is the file `e` names (if it names
    one), and adds its `FaultTail` there. -/
inductive UnwoundIO (e : FailureIO) : Bytes → List Bytes → List Event → Prop where
  | here {file : Bytes} {w t : List Event} : ClosedTwice w → FaultTail e t →
      (∀ g, e.file? = some g → g = file) → UnwoundIO e file [] (w ++ t)
  | into {file : Bytes} (n : Bytes) {ns : List Bytes} {w inner : List Event} : ClosedTwice w →
      UnwoundIO e n ns inner → UnwoundIO e file (n :: ns) (w ++ Event.opened n :: (inner ++ [Event.closed n]))

theorem UnwoundIO.nested {e : FailureIO} {file : Bytes} {ns : List Bytes} {w : List Event}
    (h : UnwoundIO e file ns w) : Nested w := by
  induction h with
  | here h1 h2 _ => exact h1.nested.append h2.nested
  | into n h1 _ ih =>
    have := Nested.file n false ih Nested.nil
    exact h1.nested.append (by simpa using this)

theorem UnwoundIO.prepend {e : FailureIO} {file : Bytes} {ns : List Bytes} {a w : List Event}
    (ha : ClosedTwice a) (h : UnwoundIO e file ns w) : UnwoundIO e file ns (a ++ w) := by
  cases h with
  | here h1 h2 h3 =>
    rw [← List.append_assoc]
    exact .here (ha.append h1) h2 h3
  | into n h1 h2 =>
    rw [← List.append_assoc]
    exact .into n (ha.append h1) h2

theorem UnwoundIO.names_innermost {e : FailureIO} {file : Bytes} {ns : List Bytes} {w : List Event}
    (h : UnwoundIO e file ns w) : ∀ g, e.file? = some g → (file :: ns).getLast? = some g := by
  induction h with
  | here _ _ h3 => intro g hg; rw [h3 g hg]; rfl
  | @into file n ns w inner _ _ ih =>
    intro g hg
    rw [List.getLast?_cons_cons]
    exact ih g hg

theorem UnwoundIO.suffix {e : FailureIO} {file : Bytes} {ns : List Bytes} {w : List Event}
    (h : UnwoundIO e file ns w) :
    ∃ pre t, FaultTail e t ∧ w = pre ++ t ++ ns.reverse.map Event.closed := by
  induction h with
  | @here file w t _ h2 _ => exact ⟨w, t, h2, by simp⟩
  | @into file n ns w inner _ _ ih =>
    obtain ⟨pre, t, ht, hw⟩ := ih
    exact ⟨w ++ Event.opened n :: pre, t, ht, by rw [hw]; simp⟩

theorem FaultTail.recursive_inv {f n : Bytes} {l : Nat} {t : List Event}
    (h : FaultTail (.base (.recursive f l n)) t) : t = [Event.opened n, Event.closed n] := by
  cases h with
  | plain h1 _ => exact absurd rfl (h1 f l n)
  | reopened => rfl

/-- the shape of what a run adds to the log, by outcome -/
def LogShape (st : St) (file : Bytes) (r : ResultIO) : Prop :=
  ∃ w, r.2.log = st.log ++ w ∧
    match r.1 with
    | none => ClosedTwice w
    | some e => ∃ ns, UnwoundIO e file ns w

theorem LogShape.ok {st st' : St} {file : Bytes} {w : List Event} (hw : st'.log = st.log ++ w)
    (h : ClosedTwice w) : LogShape st file (none, st') := ⟨w, hw, h⟩

theorem LogShape.fail {st st' : St} {file : Bytes} {e : FailureIO} {ns : List Bytes} {w : List Event}
    (hw : st'.log = st.log ++ w) (h : UnwoundIO e file ns w) : LogShape st file (some e, st') := ⟨w, hw, ns, h⟩

theorem LogShape.plainHere (st : St) (file : Bytes) (e : FailureIO)
    (h1 : ∀ f l n, e ≠ .base (.recursive f l n)) (h2 : ∀ f l n, e ≠ .closeErr f l n)
    (h3 : ∀ g, e.file? = some g → g = file) : LogShape st file (some e, st) := by
  refine LogShape.fail (ns := []) (w := [] ++ []) (by simp) (.here .nil (.plain h1 h2) h3)

theorem parseLinesIO_shape (cfg : Cfg) (ign : Bool) (h : IncludeHandlerIO) (file : Bytes) (tooLong rf : Bool)
    (hh : ∀ n l st, LogShape st file (h n file l st))
    (lines : List Bytes) (lineNo : Nat) (vb : Option Bytes) (st : St) :
    LogShape st file (parseLinesIO cfg ign h file tooLong rf lines lineNo vb st) := by
  induction lines generalizing lineNo vb st with
  | nil =>
    simp only [parseLinesIO]
    cases tooLong with
    | true =>
      exact LogShape.plainHere st file _ (by intros; simp) (by intros; simp) (by intro g hg; simp [FailureIO.file?] at hg)
    | false =>
      cases rf with
      | true =>
        exact LogShape.plainHere st file _ (by intros; simp) (by intros; simp) (by intro g hg; simp [FailureIO.file?] at hg)
      | false =>
        cases vb with
        | none => exact LogShape.ok (w := []) (by simp) .nil
        | some v =>
          exact LogShape.plainHere st file _ (by intros; simp) (by intros; simp)
            (by intro g hg; simp [FailureIO.file?] at hg; exact hg.symm)
  | cons raw ls ih =>
    simp only [parseLinesIO]
    rcases stepLineIO_cases cfg ign h file lineNo vb st raw with
      ⟨vb', st', hs, hl⟩ | ⟨c, hs⟩ | ⟨n, _, _, hs⟩
    · rw [hs]
      obtain ⟨w, hw, hsh⟩ := ih (lineNo + 1) vb' st'
      exact ⟨w, by rw [hw, hl], hsh⟩
    · rw [hs]
      exact LogShape.plainHere st file _ (by intros; simp) (by intros; simp)
        (by intro g hg; simp [FailureIO.file?] at hg; exact hg.symm)
    · rw [hs]
      obtain ⟨w1, hw1, hsh1⟩ := hh n lineNo st
      rcases hr : h n file lineNo st with ⟨_ | e, st1⟩
      · simp only [StepIO.ofResult]
        rw [hr] at hw1 hsh1
        obtain ⟨w2, hw2, hsh2⟩ := ih (lineNo + 1) none st1
        refine ⟨w1 ++ w2, by rw [hw2, hw1, List.append_assoc], ?_⟩
        rcases hres : (parseLinesIO cfg ign h file tooLong rf ls (lineNo + 1) none st1).1 with _ | e2
        · rw [hres] at hsh2
          exact ClosedTwice.append hsh1 hsh2
        · rw [hres] at hsh2
          obtain ⟨ns, hu⟩ := hsh2
          exact ⟨ns, hu.prepend hsh1⟩
      · simp only [StepIO.ofResult]
        rw [hr] at hw1 hsh1
        exact ⟨w1, hw1, hsh1⟩

theorem parseFileFixIO_shape (cfg : Cfg) (ign : Bool) (fs : FSIO) (path : List Bytes) (file text : Bytes)
    (rf : Bool) (st : St) : LogShape st file (parseFileFixIO cfg ign fs path file text rf st) := by
  induction path, file, text, rf, st using parseFileFixIO.induct fs with
  | _ path file text rf st ih =>
    rw [parseFileFixIO_eq]
    apply parseLinesIO_shape
    intro n l st0
    rcases opt_cases (fs.lookup n) with hl | ⟨en, hl⟩
    · rw [fixHandlerIO_none cfg ign fs path n file l st0 hl]
      exact LogShape.plainHere st0 file _ (by intros; simp) (by intros; simp)
        (by intro g hg; simp [FailureIO.file?] at hg; exact hg.symm)
    · rcases bool_cases (path.contains n) with hp | hp
      · rw [fixHandlerIO_onPath cfg ign fs path n en file l st0 hl hp]
        refine LogShape.fail (ns := []) (w := [] ++ [Event.opened n, Event.closed n])
          (by simp [St.opened, St.closed]) (.here .nil (.reopened file l n) ?_)
        intro g hg; simp [FailureIO.file?] at hg; exact hg.symm
      · rw [fixHandlerIO_rec cfg ign fs path n en file l st0 hl hp]
        obtain ⟨w, hw, hsh⟩ := ih n en hl hp (st0.opened n)
        rcases hres : parseFileFixIO cfg ign fs (n :: path) n en.1 en.2.1 (st0.opened n) with ⟨_ | e2, st2⟩
        · rw [hres] at hw hsh
          simp only [St.opened] at hw
          simp only [afterIncludeIO]
          cases hc : en.2.2 with
          | false =>
            refine LogShape.ok (w := Event.opened n :: (w ++ Event.closed n :: Event.closed n :: []))
              (by simp [St.closed, hw]) (.file n hsh .nil)
          | true =>
            refine LogShape.fail (ns := [])
              (w := [] ++ Event.opened n :: (w ++ [Event.closed n, Event.closed n]))
              (by simp [St.closed, hw]) (.here .nil (.closeFailed file l n hsh) ?_)
            intro g hg; simp [FailureIO.file?] at hg; exact hg.symm
        · rw [hres] at hw hsh
          simp only [St.opened] at hw
          obtain ⟨ns, hu⟩ := hsh
          simp only [afterIncludeIO]
          exact LogShape.fail (ns := n :: ns) (w := [] ++ Event.opened n :: (w ++ [Event.closed n]))
            (by simp [St.closed, hw]) (.into n .nil hu)

theorem parseFileIO_log_shape (cfg : Cfg) (ign : Bool) (fs : FSIO) (root : Bytes) (en : Bytes × Bool × Bool)
    (hl : fs.lookup root = some en) :
    ∃ w, (parseFileIO cfg ign fs root).2.log = Event.opened root :: (w ++ [Event.closed root]) ∧
      match (parseFileIO cfg ign fs root).1 with
      | none => ClosedTwice w
      | some e => ∃ ns, UnwoundIO e root ns w := by
  obtain ⟨w, hw, hsh⟩ := parseFileFixIO_shape cfg ign fs [root] root en.1 en.2.1 (St.opened {} root)
  rw [parseFileIO_some cfg ign fs root en hl]
  refine ⟨w, ?_, hsh⟩
  simp only [St.closed]
  rw [hw]
  simp [St.opened]

theorem nested_of_shape {o : Option FailureIO} {file : Bytes} {w : List Event}
    (h : match o with
      | none => ClosedTwice w
      | some e => ∃ ns, UnwoundIO e file ns w) : Nested w := by
  cases o with
  | none => exact h.nested
  | some e => obtain ⟨ns, hu⟩ := h; exact hu.nested

theorem parseFileIO_nested (cfg : Cfg) (ign : Bool) (fs : FSIO) (root : Bytes) :
    Nested (parseFileIO cfg ign fs root).2.log := by
  rcases opt_cases (fs.lookup root) with hl | ⟨en, hl⟩
  · rw [parseFileIO_none cfg ign fs root hl]; exact .nil
  · obtain ⟨w, hw, hsh⟩ := parseFileIO_log_shape cfg ign fs root en hl
    rw [hw]
    have := Nested.file root false (nested_of_shape hsh) Nested.nil
    simpa using this

/-- root → a → a (self-include), the `Close` of `a` fails: `a` is open twice when the cycle is found -/
def fsSelfCycleCloseFails : FSIO := [(nmRoot, inc nmA, false, false), (nmA, inc nmA, false, true)]

/-- root → a → b, the reader of `b` fails -/
def fsReadFailsDeep : FSIO :=
  [(nmRoot, inc nmA ++ textLeaf, false, false), (nmA, inc nmB ++ textLeaf, false, false), (nmB, textLeaf, true, false)]

end RV.DictParser
