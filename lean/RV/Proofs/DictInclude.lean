/-
  C15 (dictionary include walk).  The line loop of RV.Model.DictParser for an arbitrary `$INCLUDE` handler - a line is classified by
  `includeTarget` - and the `$INCLUDE` closure; for both include rules: a failure names a file and a
  line of it; for the repaired rule: a successful parse means that no cycle is reachable.
-/
import RV.Model.DictParser

namespace RV.C15
open RV RV.Dict RV.DictParser

/-- every `opened n` of the log is followed by a `closed n` -/
def OpensClosed (log : List Event) : Prop :=
  ∀ pre n post, log = pre ++ Event.opened n :: post → Event.closed n ∈ post

def nmRoot : Bytes := [114, 111, 111, 116]   -- "root"
def nmA : Bytes := [97]
def nmB : Bytes := [98]
/-- `$INCLUDE <name>\n` -/
def inc (n : Bytes) : Bytes := kwINCLUDE ++ [32] ++ n ++ [10]

/-- root → a, a → b, b → a -/
def fsNonRootCycle : FS := [(nmRoot, inc nmA), (nmA, inc nmB), (nmB, inc nmA)]
/-- root → a, a → root -/
def fsRootCycle : FS := [(nmRoot, inc nmA), (nmA, inc nmRoot)]

/-- diamond with a repeated include: root → a, b, b ; a → c ; b → c ; c declares a VALUE -/
def fsDiamond : FS :=
  [(nmRoot, inc nmA ++ inc nmB ++ inc nmB), (nmA, inc [99]), (nmB, inc [99]),
   ([99], kwVALUE ++ [32, 65, 32, 118, 32, 49, 10])]

end RV.C15

namespace RV.DictParser
open RV RV.Dict RV.C15

/-- how the result of the include handler continues the line loop -/
def Step.ofResult (vb : Option Bytes) : Result → Step
  | (none, st') => .next vb st'
  | (some e, st') => .fail e st'

/-- the `$INCLUDE` a line performs: its fields are `$INCLUDE n` and no vendor block is open -/
def includeTarget (vb : Option Bytes) (raw : Bytes) : Option Bytes :=
  if vb.isSome then none else
  match Lex.fields (Lex.stripComment raw) with
  | [k, n] => if k == kwINCLUDE then some n else none
  | _ => none

/-- a handler that includes nothing: it succeeds and leaves the state alone -/
def noInclude : IncludeHandler := fun _ _ _ st => (none, st)

/-- what a line that performs no include does -/
def localStep (cfg : Cfg) (ign : Bool) (file : Bytes) (lineNo : Nat) (vb : Option Bytes) (st : St)
    (raw : Bytes) : Step :=
  stepLine cfg ign noInclude file lineNo vb st raw

theorem two_fields_iff (l : List Bytes) (kw : Bytes) :
    (l.length == 2 && l.headD [] == kw) = true ↔ ∃ n, l = [kw, n] := by
  match l with
  | [] | [_] | _ :: _ :: _ :: _ => simp
  | [k, n] => simp

/-- the `case` of `$INCLUDE n`, by evaluation of the `switch` on a two-element field list -/
theorem dispatch_include (cfg : Cfg) (ign : Bool) (h : IncludeHandler) (file : Bytes) (lineNo : Nat)
    (vb : Option Bytes) (st : St) (n : Bytes) :
    dispatch cfg ign h file lineNo vb st [kwINCLUDE, n] =
      if vb.isSome then .fail (.decl .beginVendorInclude file lineNo) st
      else Step.ofResult vb (h n file lineNo st) := rfl

theorem dispatch_local (cfg : Cfg) (ign : Bool) (h h' : IncludeHandler) (file : Bytes) (lineNo : Nat)
    (vb : Option Bytes) (st : St) (fields : List Bytes)
    (hc : vb.isSome = true ∨ ¬ ∃ n, fields = [kwINCLUDE, n]) :
    dispatch cfg ign h file lineNo vb st fields = dispatch cfg ign h' file lineNo vb st fields := by
  rcases hc with hc | hc
  · simp only [dispatch, hc, ↓reduceIte]
  · have hc' := Bool.eq_false_iff.mpr (mt (two_fields_iff fields kwINCLUDE).mp hc)
    simp only [dispatch, hc', Bool.false_eq_true, ↓reduceIte]

/-- a step that does not touch the log, or refuses the line where it stands -/
def Step.Local (st : St) (file : Bytes) (lineNo : Nat) (s : Step) : Prop :=
  (∃ vb' st', s = .next vb' st' ∧ st'.log = st.log) ∨ (∃ c, s = .fail (.decl c file lineNo) st)

theorem dispatch_noInclude (cfg : Cfg) (ign : Bool) (file : Bytes) (lineNo : Nat)
    (vb : Option Bytes) (st : St) (fields : List Bytes) :
    Step.Local st file lineNo (dispatch cfg ign noInclude file lineNo vb st fields) := by
  simp only [dispatch, noInclude]
  -- the `if`s one by one, so that each `match` is split in a small goal: splitting the whole `switch` is slow to check
  refine iteInduction (motive := Step.Local st file lineNo) (fun _ => ?_) fun _ =>
    iteInduction (motive := Step.Local st file lineNo) (fun _ => ?_) fun _ =>
    iteInduction (motive := Step.Local st file lineNo) (fun _ => ?_) fun _ =>
    iteInduction (motive := Step.Local st file lineNo) (fun _ => ?_) fun _ =>
    iteInduction (motive := Step.Local st file lineNo) (fun _ => ?_) fun _ =>
    iteInduction (motive := Step.Local st file lineNo) (fun _ => ?_) fun _ => ?_
  all_goals repeat' split
  all_goals first
    | exact Or.inl ⟨_, _, rfl, rfl⟩
    | exact Or.inr ⟨_, rfl⟩

theorem dispatch_cases (cfg : Cfg) (ign : Bool) (h : IncludeHandler) (file : Bytes) (lineNo : Nat)
    (vb : Option Bytes) (st : St) (fields : List Bytes) :
    (∃ vb' st', dispatch cfg ign h file lineNo vb st fields = .next vb' st' ∧ st'.log = st.log) ∨
    (∃ c, dispatch cfg ign h file lineNo vb st fields = .fail (.decl c file lineNo) st) ∨
    (∃ n, fields = [kwINCLUDE, n] ∧ vb = none ∧
      dispatch cfg ign h file lineNo vb st fields = Step.ofResult none (h n file lineNo st)) := by
  by_cases hinc : ∃ n, fields = [kwINCLUDE, n]
  · obtain ⟨n, rfl⟩ := hinc
    rw [dispatch_include]
    cases vb with
    | some v => exact Or.inr (Or.inl ⟨_, rfl⟩)
    | none => exact Or.inr (Or.inr ⟨n, rfl, rfl, rfl⟩)
  · rw [dispatch_local cfg ign h noInclude file lineNo vb st fields (Or.inr hinc)]
    rcases dispatch_noInclude cfg ign file lineNo vb st fields with h1 | h1
    · exact Or.inl h1
    · exact Or.inr (Or.inl h1)

theorem includeTarget_eq_some {vb : Option Bytes} {raw n : Bytes} :
    includeTarget vb raw = some n ↔ vb = none ∧ Lex.fields (Lex.stripComment raw) = [kwINCLUDE, n] := by
  cases vb with
  | some v => simp [includeTarget]
  | none =>
    simp only [includeTarget, Option.isSome_none, Bool.false_eq_true, if_false, true_and]
    split
    · rename_i k m heq
      rw [heq]
      by_cases hk : k = kwINCLUDE <;> simp [hk]
    · rename_i hno
      exact ⟨fun h => (by cases h), fun h => absurd h (hno _ _)⟩

theorem stepLine_include (cfg : Cfg) (ign : Bool) (h : IncludeHandler) (file : Bytes) (lineNo : Nat)
    (vb : Option Bytes) (st : St) (raw n : Bytes)
    (hf : Lex.fields (Lex.stripComment raw) = [kwINCLUDE, n]) :
    stepLine cfg ign h file lineNo vb st raw =
      if vb.isSome then .fail (.decl .beginVendorInclude file lineNo) st
      else Step.ofResult vb (h n file lineNo st) := by
  have hne : (Lex.stripComment raw).isEmpty = false := by
    cases hs : Lex.stripComment raw with
    | nil => rw [hs] at hf; cases hf
    | cons => rfl
  simp only [stepLine, hne, hf, List.isEmpty_cons, Bool.and_false, Bool.false_eq_true, if_false]
  rfl

theorem stepLine_target (cfg : Cfg) (ign : Bool) (h : IncludeHandler) (file : Bytes) (lineNo : Nat)
    (vb : Option Bytes) (st : St) (raw n : Bytes) (hT : includeTarget vb raw = some n) :
    stepLine cfg ign h file lineNo vb st raw = Step.ofResult none (h n file lineNo st) := by
  obtain ⟨rfl, hf⟩ := includeTarget_eq_some.mp hT
  exact stepLine_include cfg ign h file lineNo none st raw n hf

theorem stepLine_local (cfg : Cfg) (ign : Bool) (h : IncludeHandler) (file : Bytes) (lineNo : Nat)
    (vb : Option Bytes) (st : St) (raw : Bytes) (hT : includeTarget vb raw = none) :
    stepLine cfg ign h file lineNo vb st raw = localStep cfg ign file lineNo vb st raw := by
  have hc : vb.isSome = true ∨ ¬ ∃ n, Lex.fields (Lex.stripComment raw) = [kwINCLUDE, n] := by
    cases vb with
    | some v => exact Or.inl rfl
    | none => exact Or.inr fun ⟨n, hf⟩ => by rw [includeTarget_eq_some.mpr ⟨rfl, hf⟩] at hT; cases hT
  simp only [localStep, stepLine]
  rw [dispatch_local cfg ign h noInclude file lineNo vb st _ hc]

theorem localStep_cases (cfg : Cfg) (ign : Bool) (file : Bytes) (lineNo : Nat) (vb : Option Bytes) (st : St)
    (raw : Bytes) : Step.Local st file lineNo (localStep cfg ign file lineNo vb st raw) := by
  simp only [localStep, stepLine]
  exact iteInduction (motive := Step.Local st file lineNo) (fun _ => Or.inl ⟨_, _, rfl, rfl⟩) fun _ =>
    iteInduction (motive := Step.Local st file lineNo) (fun _ => Or.inl ⟨_, _, rfl, rfl⟩) fun _ =>
      dispatch_noInclude ..

theorem localStep_fail_inv {cfg : Cfg} {ign : Bool} {file : Bytes} {lineNo : Nat} {vb : Option Bytes}
    {st : St} {raw : Bytes} {e : Failure} {st' : St}
    (h : localStep cfg ign file lineNo vb st raw = .fail e st') : ∃ c, e = .decl c file lineNo ∧ st' = st := by
  rcases localStep_cases cfg ign file lineNo vb st raw with ⟨_, _, h1, _⟩ | ⟨c, h1⟩
  · rw [h1] at h; cases h
  · rw [h1] at h; cases h; exact ⟨c, rfl, rfl⟩

theorem parseLines_fail (cfg : Cfg) (ign : Bool) (h : IncludeHandler) (file : Bytes) (tooLong : Bool)
    (Q : Failure → Prop) (P : Bytes → Prop) (total : Nat) (hscan : Q .scanner)
    (hdecl : ∀ c l, 1 ≤ l → l ≤ total → Q (.decl c file l))
    (hinc : ∀ raw n l st0 e st1, P raw → Lex.fields (Lex.stripComment raw) = [kwINCLUDE, n] → 1 ≤ l → l ≤ total →
      h n file l st0 = (some e, st1) → Q e)
    (lines : List Bytes) (hP : ∀ raw, raw ∈ lines → P raw)
    (lineNo : Nat) (vb : Option Bytes) (st : St) (e : Failure) (st' : St)
    (hl : 1 ≤ lineNo) (hvb : vb ≠ none → 2 ≤ lineNo) (htot : lineNo + lines.length = total + 1)
    (hr : parseLines cfg ign h file tooLong lines lineNo vb st = (some e, st')) : Q e := by
  induction lines generalizing lineNo vb st with
  | nil =>
    simp only [parseLines] at hr
    simp only [List.length_nil] at htot
    split at hr
    · cases hr; exact hscan
    · split at hr
      · cases hr
        have := hvb (by simp)
        exact hdecl _ _ (by omega) (by omega)
      · cases hr
  | cons raw ls ih =>
    simp only [parseLines] at hr
    simp only [List.length_cons] at htot
    cases hT : includeTarget vb raw with
    | none =>
      rw [stepLine_local cfg ign h file lineNo vb st raw hT] at hr
      rcases localStep_cases cfg ign file lineNo vb st raw with ⟨vb1, st1, hs, _⟩ | ⟨c, hs⟩
      · rw [hs] at hr
        exact ih (fun r hr => hP r (List.mem_cons_of_mem _ hr)) _ _ _ (by omega) (fun _ => by omega) (by omega) hr
      · rw [hs] at hr
        cases hr
        exact hdecl c lineNo hl (by omega)
    | some n =>
      rw [stepLine_target cfg ign h file lineNo vb st raw n hT] at hr
      rcases hres : h n file lineNo st with ⟨_ | e1, st1⟩
      · rw [hres] at hr
        exact ih (fun r hr => hP r (List.mem_cons_of_mem _ hr)) _ _ _ (by omega) (fun _ => by omega) (by omega) hr
      · rw [hres] at hr
        cases hr
        exact hinc raw n lineNo st e st' (hP raw List.mem_cons_self) (includeTarget_eq_some.mp hT).2 hl (by omega) hres

theorem parseLines_ok (cfg : Cfg) (ign : Bool) (h : IncludeHandler) (file : Bytes) (tooLong : Bool)
    (lines : List Bytes) (lineNo : Nat) (vb : Option Bytes) (st : St) (st' : St)
    (hr : parseLines cfg ign h file tooLong lines lineNo vb st = (none, st'))
    (raw n : Bytes) (hm : raw ∈ lines) (hf : Lex.fields (Lex.stripComment raw) = [kwINCLUDE, n]) :
    ∃ l st0 st1, h n file l st0 = (none, st1) := by
  induction lines generalizing lineNo vb st with
  | nil => cases hm
  | cons raw' ls ih =>
    simp only [parseLines] at hr
    rcases List.mem_cons.mp hm with rfl | hm'
    · rw [stepLine_include cfg ign h file lineNo vb st raw n hf] at hr
      cases vb with
      | some v => cases hr
      | none =>
        rcases hres : h n file lineNo st with ⟨_ | e1, st1⟩
        · exact ⟨_, _, _, hres⟩
        · rw [hres] at hr; cases hr
    · cases hs : stepLine cfg ign h file lineNo vb st raw' with
      | next vb' st1 => rw [hs] at hr; exact ih _ _ _ hr hm'
      | fail e st1 => rw [hs] at hr; cases hr

theorem mem_includesOf {text n : Bytes} :
    n ∈ includesOf text ↔
      ∃ raw, raw ∈ (Lex.lines text).1 ∧ Lex.fields (Lex.stripComment raw) = [kwINCLUDE, n] := by
  unfold includesOf
  rw [List.mem_filterMap]
  constructor
  · rintro ⟨raw, hm, hh⟩
    exact ⟨raw, hm, (includeTarget_eq_some (vb := none)).mp hh |>.2⟩
  · rintro ⟨raw, hm, hf⟩
    exact ⟨raw, hm, by rw [hf]; simp⟩

theorem parseBody_fail (cfg : Cfg) (ign : Bool) (h : IncludeHandler) (file text : Bytes) (st : St)
    (e : Failure) (st' : St) (hr : parseBody cfg ign h file text st = (some e, st')) :
    e = .scanner ∨
    (∃ c l, e = .decl c file l ∧ 1 ≤ l ∧ l ≤ (Lex.lines text).1.length) ∨
    (∃ n l st0 st1, n ∈ includesOf text ∧ 1 ≤ l ∧ l ≤ (Lex.lines text).1.length ∧
      h n file l st0 = (some e, st1)) :=
  parseLines_fail cfg ign h file _
    (fun e => e = .scanner ∨ (∃ c l, e = .decl c file l ∧ 1 ≤ l ∧ l ≤ (Lex.lines text).1.length) ∨
      (∃ n l st0 st1, n ∈ includesOf text ∧ 1 ≤ l ∧ l ≤ (Lex.lines text).1.length ∧
        h n file l st0 = (some e, st1)))
    (· ∈ (Lex.lines text).1) (Lex.lines text).1.length (Or.inl rfl)
    (fun c l h1 h2 => Or.inr (Or.inl ⟨c, l, rfl, h1, h2⟩))
    (fun raw n l st0 _ st1 hm hf h1 h2 hh => Or.inr (Or.inr ⟨n, l, st0, st1, mem_includesOf.mpr ⟨raw, hm, hf⟩, h1, h2, hh⟩))
    _ (fun _ hm => hm) 1 none st e st' (Nat.le_refl 1) (fun hne => absurd rfl hne) (Nat.add_comm ..) hr

theorem parseBody_ok (cfg : Cfg) (ign : Bool) (h : IncludeHandler) (file text : Bytes) (st : St)
    (st' : St) (hr : parseBody cfg ign h file text st = (none, st')) (n : Bytes) (hn : n ∈ includesOf text) :
    ∃ l st0 st1, h n file l st0 = (none, st1) := by
  obtain ⟨raw, hm, hf⟩ := mem_includesOf.mp hn
  exact parseLines_ok cfg ign h file _ _ 1 none st st' hr raw n hm hf


theorem opt_cases {α : Type} (o : Option α) : o = none ∨ ∃ x, o = some x := by
  cases o with
  | none => exact Or.inl rfl
  | some x => exact Or.inr ⟨x, rfl⟩

theorem bool_cases (b : Bool) : b = true ∨ b = false := by cases b <;> simp

section includeWith
variable (fs : FS) (onPath : Bytes → Bool)
  (recur : (name t : Bytes) → fs.lookup name = some t → onPath name = false → St → Result)

theorem includeWith_none (name file : Bytes) (lineNo : Nat) (st : St) (h : fs.lookup name = none) :
    includeWith fs onPath recur name file lineNo st = (some (.openErr file lineNo name), st) := by
  unfold includeWith
  split
  · rfl
  · rename_i t ht; rw [h] at ht; cases ht

theorem includeWith_onPath (name t file : Bytes) (lineNo : Nat) (st : St)
    (h : fs.lookup name = some t) (hp : onPath name = true) :
    includeWith fs onPath recur name file lineNo st
      = (some (.recursive file lineNo name), (st.opened name).closed name) := by
  unfold includeWith
  split
  · rename_i ht; rw [h] at ht; cases ht
  · exact dif_pos hp

theorem includeWith_rec (name t file : Bytes) (lineNo : Nat) (st : St)
    (h : fs.lookup name = some t) (hp : onPath name = false) :
    includeWith fs onPath recur name file lineNo st
      = afterInclude name (recur name t h hp (st.opened name)) := by
  unfold includeWith
  split
  · rename_i ht; rw [h] at ht; cases ht
  · rename_i t' ht
    obtain rfl : t' = t := Option.some.inj (ht.symm.trans h)
    exact dif_neg (by simp [hp])

theorem afterInclude_fst (name : Bytes) (r : Result) : (afterInclude name r).1 = r.1 := by
  rcases r with ⟨_ | e, st⟩ <;> rfl

theorem includeWith_fail_inv (name file : Bytes) (lineNo : Nat) (st : St) (e : Failure) (st1 : St)
    (hr : includeWith fs onPath recur name file lineNo st = (some e, st1)) :
    e = .openErr file lineNo name ∨ e = .recursive file lineNo name ∨
    (∃ t hl hp st2, recur name t hl hp (st.opened name) = (some e, st2)) := by
  rcases opt_cases (fs.lookup name) with hl | ⟨t, hl⟩
  · rw [includeWith_none fs onPath recur name file lineNo st hl] at hr
    cases hr; exact Or.inl rfl
  rcases bool_cases (onPath name) with hp | hp
  · rw [includeWith_onPath fs onPath recur name t file lineNo st hl hp] at hr
    cases hr; exact Or.inr (Or.inl rfl)
  · rw [includeWith_rec fs onPath recur name t file lineNo st hl hp] at hr
    refine Or.inr (Or.inr ⟨t, hl, hp, ?_⟩)
    rcases hres : recur name t hl hp (st.opened name) with ⟨_ | e2, st2⟩
    · rw [hres] at hr; cases hr
    · rw [hres] at hr; cases hr; exact ⟨st2, rfl⟩

theorem includeWith_ok_inv (name file : Bytes) (lineNo : Nat) (st : St) (st1 : St)
    (hr : includeWith fs onPath recur name file lineNo st = (none, st1)) :
    ∃ t hl hp st2, recur name t hl hp (st.opened name) = (none, st2) := by
  rcases opt_cases (fs.lookup name) with hl | ⟨t, hl⟩
  · rw [includeWith_none fs onPath recur name file lineNo st hl] at hr; cases hr
  rcases bool_cases (onPath name) with hp | hp
  · rw [includeWith_onPath fs onPath recur name t file lineNo st hl hp] at hr; cases hr
  · rw [includeWith_rec fs onPath recur name t file lineNo st hl hp] at hr
    refine ⟨t, hl, hp, ?_⟩
    rcases hres : recur name t hl hp (st.opened name) with ⟨_ | e2, st2⟩
    · exact ⟨st2, rfl⟩
    · rw [hres] at hr; cases hr

end includeWith

theorem parseFile_fix_eq (cfg : Cfg) (ign : Bool) (fs : FS) (root text : Bytes)
    (h : cfg.includePath = true) (hl : fs.lookup root = some text) :
    (parseFile cfg ign fs root).1 = (parseFileFix cfg ign fs [root] root text (St.opened {} root)).1 := by
  simp [parseFile, hl, parseRoot, h]

theorem parseFile_cur_eq (cfg : Cfg) (ign : Bool) (fs : FS) (root text : Bytes)
    (h : cfg.includePath = false) (hl : fs.lookup root = some text) :
    (parseFile cfg ign fs root).1 = (parseFileCur cfg ign fs root depthCap root text (St.opened {} root)).1 := by
  simp [parseFile, hl, parseRoot, h]

theorem parseFile_none (cfg : Cfg) (ign : Bool) (fs : FS) (root : Bytes) (hl : fs.lookup root = none) :
    (parseFile cfg ign fs root).1 = some .rootOpen := by
  simp [parseFile, hl]

/-- a ParseError names a file of the file system and a line of it, counted from 1 -/
def Failure.lineOK (fs : FS) : Failure → Prop
  | .decl _ f l | .openErr f l _ | .recursive f l _ =>
      ∃ t, fs.lookup f = some t ∧ 1 ≤ l ∧ l ≤ (Lex.lines t).1.length
  | _ => True

theorem body_lineOK (cfg : Cfg) (ign : Bool) (fs : FS) (onPath : Bytes → Bool)
    (recur : (name t : Bytes) → fs.lookup name = some t → onPath name = false → St → Result)
    (file text : Bytes) (hl : fs.lookup file = some text)
    (hrec : ∀ n t hl hp st e st', recur n t hl hp st = (some e, st') → e.lineOK fs)
    (st : St) (e : Failure) (st' : St)
    (hr : parseBody cfg ign (includeWith fs onPath recur) file text st = (some e, st')) : e.lineOK fs := by
  refine parseLines_fail cfg ign _ file _ (Failure.lineOK fs) (fun _ => True) (Lex.lines text).1.length trivial
    (fun c l h1 h2 => ⟨text, hl, h1, h2⟩) ?_ _ (fun _ _ => trivial) 1 none st e st' (Nat.le_refl 1)
    (fun h => absurd rfl h) (Nat.add_comm ..) hr
  intro _ n l st0 e0 st1 _ _ h1 h2 hh
  rcases includeWith_fail_inv fs onPath recur n file l st0 e0 st1 hh with rfl | rfl | ⟨t, hln, hp, st2, h5⟩
  · exact ⟨text, hl, h1, h2⟩
  · exact ⟨text, hl, h1, h2⟩
  · exact hrec n t hln hp _ e0 st2 h5

theorem parseFileFix_lineOK (cfg : Cfg) (ign : Bool) (fs : FS) (path : List Bytes) (file text : Bytes)
    (st : St) (e : Failure) (st' : St) (hl : fs.lookup file = some text)
    (hr : parseFileFix cfg ign fs path file text st = (some e, st')) : e.lineOK fs := by
  induction path, file, text, st using parseFileFix.induct fs generalizing e st' with
  | _ path file text st ih =>
    rw [parseFileFix] at hr
    exact body_lineOK cfg ign fs _ _ file text hl
      (fun n t hln hp st0 e0 st0' hrn => ih n t hln hp st0 e0 st0' hln hrn) st e st' hr

theorem parseFileCur_lineOK (cfg : Cfg) (ign : Bool) (fs : FS) (root : Bytes) (fuel : Nat) (file text : Bytes)
    (st : St) (e : Failure) (st' : St) (hl : fs.lookup file = some text)
    (hr : parseFileCur cfg ign fs root fuel file text st = (some e, st')) : e.lineOK fs := by
  induction fuel generalizing file text st e st' with
  | zero => cases hr; trivial
  | succ fuel ih =>
    rw [parseFileCur] at hr
    exact body_lineOK cfg ign fs _ _ file text hl
      (fun n t hln _ st0 e0 st0' hrn => ih n t st0 e0 st0' hln hrn) st e st' hr

theorem Reaches.snoc {fs : FS} {a b c : Bytes} (h : Reaches fs a b) (hi : Includes fs b c) : Reaches fs a c := by
  induction h with
  | step h1 => exact .trans h1 (.step hi)
  | trans h1 _ ih => exact .trans h1 (ih hi)

theorem parseFileFix_ok_step (cfg : Cfg) (ign : Bool) (fs : FS) (path : List Bytes) (file text : Bytes)
    (st st' : St) (hl : fs.lookup file = some text)
    (hr : parseFileFix cfg ign fs path file text st = (none, st'))
    (n : Bytes) (hn : Includes fs file n) :
    ∃ t, fs.lookup n = some t ∧ ¬ n ∈ path ∧
      ∃ st0 st1, parseFileFix cfg ign fs (n :: path) n t st0 = (none, st1) := by
  obtain ⟨t, hla, hn⟩ := hn
  obtain rfl : t = text := Option.some.inj (hla.symm.trans hl)
  obtain ⟨raw, hm, hf⟩ := mem_includesOf.mp hn
  rw [parseFileFix] at hr
  obtain ⟨l, st0, st1, h1⟩ := parseLines_ok cfg ign _ file _ _ 1 none st st' hr raw n hm hf
  obtain ⟨t, hl, hp, st2, h2⟩ := includeWith_ok_inv fs _ _ n file l st0 st1 h1
  exact ⟨t, hl, by simpa using hp, _, st2, h2⟩

theorem parseFileFix_ok_reach (cfg : Cfg) (ign : Bool) (fs : FS) {file g : Bytes}
    (hreach : Reaches fs file g) :
    ∀ (path : List Bytes) (text : Bytes) (st st' : St), fs.lookup file = some text →
      parseFileFix cfg ign fs path file text st = (none, st') →
      ¬ g ∈ path ∧ ∃ path' text' st0 st1, g ∈ path' ∧ fs.lookup g = some text' ∧
        parseFileFix cfg ign fs path' g text' st0 = (none, st1) := by
  induction hreach with
  | @step a b hi =>
    intro path text st st' hl hr
    obtain ⟨tb, hlb, hp, st0, st1, hrb⟩ := parseFileFix_ok_step cfg ign fs path a text st st' hl hr b hi
    exact ⟨hp, b :: path, tb, st0, st1, List.mem_cons_self, hlb, hrb⟩
  | @trans a b c hi _ ih =>
    intro path text st st' hl hr
    obtain ⟨tb, hlb, _, st0, st1, hrb⟩ := parseFileFix_ok_step cfg ign fs path a text st st' hl hr b hi
    obtain ⟨hc, hex⟩ := ih (b :: path) tb st0 st1 hlb hrb
    exact ⟨fun h => hc (List.mem_cons_of_mem _ h), hex⟩

/-- a file on a cycle would have been parsed successfully while on its own include path -/
theorem parseFile_ok_acyclic (cfg : Cfg) (ign : Bool) (fs : FS) (root : Bytes) (h : cfg.includePath = true)
    (hok : (parseFile cfg ign fs root).1 = none) : ¬ HasCycle fs root := by
  cases hl : fs.lookup root with
  | none => rw [parseFile_none cfg ign fs root hl] at hok; cases hok
  | some text =>
    rw [parseFile_fix_eq cfg ign fs root text h hl] at hok
    have hres : parseFileFix cfg ign fs [root] root text (St.opened {} root) = (none, _) := Prod.ext hok rfl
    rintro ⟨f, hf, hcyc⟩
    obtain ⟨path', text', st0, st1, hmem, hl', hr'⟩ :
        ∃ path' text' st0 st1, f ∈ path' ∧ fs.lookup f = some text' ∧
          parseFileFix cfg ign fs path' f text' st0 = (none, st1) := by
      rcases hf with rfl | hf
      · exact ⟨[f], text, _, _, List.mem_cons_self, hl, hres⟩
      · exact (parseFileFix_ok_reach cfg ign fs hf _ _ _ _ hl hres).2
    exact (parseFileFix_ok_reach cfg ign fs hcyc path' text' st0 st1 hl' hr').1 hmem

theorem parseLines_cons_ok (cfg : Cfg) (ign : Bool) (h : IncludeHandler) (file : Bytes) (tooLong : Bool)
    (raw n : Bytes) (ls : List Bytes) (lineNo : Nat) (st st1 : St)
    (hf : Lex.fields (Lex.stripComment raw) = [kwINCLUDE, n]) (hh : h n file lineNo st = (none, st1)) :
    parseLines cfg ign h file tooLong (raw :: ls) lineNo none st
      = parseLines cfg ign h file tooLong ls (lineNo + 1) none st1 := by
  simp [parseLines, stepLine_include cfg ign h file lineNo none st raw n hf, hh, Step.ofResult]


/-- a file that consists of `$INCLUDE` lines only, each of which succeeds, succeeds -/
theorem parseLines_all_ok (cfg : Cfg) (ign : Bool) (h : IncludeHandler) (file : Bytes)
    (lines : List Bytes)
    (hall : ∀ raw, raw ∈ lines → ∃ n, Lex.fields (Lex.stripComment raw) = [kwINCLUDE, n] ∧
      ∀ l st, ∃ st', h n file l st = (none, st'))
    (lineNo : Nat) (st : St) :
    ∃ st', parseLines cfg ign h file false lines lineNo none st = (none, st') := by
  induction lines generalizing lineNo st with
  | nil => exact ⟨st, by simp [parseLines]⟩
  | cons raw ls ih =>
    obtain ⟨n, hf, hh⟩ := hall raw List.mem_cons_self
    obtain ⟨st1, h1⟩ := hh lineNo st
    rw [parseLines_cons_ok cfg ign h file false raw n ls lineNo st st1 hf h1]
    exact ih (fun raw' hm => hall raw' (List.mem_cons_of_mem _ hm)) _ _


theorem includeWith_ok (fs : FS) (onPath : Bytes → Bool)
    (recur : (name t : Bytes) → fs.lookup name = some t → onPath name = false → St → Result)
    (name t : Bytes) (h : fs.lookup name = some t) (hp : onPath name = false)
    (hrec : ∀ st, ∃ st', recur name t h hp st = (none, st')) (file : Bytes) (lineNo : Nat) (st : St) :
    ∃ st', includeWith fs onPath recur name file lineNo st = (none, st') := by
  obtain ⟨st2, h2⟩ := hrec (st.opened name)
  rw [includeWith_rec fs onPath recur name t file lineNo st h hp, h2]
  exact ⟨_, rfl⟩


/-- the line `$INCLUDE <n>` -/
def incLine (n : Bytes) : Bytes := kwINCLUDE ++ [32] ++ n

theorem parseBody_one_include (cfg : Cfg) (ign : Bool) (h : IncludeHandler) (file n : Bytes) (st : St)
    (hn : Lex.lines (inc n) = ([incLine n], false) ∧ Lex.fields (Lex.stripComment (incLine n)) = [kwINCLUDE, n]) :
    (parseBody cfg ign h file (inc n) st).1 = (h n file 1 st).1 := by
  unfold parseBody
  rw [hn.1]
  simp only [parseLines, stepLine_include cfg ign h file 1 none st _ n hn.2]
  rcases h n file 1 st with ⟨_ | e, st1⟩ <;> rfl

theorem includeWith_rec_fst (fs : FS) (onPath : Bytes → Bool)
    (recur : (name t : Bytes) → fs.lookup name = some t → onPath name = false → St → Result)
    (name t file : Bytes) (lineNo : Nat) (st : St)
    (h : fs.lookup name = some t) (hp : onPath name = false) :
    (includeWith fs onPath recur name file lineNo st).1 = (recur name t h hp (st.opened name)).1 := by
  rw [includeWith_rec fs onPath recur name t file lineNo st h hp, afterInclude_fst]

theorem inc_a : Lex.lines (inc nmA) = ([incLine nmA], false) ∧
    Lex.fields (Lex.stripComment (incLine nmA)) = [kwINCLUDE, nmA] := by decide
theorem inc_b : Lex.lines (inc nmB) = ([incLine nmB], false) ∧
    Lex.fields (Lex.stripComment (incLine nmB)) = [kwINCLUDE, nmB] := by decide
theorem inc_root : Lex.lines (inc nmRoot) = ([incLine nmRoot], false) ∧
    Lex.fields (Lex.stripComment (incLine nmRoot)) = [kwINCLUDE, nmRoot] := by decide
theorem lines_inc_c : Lex.lines (inc [99]) = ([incLine [99]], false) := by decide

theorem nonroot_cycle_ab (cfg : Cfg) (ign : Bool) (fuel : Nat) :
    ∀ st, (parseFileCur cfg ign fsNonRootCycle nmRoot fuel nmA (inc nmB) st).1 = some .outOfFuel ∧
      (parseFileCur cfg ign fsNonRootCycle nmRoot fuel nmB (inc nmA) st).1 = some .outOfFuel := by
  induction fuel with
  | zero => intro st; exact ⟨rfl, rfl⟩
  | succ fuel ih =>
    intro st
    constructor
    · rw [parseFileCur, parseBody_one_include cfg ign _ nmA nmB st inc_b,
        includeWith_rec_fst fsNonRootCycle _ _ nmB (inc nmA) nmA 1 st (by decide) (by decide)]
      exact (ih _).2
    · rw [parseFileCur, parseBody_one_include cfg ign _ nmB nmA st inc_a,
        includeWith_rec_fst fsNonRootCycle _ _ nmA (inc nmB) nmB 1 st (by decide) (by decide)]
      exact (ih _).1

theorem nonroot_cycle_root (cfg : Cfg) (ign : Bool) (fuel : Nat) (st : St) :
    (parseFileCur cfg ign fsNonRootCycle nmRoot fuel nmRoot (inc nmA) st).1 = some .outOfFuel := by
  cases fuel with
  | zero => rfl
  | succ fuel =>
    rw [parseFileCur, parseBody_one_include cfg ign _ nmRoot nmA st inc_a,
      includeWith_rec_fst fsNonRootCycle _ _ nmA (inc nmB) nmRoot 1 st (by decide) (by decide)]
    exact (nonroot_cycle_ab cfg ign fuel _).1

theorem lookup_nil (a : Bytes) : FS.lookup [] a = none := rfl

theorem lookup_cons (k v : Bytes) (fs : FS) (a : Bytes) :
    FS.lookup ((k, v) :: fs) a = if k = a then some v else FS.lookup fs a := by
  by_cases h : k = a <;> simp [FS.lookup, h]


theorem fsNonRootCycle_cyclic : HasCycle fsNonRootCycle nmRoot := by
  have hra : Includes fsNonRootCycle nmRoot nmA := ⟨inc nmA, by decide, by decide⟩
  have hab : Includes fsNonRootCycle nmA nmB := ⟨inc nmB, by decide, by decide⟩
  have hba : Includes fsNonRootCycle nmB nmA := ⟨inc nmA, by decide, by decide⟩
  exact ⟨nmA, Or.inr (.step hra), .trans hab (.step hba)⟩

end RV.DictParser
