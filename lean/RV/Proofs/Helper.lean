/-
  Lemmas for C12 (laws of the generated attribute helpers); the domain predicates of its statements
  (`Desc.wf`, `valueOK`, `canon`, `encodeRefused` …) are defined here.  In this order:
  the predicates and the projections of `Desc.wf`; the `encrypt=` stage (`obfuscate` / `unsalt`); one
  equation each for `encodeValue` and `decodeValue` and the round trip, per shape — text, integer
  (`Kind.intBytes`), address (`Kind.addr`), the four bare codecs — assembled in `decode_encode_all`;
  what a setter stores (`stored_text`, `stored_salted`); the reads as functions of `rawValues`; the
  setters as `encodeValue` followed by one list operation (`hSet_eq`, `storeSet`; concat apart) and
  `rawValues` after each write; independent descriptors; the wire; the concat chunks; no setter
  panics; when a setter refuses (`encodeValue_err_iff`, `hSet_err_iff`).
-/
import RV.Model.Helper
import RV.Proofs.Vendor
import RV.Proofs.Password
import RV.Proofs.Codec
import RV.Proofs.Wire
namespace RV

/-- every descriptor the generator emits helpers for, and more (dictionarygen/generator.go rejects
    what fails one of these, and further combinations such as `encrypt=1` on a date, which `wf`
    admits — the theorems are only stronger for it): type within an octet; encrypt 0/1/2; has_tag only
    on string / octets / integer; concat only on a plain top-level text attribute; a size only on
    text; a vendor attribute lives in type 26 under a 32-bit vendor id -/
def Desc.wf (d : Desc) : Prop :=
  0 ≤ d.typ ∧ d.typ ≤ 255 ∧
  (d.encrypt = 0 ∨ d.encrypt = 1 ∨ d.encrypt = 2) ∧
  (d.hasTag = true → d.kind = .string ∨ d.kind = .octets ∨ d.kind = .integer) ∧
  (d.kind = .concat → d.encrypt = 0 ∧ d.hasTag = false ∧ d.size = none ∧ d.vendorID = 0) ∧
  (d.size.isSome = true → d.kind = .string ∨ d.kind = .octets) ∧
  (d.vendorID ≠ 0 → d.typ = 26 ∧ d.vendorID < 2 ^ 32)

instance (d : Desc) : Decidable d.wf := by unfold Desc.wf; infer_instance

namespace Desc.wf
variable {d : Desc}

theorem typ_octet (h : d.wf) : 0 ≤ d.typ ∧ d.typ ≤ 255 := ⟨h.1, h.2.1⟩

theorem encrypt_cases (h : d.wf) : d.encrypt = 0 ∨ d.encrypt = 1 ∨ d.encrypt = 2 := h.2.2.1

theorem tagged_kind (h : d.wf) (ht : d.hasTag = true) :
    d.kind = .string ∨ d.kind = .octets ∨ d.kind = .integer := h.2.2.2.1 ht

theorem concat_encrypt (h : d.wf) (hk : d.kind = .concat) : d.encrypt = 0 := (h.2.2.2.2.1 hk).1

theorem concat_top (h : d.wf) (hk : d.kind = .concat) : d.vendorID = 0 := (h.2.2.2.2.1 hk).2.2.2

theorem vendorID_lt (h : d.wf) (hv : d.vendorID ≠ 0) : d.vendorID < 2 ^ 32 := (h.2.2.2.2.2.2 hv).2

end Desc.wf

theorem Desc.wf.hasTag_false {d : Desc} (hwf : d.wf)
    (hk : d.kind ≠ .string ∧ d.kind ≠ .octets ∧ d.kind ≠ .integer) : d.hasTag = false := by
  cases h : d.hasTag with
  | false => rfl
  | true => rcases hwf.tagged_kind h with h' | h' | h' <;> simp [h'] at hk

/-- the value has the Go parameter type of the helper (constructor and integer width), and a
    helper without tag parameter is modelled with tag 0 -/
def valueTyped (d : Desc) (tag : UInt8) (v : GVal) : Prop :=
  (d.hasTag = false → tag = 0) ∧
  match d.kind, v with
  | .string, .bytes _ | .octets, .bytes _ | .concat, .bytes _ | .ipaddr, .bytes _
  | .ipv6addr, .bytes _ | .ifid, .bytes _ => True
  | .ipv6prefix, .pfx _ => True
  | .date, .time _ => True
  | .byte, .nat n => n < 256
  | .short, .nat n => n < 2 ^ 16
  | .integer, .nat n => n < 2 ^ 32
  | .integer64, .nat n => n < 2 ^ 64
  | _, _ => False

instance (d : Desc) (tag : UInt8) (v : GVal) : Decidable (valueTyped d tag v) := by
  unfold valueTyped; split <;> infer_instance

/-- exclusion 1 (known finding): a tag above 0x1F is not stored -/
def tagInRange (d : Desc) (tag : UInt8) : Prop := d.hasTag = true → tag.toNat ≤ 0x1F

/-- exclusion 2 (known finding): a tagged integer keeps only its low 24 bits -/
def tagIntFits (d : Desc) (v : GVal) : Prop :=
  match v with
  | .nat n => d.hasTag = true → n < 2 ^ 24
  | _ => True

/-- exclusion 3 (known finding): a User-Password style value is cut at its first NUL on reading -/
def nulFree (d : Desc) (v : GVal) : Prop :=
  match v with
  | .bytes b => d.encrypt = 1 → d.kind.isText = true → ∀ x ∈ b, x ≠ 0
  | _ => True

instance (d : Desc) (tag : UInt8) : Decidable (tagInRange d tag) := by unfold tagInRange; infer_instance
instance (d : Desc) (v : GVal) : Decidable (tagIntFits d v) := by unfold tagIntFits; split <;> infer_instance
instance (d : Desc) (v : GVal) : Decidable (nulFree d v) := by unfold nulFree; split <;> infer_instance

/-- the domain of the round-trip laws: a value of the helper's parameter type, outside the three known
    findings -/
def valueOK (d : Desc) (tag : UInt8) (v : GVal) : Prop :=
  valueTyped d tag v ∧ tagInRange d tag ∧ tagIntFits d v ∧ nulFree d v

instance (d : Desc) (tag : UInt8) (v : GVal) : Decidable (valueOK d tag v) := by
  unfold valueOK; infer_instance

/-- the value a getter returns for a stored `v`: addresses in their 4- / 16-byte form, a prefix
    with its host bits cleared (`maskIP'` = `RV.C10.maskIP`), everything else unchanged -/
def canon (d : Desc) (v : GVal) : GVal :=
  match d.kind, v with
  | .ipaddr, .bytes ip => .bytes ((to4 ip).getD ip)
  | .ipv6addr, .bytes ip => .bytes ((to16 ip).getD ip)
  | .ipv6prefix, .pfx (some (ip, m)) =>
    (match maskOnes m with
     | some n => .pfx (some (maskIP' ip n, m))
     | none => v)
  | _, _ => v

section
variable (H : Hash)
variable {d : Desc} {tag : UInt8} {secret auth salt : Bytes}

theorem obfuscate_eq (a : Bytes) :
    obfuscate H d a secret auth salt =
      if d.encrypt = 1 ∧ d.kind.isText = true then newUserPassword H a secret auth
      else if d.usesSalt = true then newTunnelPassword H a salt secret auth
      else .ok a := by
  unfold obfuscate
  split
  · next h => by_cases ht : d.kind.isText = true <;> simp [h, ht, Desc.usesSalt]
  · next h => simp [h]
  · next h1 h2 =>
    have hs : d.usesSalt = false := by
      unfold Desc.usesSalt; rw [Bool.and_eq_false_iff]; left; simpa using h2
    rw [if_neg (fun h => h1 h.1), if_neg (by rw [hs]; exact Bool.false_ne_true)]

theorem usesSalt_encrypt {d : Desc} (h : d.usesSalt = true) : d.encrypt = 2 := by
  simp only [Desc.usesSalt, Bool.and_eq_true, decide_eq_true_eq] at h; exact h.1

theorem isText_of {d : Desc} (hk : d.kind = .string ∨ d.kind = .octets) : d.kind.isText = true := by
  rcases hk with h | h <;> rw [h] <;> rfl

theorem usesSalt_text {d : Desc} (hk : d.kind = .string ∨ d.kind = .octets) (e : d.encrypt = 2) :
    d.usesSalt = true := by
  rcases hk with h | h <;> simp [Desc.usesSalt, e, h]

/-- reading side of the `encrypt=` stage for the kinds other than text (inverse of `obfuscate` there) -/
def unsalt (d : Desc) (c secret auth : Bytes) : Res Bytes :=
  if d.usesSalt then tpPlain H c secret auth else .ok c

theorem tpPlain_roundtrip (hH : ∀ x, (H x).length = 16) (pw c : Bytes)
    (h : newTunnelPassword H pw salt secret auth = .ok c) : tpPlain H c secret auth = .ok pw := by
  unfold tpPlain; rw [tunnelPassword_roundtrip H hH pw salt secret auth c h]

theorem obfuscate_unsalt (hH : ∀ x, (H x).length = 16) (a c : Bytes)
    (hk : d.kind.isText = false) (h : obfuscate H d a secret auth salt = .ok c) :
    unsalt H d c secret auth = .ok a := by
  rw [obfuscate_eq] at h
  simp only [hk, Bool.false_eq_true, and_false, if_false] at h
  unfold unsalt
  by_cases hs : d.usesSalt = true
  · rw [if_pos hs] at h ⊢; exact tpPlain_roundtrip H hH _ _ h
  · rw [if_neg hs] at h ⊢; cases h; rfl

theorem obfuscate_ne_fault (a : Bytes) :
    obfuscate H d a secret auth salt ≠ .fault := by
  rw [obfuscate_eq]
  split
  · exact newUserPassword_ne_fault H _ _ _
  · split
    · exact newTunnelPassword_ne_fault H _ _ _ _
    · intro h; cases h

theorem unsalt_enc0 (he : d.encrypt = 0) (c : Bytes) :
    unsalt H d c secret auth = .ok c := by
  unfold unsalt; rw [if_neg]
  intro hs; have := usesSalt_encrypt hs; omega

/-- the `encrypt=` stage of `X_Set` / `X_Add` on a text value: `radius.NewBytes` when absent -/
def textCipher (d : Desc) (b secret auth salt : Bytes) : Res Bytes :=
  if d.encrypt = 0 then newBytes b else obfuscate H d b secret auth salt

/-- its inverse in `X_Lookup`: `radius.UserPassword`, `radius.TunnelPassword`, or nothing -/
def textPlain (d : Desc) (c secret auth : Bytes) : Res Bytes :=
  if d.encrypt = 1 then userPassword H c secret auth
  else if d.encrypt = 2 then tpPlain H c secret auth
  else .ok c

/-- `X_Lookup` of a tagged text attribute takes a first octet ≤ 0x1F for the tag -/
def untag (d : Desc) (a : Bytes) : UInt8 × Bytes :=
  if d.hasTag ∧ a.length ≥ 1 ∧ (a.getD 0 0).toNat ≤ 0x1F then (a.getD 0 0, a.drop 1) else (0, a)

/-- the `match d.encrypt` of the three readers (`decodeValue`, `lookupResults`, `lookupStringBody`)
    under what each does with the outcome -/
theorem textPlain_cases {β} (f : Res Bytes → β) (c : Bytes) :
    (match d.encrypt with
     | 1 => f (userPassword H c secret auth)
     | 2 => f (tpPlain H c secret auth)
     | _ => f (.ok c)) = f (textPlain H d c secret auth) := by
  unfold textPlain
  split
  · next h => rw [if_pos h]
  · next h => rw [if_neg (by omega), if_pos h]
  · next h1 h2 => rw [if_neg h1, if_neg h2]

theorem textPlain_match (c : Bytes) :
    (match d.encrypt with
     | 1 => userPassword H c secret auth
     | 2 => tpPlain H c secret auth
     | _ => (.ok c : Res Bytes)) = textPlain H d c secret auth :=
  textPlain_cases H id c

theorem encodeValue_text (hk : d.kind = .string ∨ d.kind = .octets)
    (b : Bytes) :
    encodeValue H d tag (.bytes b) secret auth salt =
    if d.size.isSome ∧ d.size ≠ some b.length then .err
    else
      match textCipher H d b secret auth salt with
      | .ok a =>
        if d.hasTag ∧ tag.toNat ≤ 0x1F then
          if a.length > 252 then .err else .ok (tag :: a)
        else .ok a
      | .err => .err
      | .fault => .fault := by
  have e : (match d.encrypt with
             | 0 => newBytes b
             | _ => obfuscate H d b secret auth salt) = textCipher H d b secret auth salt := by
    unfold textCipher
    split
    · next h => rw [if_pos h]
    · next h => rw [if_neg h]
  rw [← e]
  -- `eq_def`, here and below: the per-arm equations of the big matches are slow to generate
  rcases hk with h | h <;> simp only [encodeValue.eq_def, h] <;> rfl

theorem decodeValue_text (d : Desc) (hk : d.kind = .string ∨ d.kind = .octets ∨ d.kind = .concat)
    (a secret auth : Bytes) :
    decodeValue H d a secret auth =
      match textPlain H d (untag d a).2 secret auth with
      | .ok v => if d.size.isSome ∧ d.size ≠ some v.length then .err else .ok ((untag d a).1, .bytes v)
      | .err => .err
      | .fault => .fault := by
  rw [← textPlain_match]
  rcases hk with h | h | h <;> simp only [decodeValue.eq_def, h] <;> rfl

theorem text_roundtrip (hH : ∀ x, (H x).length = 16) (hwf : d.wf)
    (hk : d.kind = .string ∨ d.kind = .octets) (b c : Bytes)
    (hn : d.encrypt = 1 → ∀ x ∈ b, x ≠ 0)
    (h : textCipher H d b secret auth salt = .ok c) : textPlain H d c secret auth = .ok b := by
  unfold textCipher at h
  unfold textPlain
  rcases hwf.encrypt_cases with e | e | e
  · rw [if_pos e] at h
    rw [if_neg (by omega), if_neg (by omega)]
    unfold newBytes at h
    split at h
    · cases h
    · cases h; rfl
  · rw [if_neg (by omega), obfuscate_eq, if_pos ⟨e, isText_of hk⟩] at h
    rw [if_pos e, userPassword_roundtrip H hH b secret auth c h, takeWhile_nulfree b (hn e)]
  · rw [if_neg (by omega), obfuscate_eq, if_neg (by omega), if_pos (usesSalt_text hk e)] at h
    rw [if_neg (by omega), if_pos e]
    exact tpPlain_roundtrip H hH _ _ h

theorem textCipher_length (hH : ∀ x, (H x).length = 16)
    (hk : d.kind = .string ∨ d.kind = .octets) (b c : Bytes)
    (h : textCipher H d b secret auth salt = .ok c) :
    (d.encrypt = 0 → c = b ∧ b.length ≤ 253) ∧
    (d.encrypt = 1 → c = Rfc2865.userPasswordCipher H b secret auth ∧ 16 ≤ c.length ∧ c.length ≤ 128) ∧
    (d.encrypt = 2 → c = Rfc2868.tunnelPasswordCipher H b salt secret auth ∧ 18 ≤ c.length ∧ c.length ≤ 252) := by
  unfold textCipher at h
  refine ⟨fun e => ?_, fun e => ?_, fun e => ?_⟩
  · rw [if_pos e] at h
    unfold newBytes at h
    split at h
    · cases h
    · cases h; exact ⟨rfl, by omega⟩
  · rw [if_neg (by omega), obfuscate_eq, if_pos ⟨e, isText_of hk⟩] at h
    have h1 := newUserPassword_eq_rfc H hH b secret auth c h
    have h2 := userPasswordCipher_length H hH b secret auth
    have h3 := (newUserPassword_ok H b secret auth c h).1
    rw [← h1] at h2
    refine ⟨h1, ?_, ?_⟩ <;> omega
  · rw [if_neg (by omega), obfuscate_eq, if_neg (by omega), if_pos (usesSalt_text hk e)] at h
    have h1 := newTunnelPassword_eq_rfc H b salt secret auth c h
    have h2 := newTunnelPassword_length H hH b salt secret auth c h
    have h3 := (newTunnelPassword_ok H b salt secret auth c h).1
    refine ⟨h1, ?_, ?_⟩ <;> omega

/-- the tag octet in front of a stored text value -/
def tagPrefix (d : Desc) (tag : UInt8) : Bytes :=
  if d.hasTag = true ∧ tag.toNat ≤ 0x1F then [tag] else []

theorem stored_text (hk : d.kind = .string ∨ d.kind = .octets)
    (b a : Bytes) (he : encodeValue H d tag (.bytes b) secret auth salt = .ok a) :
    ¬ (d.size.isSome ∧ d.size ≠ some b.length) ∧
    ∃ c, textCipher H d b secret auth salt = .ok c ∧ a = tagPrefix d tag ++ c := by
  rw [encodeValue_text H hk] at he
  split at he
  · cases he
  next hsz =>
  refine ⟨hsz, ?_⟩
  cases hc : textCipher H d b secret auth salt with
  | err => rw [hc] at he; cases he
  | fault => rw [hc] at he; cases he
  | ok c =>
    simp only [hc] at he
    refine ⟨c, rfl, ?_⟩
    unfold tagPrefix
    split at he
    · next ht =>
      split at he
      · cases he
      · cases he; rw [if_pos ht]; rfl
    · next ht => cases he; rw [if_neg ht]; rfl

theorem untag_tagPrefix (c : Bytes) (htr : tagInRange d tag)
    (ht0 : d.hasTag = false → tag = 0) : untag d (tagPrefix d tag ++ c) = (tag, c) := by
  unfold tagPrefix
  by_cases ht : d.hasTag = true
  · have := htr ht
    rw [if_pos ⟨ht, this⟩]
    unfold untag
    rw [if_pos ⟨ht, Nat.le_add_left _ _, this⟩]; rfl
  · rw [if_neg (fun h => ht h.1)]
    unfold untag
    rw [if_neg (fun h => ht h.1), ht0 (by simpa using ht)]; rfl

theorem decode_encode_text (hH : ∀ x, (H x).length = 16) (hwf : d.wf)
    (hk : d.kind = .string ∨ d.kind = .octets) (b a : Bytes)
    (hv : valueOK d tag (.bytes b))
    (he : encodeValue H d tag (.bytes b) secret auth salt = .ok a) :
    decodeValue H d a secret auth = .ok (tag, .bytes b) := by
  obtain ⟨⟨ht0, _⟩, htr, _, hnul⟩ := hv
  obtain ⟨hsz, c, hc, rfl⟩ := stored_text H hk b a he
  rw [decodeValue_text H d (by rcases hk with h | h <;> simp [h]), untag_tagPrefix c htr ht0]
  simp only [text_roundtrip H hH hwf hk b c (fun e => hnul e (isText_of hk)) hc]
  rw [if_neg hsz]

theorem Kind.intBytes_cases {k : Kind} {w : Nat} (h : k.intBytes = some w) :
    (k = .integer ∧ w = 4) ∨ (k = .integer64 ∧ w = 8) ∨ (k = .short ∧ w = 2) := by
  cases k <;> simp [Kind.intBytes] at h <;> simp [h]

/-- tag split of the getters of a tagged integer attribute: the tag octet is replaced by 0 -/
def untagInt (a : Bytes) : UInt8 × Bytes :=
  if a.length ≥ 1 ∧ (a.getD 0 0).toNat ≤ 0x1F then (a.getD 0 0, (0 : UInt8) :: a.drop 1) else (0, a)

theorem encodeValue_int (w : Nat) (hk : d.kind.intBytes = some w) (n : Nat) :
    encodeValue H d tag (.nat n) secret auth salt =
      if d.hasTag then
        .ok ((if 1 ≤ tag.toNat ∧ tag.toNat ≤ 0x1F then tag else 0) :: (beBytes w n).drop 1)
      else obfuscate H d (beBytes w n) secret auth salt := by
  rcases Kind.intBytes_cases hk with ⟨h, rfl⟩ | ⟨h, rfl⟩ | ⟨h, rfl⟩ <;>
    simp only [encodeValue.eq_def, h, Kind.intBytes]

theorem decodeValue_int (w : Nat) (hk : d.kind.intBytes = some w) (a : Bytes) :
    decodeValue H d a secret auth =
      if d.hasTag then
        (if (untagInt a).2.length ≠ w then .err
         else .ok ((untagInt a).1, .nat (beNat (untagInt a).2)))
      else
        match unsalt H d a secret auth with
        | .ok a => if a.length ≠ w then .err else .ok (0, .nat (beNat a))
        | .err => .err
        | .fault => .fault := by
  rcases Kind.intBytes_cases hk with ⟨h, rfl⟩ | ⟨h, rfl⟩ | ⟨h, rfl⟩ <;>
    simp only [decodeValue.eq_def, h, Kind.intBytes, unsalt, untagInt] <;> rfl

theorem decode_encode_int (hH : ∀ x, (H x).length = 16) (hwf : d.wf) (w : Nat)
    (hk : d.kind.intBytes = some w) (n : Nat) (a : Bytes)
    (hn : n < 256 ^ w) (hv : valueOK d tag (.nat n))
    (he : encodeValue H d tag (.nat n) secret auth salt = .ok a) :
    decodeValue H d a secret auth = .ok (tag, .nat n) := by
  obtain ⟨⟨ht0, _⟩, htr, hfit, _⟩ := hv
  rw [encodeValue_int H w hk] at he
  rw [decodeValue_int H w hk]
  by_cases ht : d.hasTag = true
  · have htag := htr ht
    have hn24 := hfit ht
    -- only `integer` can be tagged
    obtain rfl : w = 4 := by
      rcases hwf.tagged_kind ht with h | h | h <;> simp [h, Kind.intBytes] at hk <;> omega
    rw [if_pos ht] at he ⊢
    have e1 : (if 1 ≤ tag.toNat ∧ tag.toNat ≤ 0x1F then tag else 0) = tag := by
      split
      · rfl
      · next h => exact UInt8.toNat_inj.1 (show (0 : UInt8).toNat = tag.toNat by simp; omega)
    rw [e1] at he
    cases he
    have hu : untagInt (tag :: (beBytes 4 n).drop 1) = (tag, 0 :: beBytes 3 n) := by
      unfold untagInt; rw [if_pos ⟨Nat.le_add_left _ _, htag⟩]; rfl
    rw [hu, if_neg (by simp [beBytes_length])]
    have : beNat (0 :: beBytes 3 n) = n := by
      simp only [beNat, UInt8.toNat_zero, Nat.zero_mul, Nat.zero_add]
      exact beNat_beBytes 3 n (by omega)
    rw [this]
  · rw [if_neg ht] at he ⊢
    rw [obfuscate_unsalt H hH _ a
      (by rcases Kind.intBytes_cases hk with ⟨h, _⟩ | ⟨h, _⟩ | ⟨h, _⟩ <;> rw [h] <;> rfl) he]
    simp only [beBytes_length]
    rw [if_neg (by omega), beNat_beBytes w n hn, ht0 (by simpa using ht)]

/-- the two address kinds with their conversion (`To4` / `To16`) and stored length -/
def Kind.addr (k : Kind) (conv : Bytes → Option Bytes) (n : Nat) : Prop :=
  (k = .ipaddr ∧ conv = to4 ∧ n = 4) ∨ (k = .ipv6addr ∧ conv = to16 ∧ n = 16)

theorem Kind.addr.length {k : Kind} {conv : Bytes → Option Bytes} {n : Nat} (hk : k.addr conv n)
    {ip b : Bytes} (h : conv ip = some b) : b.length = n := by
  rcases hk with ⟨_, rfl, rfl⟩ | ⟨_, rfl, rfl⟩
  · unfold to4 at h
    split at h
    · cases h; assumption
    · split at h
      · cases h; simp only [List.length_drop]; omega
      · cases h
  · unfold to16 at h
    split at h
    · cases h; simp only [List.length_append, v4InV6Prefix, List.length_cons, List.length_nil]; omega
    · split at h
      · cases h; assumption
      · cases h

theorem encodeValue_addr {conv : Bytes → Option Bytes} {n : Nat} (hk : d.kind.addr conv n)
     (ip : Bytes) :
    encodeValue H d tag (.bytes ip) secret auth salt =
      match conv ip with
      | some b => obfuscate H d b secret auth salt
      | none => .err := by
  rcases hk with ⟨h, rfl, rfl⟩ | ⟨h, rfl, rfl⟩
  · simp only [encodeValue.eq_def, h, newIPAddr]; cases to4 ip <;> rfl
  · simp only [encodeValue.eq_def, h, newIPv6Addr]; cases to16 ip <;> rfl

/-- the reading side of an address attribute, for `X_Lookup`'s outcome and for its named results -/
theorem decode_lookup_addr {conv : Bytes → Option Bytes} {n : Nat} (hk : d.kind.addr conv n)
    (a : Bytes) :
    decodeValue H d a secret auth =
      (match unsalt H d a secret auth with
       | .ok b => if b.length ≠ n then .err else .ok (0, .bytes b)
       | .err => .err
       | .fault => .fault) ∧
    lookupResults H d a secret auth =
      (match unsalt H d a secret auth with
       | .ok b => if b.length ≠ n then (0, .bytes []) else (0, .bytes b)
       | _ => (0, .bytes [])) := by
  rcases hk with ⟨h, rfl, rfl⟩ | ⟨h, rfl, rfl⟩ <;>
    simp only [decodeValue.eq_def, lookupResults.eq_def, h, reduceCtorEq, ↓reduceIte] <;>
    show (match unsalt H d a secret auth with | .ok a => _ | .err => _ | .fault => _) = _ ∧
      (match unsalt H d a secret auth with | .ok a => _ | _ => _) = _ <;>
    cases unsalt H d a secret auth <;> try exact ⟨rfl, rfl⟩
  -- left: the stage yields some `b`, whose length `ipAddr` / `ipv6Addr` test
  · next b => by_cases hl : b.length = 4 <;>
      simp only [ipAddr, ne_eq, hl, not_true_eq_false, not_false_eq_true, ↓reduceIte, and_self]
  · next b => by_cases hl : b.length = 16 <;>
      simp only [ipv6Addr, ne_eq, hl, not_true_eq_false, not_false_eq_true, ↓reduceIte, and_self]

theorem decodeValue_addr {conv : Bytes → Option Bytes} {n : Nat} (hk : d.kind.addr conv n)
    (a : Bytes) :
    decodeValue H d a secret auth =
      match unsalt H d a secret auth with
      | .ok b => if b.length ≠ n then .err else .ok (0, .bytes b)
      | .err => .err
      | .fault => .fault :=
  (decode_lookup_addr H hk a).1

theorem decode_encode_addr (hH : ∀ x, (H x).length = 16) {conv : Bytes → Option Bytes}
    {n : Nat} (hk : d.kind.addr conv n) (ip a : Bytes)
    (he : encodeValue H d tag (.bytes ip) secret auth salt = .ok a) :
    decodeValue H d a secret auth = .ok (0, .bytes ((conv ip).getD ip)) := by
  rw [encodeValue_addr H hk] at he
  rw [decodeValue_addr H hk]
  cases hc : conv ip with
  | none => rw [hc] at he; cases he
  | some x =>
    rw [hc] at he
    rw [obfuscate_unsalt H hH x a (by rcases hk with ⟨h, _⟩ | ⟨h, _⟩ <;> rw [h] <;> rfl) he]
    simp only [hk.length hc, ne_eq, not_true_eq_false, if_false, Option.getD_some]

theorem decode_encode_ifid
    (hk : d.kind = .ifid) (x a : Bytes)
    (he : encodeValue H d tag (.bytes x) secret auth salt = .ok a) :
    decodeValue H d a secret auth = .ok (0, .bytes x) := by
  simp only [encodeValue.eq_def, hk, newIFID] at he
  simp only [decodeValue.eq_def, hk, ifid]
  split at he
  · cases he
  · next hl => cases he; rw [if_neg hl]

theorem decode_encode_date
    (hk : d.kind = .date) (u : Int) (a : Bytes)
    (he : encodeValue H d tag (.time u) secret auth salt = .ok a) :
    decodeValue H d a secret auth = .ok (0, .time u) := by
  simp only [encodeValue.eq_def, hk] at he
  simp only [decodeValue.eq_def, hk]
  rw [(date_roundtrip' u a he).2]

theorem decode_encode_byte
    (hk : d.kind = .byte) (n : Nat) (hn : n < 256) (a : Bytes)
    (he : encodeValue H d tag (.nat n) secret auth salt = .ok a) :
    decodeValue H d a secret auth = .ok (0, .nat n) := by
  simp only [encodeValue.eq_def, hk] at he
  simp only [decodeValue.eq_def, hk]
  cases he
  rw [if_neg (by simp), List.getD_cons_zero, u8_ofNat_toNat_lt hn]

theorem decode_encode_prefix
    (hk : d.kind = .ipv6prefix) (p : Option (Bytes × Bytes)) (a : Bytes)
    (he : encodeValue H d tag (.pfx p) secret auth salt = .ok a) :
    decodeValue H d a secret auth = .ok (0, canon d (.pfx p)) := by
  simp only [encodeValue.eq_def, hk] at he
  simp only [decodeValue.eq_def, hk]
  match p with
  | none => cases he
  | some (ip, m) =>
    obtain ⟨_, _, hm⟩ := (prefix_enc_ok_iff' ip m).1 ⟨a, he⟩
    obtain ⟨n, hn⟩ := Option.isSome_iff_exists.1 hm
    rw [(prefix_roundtrip' ip m a n hn he).2]
    simp only [canon.eq_def, hk, hn]

theorem decode_encode_all (hH : ∀ x, (H x).length = 16) (hwf : d.wf) (v : GVal)
    (a : Bytes) (hv : valueOK d tag v)
    (he : encodeValue H d tag v secret auth salt = .ok a) :
    decodeValue H d a secret auth = .ok (tag, canon d v) := by
  obtain ⟨ht0, hty⟩ := hv.1
  have h0 : d.kind ≠ .string ∧ d.kind ≠ .octets ∧ d.kind ≠ .integer → tag = 0 :=
    fun h => ht0 (hwf.hasTag_false h)
  cases hk : d.kind <;> cases v <;> simp only [hk] at hty <;> simp only [canon.eq_def, hk]
  case string.bytes b => exact decode_encode_text H hH hwf (Or.inl hk) b a hv he
  case octets.bytes b => exact decode_encode_text H hH hwf (Or.inr hk) b a hv he
  case concat.bytes b => simp only [encodeValue.eq_def, hk] at he; cases he
  case ipaddr.bytes ip =>
    rw [h0 (by rw [hk]; decide)]
    exact decode_encode_addr H hH (Or.inl ⟨hk, rfl, rfl⟩) ip a he
  case ipv6addr.bytes ip =>
    rw [h0 (by rw [hk]; decide)]
    exact decode_encode_addr H hH (Or.inr ⟨hk, rfl, rfl⟩) ip a he
  case ifid.bytes x =>
    rw [h0 (by rw [hk]; decide)]
    exact decode_encode_ifid H hk x a he
  case ipv6prefix.pfx p =>
    rw [h0 (by rw [hk]; decide)]
    simpa only [canon, hk] using decode_encode_prefix H hk p a he
  case date.time u =>
    rw [h0 (by rw [hk]; decide)]
    exact decode_encode_date H hk u a he
  case byte.nat n =>
    rw [h0 (by rw [hk]; decide)]
    exact decode_encode_byte H hk n hty a he
  case integer.nat n =>
    exact decode_encode_int H hH hwf 4 (by rw [hk]; rfl) n a (by omega) hv he
  case integer64.nat n =>
    exact decode_encode_int H hH hwf 8 (by rw [hk]; rfl) n a (by omega) hv he
  case short.nat n =>
    exact decode_encode_int H hH hwf 2 (by rw [hk]; rfl) n a (by omega) hv he

/-- the clear octets of a value, before the `encrypt=` stage -/
def clearBytes (d : Desc) (v : GVal) : Option Bytes :=
  match d.kind, v with
  | .string, .bytes b | .octets, .bytes b => some b
  | .ipaddr, .bytes ip => to4 ip
  | .ipv6addr, .bytes ip => to16 ip
  | .integer, .nat n => some (beBytes 4 n)
  | .integer64, .nat n => some (beBytes 8 n)
  | .short, .nat n => some (beBytes 2 n)
  | _, _ => none

theorem obfuscate_salted (hs : d.usesSalt = true) (x a : Bytes)
    (h : obfuscate H d x secret auth salt = .ok a) :
    a = Rfc2868.tunnelPasswordCipher H x salt secret auth := by
  have := usesSalt_encrypt hs
  rw [obfuscate_eq, if_neg (by omega), if_pos hs] at h
  exact newTunnelPassword_eq_rfc H x salt secret auth a h

theorem stored_salted (hH : ∀ x, (H x).length = 16) (hwf : d.wf) (hs : d.usesSalt = true)
     (v : GVal) (a : Bytes)
    (he : encodeValue H d tag v secret auth salt = .ok a) :
    ∃ p, clearBytes d v = some p ∧
      a = tagPrefix d tag ++ Rfc2868.tunnelPasswordCipher H p salt secret auth := by
  have henc := usesSalt_encrypt hs
  -- a salted value other than text carries no tag octet (a tagged integer is not salted)
  have hnotag : d.kind ≠ .string ∧ d.kind ≠ .octets → tagPrefix d tag = [] := by
    intro ⟨h1, h2⟩
    unfold tagPrefix
    rw [if_neg]
    rintro ⟨ht, _⟩
    rcases hwf.tagged_kind ht with h | h | h
    · exact h1 h
    · exact h2 h
    · simp [Desc.usesSalt, h, ht] at hs
  have text : ∀ b, d.kind = .string ∨ d.kind = .octets →
      encodeValue H d tag (.bytes b) secret auth salt = .ok a →
      a = tagPrefix d tag ++ Rfc2868.tunnelPasswordCipher H b salt secret auth := by
    intro b hk he
    obtain ⟨_, c, hc, ha⟩ := stored_text H hk b a he
    rw [ha, ((textCipher_length H hH hk b c hc).2.2 henc).1]
  have addr : ∀ ip conv n, d.kind.addr conv n → tagPrefix d tag = [] →
      encodeValue H d tag (.bytes ip) secret auth salt = .ok a →
      ∃ p, conv ip = some p ∧ a = tagPrefix d tag ++ Rfc2868.tunnelPasswordCipher H p salt secret auth := by
    intro ip conv n hk hno he
    rw [encodeValue_addr H hk] at he
    cases hc : conv ip with
    | none => rw [hc] at he; cases he
    | some x => rw [hc] at he; exact ⟨x, rfl, by rw [hno]; exact obfuscate_salted H hs x a he⟩
  have int : ∀ n w, d.kind.intBytes = some w → tagPrefix d tag = [] →
      encodeValue H d tag (.nat n) secret auth salt = .ok a →
      a = tagPrefix d tag ++ Rfc2868.tunnelPasswordCipher H (beBytes w n) salt secret auth := by
    intro n w hk hno he
    have ht : d.hasTag = false := by
      have := hs
      rcases Kind.intBytes_cases hk with ⟨h, _⟩ | ⟨h, _⟩ | ⟨h, _⟩ <;> simp [Desc.usesSalt, h] at this <;> exact this.2
    rw [encodeValue_int H w hk, ht] at he
    rw [hno]; exact obfuscate_salted H hs _ a he
  cases hk : d.kind
  -- these kinds are never salted
  case concat | ifid | ipv6prefix | date | byte => simp [Desc.usesSalt, hk] at hs
  all_goals cases v <;> simp only [clearBytes.eq_def, hk]
  case string.bytes b => exact ⟨b, rfl, text b (Or.inl hk) he⟩
  case octets.bytes b => exact ⟨b, rfl, text b (Or.inr hk) he⟩
  case ipaddr.bytes ip => exact addr ip _ _ (Or.inl ⟨hk, rfl, rfl⟩) (hnotag (by rw [hk]; decide)) he
  case ipv6addr.bytes ip => exact addr ip _ _ (Or.inr ⟨hk, rfl, rfl⟩) (hnotag (by rw [hk]; decide)) he
  case integer.nat n => exact ⟨_, rfl, int n 4 (by rw [hk]; rfl) (hnotag (by rw [hk]; decide)) he⟩
  case integer64.nat n => exact ⟨_, rfl, int n 8 (by rw [hk]; rfl) (hnotag (by rw [hk]; decide)) he⟩
  case short.nat n => exact ⟨_, rfl, int n 2 (by rw [hk]; rfl) (hnotag (by rw [hk]; decide)) he⟩
  -- a value of another Go type is not encoded
  all_goals simp only [encodeValue.eq_def, hk, Kind.intBytes, reduceCtorEq] at he

theorem hGets_eq (d : Desc) (as : Attrs) (secret auth : Bytes) :
    hGets H d as secret auth = hGets.go H d secret auth (rawValues d as) := rfl

theorem hGets_go_cons_ok (d : Desc) (secret auth a : Bytes) (rest : List Bytes) (tv : UInt8 × GVal)
    (h : decodeValue H d a secret auth = .ok tv) :
    hGets.go H d secret auth (a :: rest) =
      (tv :: (hGets.go H d secret auth rest).1, (hGets.go H d secret auth rest).2) := by
  rw [hGets.go, h]

theorem hGets_go_cons_fail (d : Desc) (secret auth a : Bytes) (rest : List Bytes)
    (h : ∀ tv, decodeValue H d a secret auth ≠ .ok tv) :
    hGets.go H d secret auth (a :: rest) = ([], false) := by
  rw [hGets.go]
  split
  · next tv heq => exact absurd heq (h tv)
  · rfl

theorem hGets_go_append (xs ys : List Bytes) :
    hGets.go H d secret auth (xs ++ ys) =
      if (hGets.go H d secret auth xs).2 = true then
        ((hGets.go H d secret auth xs).1 ++ (hGets.go H d secret auth ys).1, (hGets.go H d secret auth ys).2)
      else hGets.go H d secret auth xs := by
  induction xs with
  | nil => rfl
  | cons a xs ih =>
    cases hd : decodeValue H d a secret auth with
    | ok tv =>
      rw [List.cons_append, hGets_go_cons_ok H d secret auth a _ tv hd,
        hGets_go_cons_ok H d secret auth a _ tv hd, ih]
      split <;> rfl
    | err =>
      have hf : ∀ tv, decodeValue H d a secret auth ≠ .ok tv := by rw [hd]; intro tv h; cases h
      rw [List.cons_append, hGets_go_cons_fail H d secret auth a _ hf, hGets_go_cons_fail H d secret auth a _ hf]
      rfl
    | fault =>
      have hf : ∀ tv, decodeValue H d a secret auth ≠ .ok tv := by rw [hd]; intro tv h; cases h
      rw [List.cons_append, hGets_go_cons_fail H d secret auth a _ hf, hGets_go_cons_fail H d secret auth a _ hf]
      rfl

theorem hLookup_congr (as as' : Attrs)
    (h : rawValues d as' = rawValues d as) :
    hLookup H d as' secret auth = hLookup H d as secret auth := by
  unfold hLookup; rw [h]

theorem hGets_congr (as as' : Attrs)
    (h : rawValues d as' = rawValues d as) :
    hGets H d as' secret auth = hGets H d as secret auth := by
  rw [hGets_eq, hGets_eq, h]

theorem hLookup_of_raw_nil (as : Attrs) (h : rawValues d as = []) :
    hLookup H d as secret auth = .noAttr := by
  unfold hLookup; rw [h]; split <;> rfl

theorem hLookup_of_raw_single (hk : d.kind ≠ .concat) (as : Attrs) (a : Bytes)
    (rest : List Bytes) (tv : UInt8 × GVal)
    (h : rawValues d as = a :: rest) (hd : decodeValue H d a secret auth = .ok tv) :
    hLookup H d as secret auth = .val tv.1 tv.2 := by
  unfold hLookup; rw [if_neg hk, h]; simp only [List.head?_cons, hd]

/-- the last statement of `X_Set` (`X_Add` below): `p.Set` on a top-level attribute, `_V_SetVendor` else -/
def storeSet (d : Desc) (as : Attrs) (a : Bytes) : Res Attrs :=
  if d.vendorID = 0 then .ok (as.set d.typ a) else setVendor d.vendorID d.vendorType a as

def storeAdd (d : Desc) (as : Attrs) (a : Bytes) : Res Attrs :=
  if d.vendorID = 0 then .ok (as.add d.typ a) else addVendor d.vendorID d.vendorType a as

theorem hSet_eq (hk : d.kind ≠ .concat) (as : Attrs) (v : GVal) :
    hSet H d as tag v secret auth salt = (encodeValue H d tag v secret auth salt).bind (storeSet d as) := by
  unfold hSet; rw [if_neg hk]; cases encodeValue H d tag v secret auth salt <;> rfl

theorem hAdd_eq (hk : d.kind ≠ .concat) (as : Attrs) (v : GVal) :
    hAdd H d as tag v secret auth salt = (encodeValue H d tag v secret auth salt).bind (storeAdd d as) := by
  unfold hAdd; rw [if_neg hk]; cases encodeValue H d tag v secret auth salt <;> rfl

theorem hAdd_concat (hk : d.kind = .concat) (as : Attrs) (v : GVal)
     : hAdd H d as tag v secret auth salt = .err := by
  unfold hAdd; rw [if_pos hk]

theorem hSet_concat (hk : d.kind = .concat) (as : Attrs) (v : GVal) :
    hSet H d as tag v secret auth salt =
      match v with
      | .bytes b => .ok (as.del d.typ ++ (chunks253 b).map (fun c => ⟨d.typ, c⟩))
      | _ => .err := by
  unfold hSet; rw [if_pos hk]; cases v <;> rfl

theorem hSet_concat_ok (hk : d.kind = .concat) (as as' : Attrs) (v : GVal)
    (h : hSet H d as tag v secret auth salt = .ok as') :
    ∃ b, v = .bytes b ∧ as' = as.del d.typ ++ (chunks253 b).map (fun c => ⟨d.typ, c⟩) := by
  rw [hSet_concat H hk] at h
  cases v <;> cases h
  exact ⟨_, rfl, rfl⟩

theorem hSet_ok (hk : d.kind ≠ .concat) (as as' : Attrs) (v : GVal)
     (h : hSet H d as tag v secret auth salt = .ok as') :
    ∃ a, encodeValue H d tag v secret auth salt = .ok a ∧ storeSet d as a = .ok as' :=
  Res.bind_eq_ok.1 (hSet_eq H hk as v ▸ h)

theorem hAdd_ok (as as' : Attrs) (v : GVal)
     (h : hAdd H d as tag v secret auth salt = .ok as') :
    d.kind ≠ .concat ∧ ∃ a, encodeValue H d tag v secret auth salt = .ok a ∧ storeAdd d as a = .ok as' := by
  have hk : d.kind ≠ .concat := fun hk => by rw [hAdd_concat H hk] at h; cases h
  exact ⟨hk, Res.bind_eq_ok.1 (hAdd_eq H hk as v ▸ h)⟩

theorem rawValues_top (h : d.vendorID = 0) (as : Attrs) :
    rawValues d as = (as.filter (fun a => a.typ = d.typ)).map (·.val) := by
  unfold rawValues; rw [if_pos h]

theorem rawValues_vendor (h : d.vendorID ≠ 0) (as : Attrs) :
    rawValues d as = getsVendor d.vendorID d.vendorType as := by
  unfold rawValues; rw [if_neg h]

theorem rawValues_storeSet (hwf : d.wf) (as as' : Attrs) (a : Bytes)
    (h : storeSet d as a = .ok as') : rawValues d as' = [a] := by
  unfold storeSet at h
  by_cases hv : d.vendorID = 0
  · rw [if_pos hv] at h; cases h
    rw [rawValues_top hv, set_eq_spec, specSet_filter_eq]; rfl
  · rw [if_neg hv] at h
    rw [rawValues_vendor hv, getsVendor_setVendor _ _ _ _ _ _ _ (hwf.vendorID_lt hv) h, if_pos ⟨rfl, rfl⟩]

theorem rawValues_storeAdd (hwf : d.wf) (as as' : Attrs) (a : Bytes)
    (h : storeAdd d as a = .ok as') : rawValues d as' = rawValues d as ++ [a] := by
  unfold storeAdd at h
  by_cases hv : d.vendorID = 0
  · rw [if_pos hv] at h; cases h
    rw [rawValues_top hv, rawValues_top hv, Attrs.add, List.filter_append, List.map_append]
    simp
  · rw [if_neg hv] at h
    rw [rawValues_vendor hv, rawValues_vendor hv,
      getsVendor_addVendor _ _ _ _ _ _ _ (hwf.vendorID_lt hv) h, if_pos ⟨rfl, rfl⟩]

theorem rawValues_hSet (hwf : d.wf) (hk : d.kind ≠ .concat) (as as' : Attrs)
    (v : GVal) (h : hSet H d as tag v secret auth salt = .ok as') :
    ∃ a, encodeValue H d tag v secret auth salt = .ok a ∧ rawValues d as' = [a] := by
  obtain ⟨a, he, hs⟩ := hSet_ok H hk as as' v h
  exact ⟨a, he, rawValues_storeSet hwf as as' a hs⟩

theorem rawValues_hAdd (hwf : d.wf) (as as' : Attrs)
    (v : GVal) (h : hAdd H d as tag v secret auth salt = .ok as') :
    ∃ a, encodeValue H d tag v secret auth salt = .ok a ∧ rawValues d as' = rawValues d as ++ [a] := by
  obtain ⟨_, a, he, hs⟩ := hAdd_ok H as as' v h
  exact ⟨a, he, rawValues_storeAdd hwf as as' a hs⟩

theorem hSet_hAdd_of_encode (hwf : d.wf) (hk : d.kind ≠ .concat) (v : GVal) (a : Bytes)
    (he : encodeValue H d tag v secret auth salt = .ok a) (hl : 1 ≤ a.length ∧ a.length ≤ 247)
    (as : Attrs) :
    (∃ as', hSet H d as tag v secret auth salt = .ok as' ∧ rawValues d as' = [a]) ∧
    (∃ as', hAdd H d as tag v secret auth salt = .ok as' ∧ rawValues d as' = rawValues d as ++ [a]) := by
  have hs : ∃ as', storeSet d as a = .ok as' := by
    unfold storeSet; split
    · exact ⟨_, rfl⟩
    · rw [setVendor_eq, if_pos hl]; exact ⟨_, rfl⟩
  have ha : ∃ as', storeAdd d as a = .ok as' := by
    unfold storeAdd; split
    · exact ⟨_, rfl⟩
    · rw [addVendor_eq, if_pos hl]; exact ⟨_, rfl⟩
  obtain ⟨as1, h1⟩ := hs
  obtain ⟨as2, h2⟩ := ha
  rw [hSet_eq H hk, hAdd_eq H hk, he]
  exact ⟨⟨as1, h1, rawValues_storeSet hwf as as1 a h1⟩, ⟨as2, h2, rawValues_storeAdd hwf as as2 a h2⟩⟩

/-- an unencrypted address attribute takes every value its conversion (`To4` / `To16`) takes, and
    stores and returns the converted form -/
theorem accepts_addr (hwf : d.wf) {conv : Bytes → Option Bytes} {n : Nat} (hk : d.kind.addr conv n)
    (he : d.encrypt = 0) (as : Attrs) (ip b : Bytes) (hc : conv ip = some b) :
    (∃ as', hSet H d as tag (.bytes ip) secret auth salt = .ok as' ∧ rawValues d as' = [b] ∧
      hLookup H d as' secret auth = .val 0 (.bytes b)) ∧
    (∃ as', hAdd H d as tag (.bytes ip) secret auth salt = .ok as' ∧
      rawValues d as' = rawValues d as ++ [b]) := by
  have hb := hk.length hc
  have hcc : d.kind ≠ .concat := by rcases hk with ⟨h, _⟩ | ⟨h, _⟩ <;> simp [h]
  have hen : encodeValue H d tag (.bytes ip) secret auth salt = .ok b := by
    rw [encodeValue_addr H hk, hc]; unfold obfuscate; rw [he]; rfl
  obtain ⟨⟨as1, h1, r1⟩, h2⟩ := hSet_hAdd_of_encode H hwf hcc _ b hen
    (by rcases hk with ⟨_, _, rfl⟩ | ⟨_, _, rfl⟩ <;> omega) as
  refine ⟨⟨as1, h1, r1, ?_⟩, h2⟩
  have hd : decodeValue H d b secret auth = .ok (0, .bytes b) := by
    rw [decodeValue_addr H hk, unsalt_enc0 H he]
    simp only [hb, ne_eq, not_true_eq_false, if_false]
  exact hLookup_of_raw_single H hcc as1 b [] _ r1 hd

theorem rawValues_hDel (d : Desc) (as : Attrs) : rawValues d (hDel d as) = [] := by
  unfold hDel
  by_cases hv : d.vendorID = 0
  · rw [rawValues_top hv, if_pos hv, del_eq_filter, List.filter_filter]; simp
  · rw [rawValues_vendor hv, if_neg hv, getsVendor_delVendor, if_pos ⟨rfl, rfl⟩]

/-- two descriptors address different storage: different top-level types; a top-level type other
    than 26 and a vendor attribute; or different (vendor, vendor type) -/
def Desc.indep (d d' : Desc) : Prop :=
  if d.vendorID = 0 then
    (if d'.vendorID = 0 then d.typ ≠ d'.typ else d.typ ≠ 26)
  else
    (if d'.vendorID = 0 then d'.typ ≠ 26
     else (d.vendorID, d.vendorType) ≠ (d'.vendorID, d'.vendorType))

instance (d d' : Desc) : Decidable (d.indep d') := by unfold Desc.indep; infer_instance

theorem filter_eq_of_filter_ne (k k' : Int) (hk : k' ≠ k) (as : Attrs) :
    as.filter (fun a => a.typ = k') = (as.filter (fun a => a.typ ≠ k)).filter (fun a => a.typ = k') := by
  rw [List.filter_filter]
  apply List.filter_congr
  intro a _
  by_cases h : a.typ = k' <;> simp [h, hk]

/-- a write of `d`: a successful Set or Add, or a Del -/
def isWrite (d : Desc) (as as' : Attrs) : Prop :=
  (∃ tag v secret auth salt, hSet H d as tag v secret auth salt = .ok as') ∨
  (∃ tag v secret auth salt, hAdd H d as tag v secret auth salt = .ok as') ∨
  as' = hDel d as

theorem write_top_filter (h0 : d.vendorID = 0) (as as' : Attrs) (hw : isWrite H d as as') :
    as'.filter (fun a => a.typ ≠ d.typ) = as.filter (fun a => a.typ ≠ d.typ) := by
  rcases hw with ⟨tag, v, secret, auth, salt, h⟩ | ⟨tag, v, secret, auth, salt, h⟩ | h
  · by_cases hk : d.kind = .concat
    · obtain ⟨b, _, rfl⟩ := hSet_concat_ok H hk as as' v h
      have : ((chunks253 b).map (fun c => (⟨d.typ, c⟩ : AVP))).filter (fun a => a.typ ≠ d.typ) = [] := by
        rw [List.filter_eq_nil_iff]; intro a ha
        obtain ⟨c, _, rfl⟩ := List.mem_map.1 ha
        simp
      rw [List.filter_append, del_eq_filter, filter_ne_idem, this, List.append_nil]
    · obtain ⟨a, _, hs⟩ := hSet_ok H hk as as' v h
      unfold storeSet at hs
      rw [if_pos h0] at hs; cases hs
      rw [set_eq_spec, specSet_filter_ne]
  · obtain ⟨_, a, _, hs⟩ := hAdd_ok H as as' v h
    unfold storeAdd at hs
    rw [if_pos h0] at hs; cases hs
    rw [Attrs.add, List.filter_append]; simp
  · subst h
    unfold hDel; rw [if_pos h0, del_eq_filter, filter_ne_idem]

theorem write_vendor (hwf : d.wf) (h0 : d.vendorID ≠ 0) (as as' : Attrs) (hw : isWrite H d as as') :
    othersView d.vendorID d.vendorType as' = othersView d.vendorID d.vendorType as ∧
    ∀ vid' typ', (vid', typ') ≠ (d.vendorID, d.vendorType) →
      getsVendor vid' typ' as' = getsVendor vid' typ' as := by
  have hvid := hwf.vendorID_lt h0
  have hk : d.kind ≠ .concat := fun hk => h0 (hwf.concat_top hk)
  have hne : ∀ {vid' : Nat} {typ' : UInt8}, (vid', typ') ≠ (d.vendorID, d.vendorType) →
      ¬ (vid' = d.vendorID ∧ typ' = d.vendorType) := fun hne h => hne (Prod.ext h.1 h.2)
  rcases hw with ⟨tag, v, secret, auth, salt, h⟩ | ⟨tag, v, secret, auth, salt, h⟩ | h
  · obtain ⟨a, _, hs⟩ := hSet_ok H hk as as' v h
    unfold storeSet at hs; rw [if_neg h0] at hs
    refine ⟨othersView_setVendor _ _ _ _ _ hvid hs, fun vid' typ' h => ?_⟩
    rw [getsVendor_setVendor _ _ _ _ _ _ _ hvid hs, if_neg (hne h)]
  · obtain ⟨_, a, _, hs⟩ := hAdd_ok H as as' v h
    unfold storeAdd at hs; rw [if_neg h0] at hs
    refine ⟨othersView_addVendor _ _ _ _ _ hvid hs, fun vid' typ' h => ?_⟩
    rw [getsVendor_addVendor _ _ _ _ _ _ _ hvid hs, if_neg (hne h), List.append_nil]
  · subst h
    unfold hDel; rw [if_neg h0]
    refine ⟨othersView_delVendor _ _ _, fun vid' typ' h => ?_⟩
    rw [getsVendor_delVendor, if_neg (hne h)]

theorem rawValues_indep (d' : Desc) (hwf : d.wf) (hi : d.indep d') (as as' : Attrs)
    (hw : isWrite H d as as') : rawValues d' as' = rawValues d' as := by
  unfold Desc.indep at hi
  by_cases h0 : d.vendorID = 0
  · have hf := write_top_filter H h0 as as' hw
    rw [if_pos h0] at hi
    by_cases h0' : d'.vendorID = 0
    · -- another top-level type: its attributes are among those of type ≠ `d.typ`
      rw [if_pos h0'] at hi
      rw [rawValues_top h0', rawValues_top h0', filter_eq_of_filter_ne d.typ d'.typ (Ne.symm hi) as,
        filter_eq_of_filter_ne d.typ d'.typ (Ne.symm hi) as', hf]
    · -- a vendor attribute lives in type 26 ≠ `d.typ`
      rw [if_neg h0'] at hi
      have hp : ∀ a, isVendorAttr d'.vendorID a = true → (fun a : AVP => decide (a.typ ≠ d.typ)) a = true := by
        intro a ha
        simp only [decide_eq_true_eq, isVendorAttr_typ ha]
        exact fun e => hi e.symm
      rw [rawValues_vendor h0', rawValues_vendor h0', ← getsVendor_filter _ _ as _ hp,
        ← getsVendor_filter _ _ as' _ hp, hf]
  · rw [if_neg h0] at hi
    obtain ⟨hview, hgets⟩ := write_vendor H hwf h0 as as' hw
    by_cases h0' : d'.vendorID = 0
    · -- a top-level type other than 26: its attributes are among the foreign ones of the view
      rw [if_pos h0'] at hi
      have key : ∀ l : Attrs, l.filter (fun a => a.typ = d'.typ) =
          (l.filter (fun a => !isVendorAttr d.vendorID a)).filter (fun a => a.typ = d'.typ) := by
        intro l
        rw [List.filter_filter]
        apply List.filter_congr
        intro a _
        by_cases ht : a.typ = d'.typ
        · have : isVendorAttr d.vendorID a = false :=
            Bool.eq_false_iff.2 fun hh => hi (ht ▸ isVendorAttr_typ hh)
          simp [ht, this]
        · simp [ht]
      rw [rawValues_top h0', rawValues_top h0', key as, key as', foreign_of_othersView hview]
    · rw [if_neg h0'] at hi
      rw [rawValues_vendor h0', rawValues_vendor h0']
      exact hgets _ _ (fun e => hi e.symm)

theorem rawValues_filter_valid (hwf : d.wf) (as : Attrs) :
    rawValues d (as.filter validType) = rawValues d as := by
  by_cases h0 : d.vendorID = 0
  · rw [rawValues_top h0, rawValues_top h0, List.filter_filter]
    congr 1
    apply List.filter_congr
    intro a _
    by_cases ht : a.typ = d.typ
    · have : validType a = true := by
        simp only [validType, Bool.and_eq_true, decide_eq_true_eq]; rw [ht]; exact hwf.typ_octet
      simp [ht, this]
    · simp [ht]
  · rw [rawValues_vendor h0, rawValues_vendor h0]
    apply getsVendor_filter
    intro a ha
    simp [validType, isVendorAttr_typ ha]

theorem chunks253_nil : chunks253 [] = [] := by rw [chunks253]; simp

theorem chunks253_ne (b : Bytes) (h : b ≠ []) : chunks253 b = b.take 253 :: chunks253 (b.drop 253) := by
  rw [chunks253]; simp [h]

theorem chunks253_flatten (b : Bytes) : (chunks253 b).flatten = b := by
  induction b using chunks253.induct with
  | case1 => rw [chunks253_nil]; rfl
  | case2 b h ih => rw [chunks253_ne b h, List.flatten_cons, ih, List.take_append_drop]

theorem chunks253_bound (b : Bytes) : ∀ c ∈ chunks253 b, 1 ≤ c.length ∧ c.length ≤ 253 := by
  induction b using chunks253.induct with
  | case1 => rw [chunks253_nil]; simp
  | case2 b h ih =>
    rw [chunks253_ne b h]
    intro c hc
    rcases List.mem_cons.1 hc with rfl | hc
    · have : 1 ≤ b.length := by cases b <;> simp_all
      simp only [List.length_take]; omega
    · exact ih c hc

theorem chunks253_eq_nil_iff (b : Bytes) : chunks253 b = [] ↔ b = [] := by
  constructor
  · intro h
    have := chunks253_flatten b
    rw [h] at this; exact this.symm
  · rintro rfl; exact chunks253_nil

theorem rawValues_hSet_concat (hwf : d.wf) (hk : d.kind = .concat) (as as' : Attrs)
     (v : GVal)
    (h : hSet H d as tag v secret auth salt = .ok as') :
    ∃ b, v = .bytes b ∧ rawValues d as' = chunks253 b := by
  obtain ⟨b, hv, rfl⟩ := hSet_concat_ok H hk as as' v h
  refine ⟨b, hv, ?_⟩
  have e1 : (as.del d.typ).filter (fun a => a.typ = d.typ) = [] := by
    rw [del_eq_filter, List.filter_eq_nil_iff]
    intro a ha; simpa using (List.mem_filter.1 ha).2
  have e2 : ((chunks253 b).map (fun c => (⟨d.typ, c⟩ : AVP))).filter (fun a => a.typ = d.typ) =
      (chunks253 b).map (fun c => (⟨d.typ, c⟩ : AVP)) := by
    rw [List.filter_eq_self]; intro a ha
    obtain ⟨c, _, rfl⟩ := List.mem_map.1 ha
    simp
  rw [rawValues_top (hwf.concat_top hk), List.filter_append, e1, e2, List.nil_append, List.map_map]
  exact List.map_id' _

theorem hLookup_concat (hk : d.kind = .concat) (as : Attrs) :
    hLookup H d as secret auth =
      if rawValues d as = [] then .noAttr else .val 0 (.bytes (rawValues d as).flatten) := by
  unfold hLookup; rw [if_pos hk]
  split
  · next h => rw [if_pos h]
  · next h => rw [if_neg (by intro e; exact h e)]

theorem newBytes_ne_fault (b : Bytes) : newBytes b ≠ .fault := by unfold newBytes; split <;> simp
theorem newIFID_ne_fault (b : Bytes) : newIFID b ≠ .fault := by unfold newIFID; split <;> simp
theorem newDate_ne_fault (u : Int) : newDate u ≠ .fault := by unfold newDate; repeat' split <;> simp
theorem newIPv6Prefix_ne_fault (p : Option (Bytes × Bytes)) : newIPv6Prefix p ≠ .fault := by
  unfold newIPv6Prefix
  split
  · simp
  · split
    · simp
    · simp only []
      split <;> simp

theorem textCipher_ne_fault (b : Bytes) :
    textCipher H d b secret auth salt ≠ .fault := by
  unfold textCipher; split
  · exact newBytes_ne_fault b
  · exact obfuscate_ne_fault H b

theorem encodeValue_ne_fault (v : GVal) :
    encodeValue H d tag v secret auth salt ≠ .fault := by
  have text : ∀ b, d.kind = .string ∨ d.kind = .octets →
      encodeValue H d tag (.bytes b) secret auth salt ≠ .fault := by
    intro b hk
    rw [encodeValue_text H hk]
    split
    · exact fun h => nomatch h
    · cases hc : textCipher H d b secret auth salt with
      | fault => exact absurd hc (textCipher_ne_fault H b)
      | err => exact fun h => nomatch h
      | ok c =>
        simp only []
        split
        · split <;> exact fun h => nomatch h
        · exact fun h => nomatch h
  have addr : ∀ ip conv n, d.kind.addr conv n →
      encodeValue H d tag (.bytes ip) secret auth salt ≠ .fault := by
    intro ip conv n hk
    rw [encodeValue_addr H hk]
    cases conv ip
    · exact fun h => nomatch h
    · exact obfuscate_ne_fault H _
  have int : ∀ n w, d.kind.intBytes = some w →
      encodeValue H d tag (.nat n) secret auth salt ≠ .fault := by
    intro n w hk
    rw [encodeValue_int H w hk]
    split
    · exact fun h => nomatch h
    · exact obfuscate_ne_fault H _
  cases hk : d.kind <;> cases v
  case string.bytes b => exact text b (Or.inl hk)
  case octets.bytes b => exact text b (Or.inr hk)
  case ipaddr.bytes ip => exact addr ip _ _ (Or.inl ⟨hk, rfl, rfl⟩)
  case ipv6addr.bytes ip => exact addr ip _ _ (Or.inr ⟨hk, rfl, rfl⟩)
  case integer.nat n => exact int n 4 (by rw [hk]; rfl)
  case integer64.nat n => exact int n 8 (by rw [hk]; rfl)
  case short.nat n => exact int n 2 (by rw [hk]; rfl)
  -- what is left is a bare constructor, or `.err` for a value of another Go type
  all_goals simp only [encodeValue.eq_def, hk]
  case ifid.bytes x => exact newIFID_ne_fault x
  case ipv6prefix.pfx p => exact newIPv6Prefix_ne_fault p
  case date.time u => exact newDate_ne_fault u
  all_goals exact fun h => nomatch h

theorem store_spec {r : Res Attrs} {X Y : Attrs} {a : Bytes}
    (h : r = if d.vendorID = 0 then .ok X
      else if 1 ≤ a.length ∧ a.length ≤ 247 then .ok Y else .err) :
    r ≠ .fault ∧ (r = .err ↔ d.vendorID ≠ 0 ∧ (a.length = 0 ∨ 247 < a.length)) := by
  subst h
  by_cases h0 : d.vendorID = 0
  · rw [if_pos h0]; simp [h0]
  · rw [if_neg h0]
    by_cases hl : 1 ≤ a.length ∧ a.length ≤ 247
    · rw [if_pos hl]; refine ⟨nofun, ?_⟩; simp only [reduceCtorEq, false_iff]; omega
    · rw [if_neg hl]; exact ⟨nofun, by simp only [true_iff]; exact ⟨h0, by omega⟩⟩

theorem storeSet_spec (as : Attrs) (a : Bytes) :
    storeSet d as a ≠ .fault ∧
      (storeSet d as a = .err ↔ d.vendorID ≠ 0 ∧ (a.length = 0 ∨ 247 < a.length)) :=
  store_spec (by unfold storeSet; rw [setVendor_eq])

theorem storeAdd_spec (as : Attrs) (a : Bytes) :
    storeAdd d as a ≠ .fault ∧
      (storeAdd d as a = .err ↔ d.vendorID ≠ 0 ∧ (a.length = 0 ∨ 247 < a.length)) :=
  store_spec (by unfold storeAdd; rw [addVendor_eq])

theorem hSet_ne_fault (as : Attrs) (v : GVal) :
    hSet H d as tag v secret auth salt ≠ .fault := by
  by_cases hk : d.kind = .concat
  · rw [hSet_concat H hk]; cases v <;> exact fun h => nomatch h
  · rw [hSet_eq H hk]
    exact Res.bind_ne_fault (encodeValue_ne_fault H v) (fun a => (storeSet_spec as a).1)

theorem hAdd_ne_fault (as : Attrs) (v : GVal) :
    hAdd H d as tag v secret auth salt ≠ .fault := by
  by_cases hk : d.kind = .concat
  · rw [hAdd_concat H hk]; exact fun h => nomatch h
  · rw [hAdd_eq H hk]
    exact Res.bind_ne_fault (encodeValue_ne_fault H v) (fun a => (storeAdd_spec as a).1)

/-- the `encrypt=` stage refuses a clear value of `n` bytes -/
def encFails (d : Desc) (n : Nat) (secret auth salt : Bytes) : Prop :=
  (d.encrypt = 1 ∧ d.kind.isText = true ∧ (n > 128 ∨ secret = [] ∨ auth.length ≠ 16)) ∨
  (d.usesSalt = true ∧
    (n > 239 ∨ salt.length ≠ 2 ∨ (salt.getD 0 0).toNat < 128 ∨ secret = [] ∨ auth.length ≠ 16))

theorem obfuscate_err_iff (a : Bytes) :
    obfuscate H d a secret auth salt = .err ↔ encFails d a.length secret auth salt := by
  rw [obfuscate_eq]
  unfold encFails
  by_cases h1 : d.encrypt = 1 ∧ d.kind.isText = true
  · have hs : d.usesSalt = false := Bool.eq_false_iff.2 fun h => by have := usesSalt_encrypt h; omega
    rw [if_pos h1, Res.err_iff _ (newUserPassword_ne_fault H a secret auth), newUserPassword_ok_iff]
    simp only [h1.1, h1.2, hs, true_and, Bool.false_eq_true, false_and, or_false,
      Classical.not_and_iff_not_or_not, Classical.not_not, Nat.not_le, ne_eq, gt_iff_lt]
  · have e1 : ¬ (d.encrypt = 1 ∧ d.kind.isText = true ∧ (a.length > 128 ∨ secret = [] ∨ auth.length ≠ 16)) :=
      fun h => h1 ⟨h.1, h.2.1⟩
    rw [if_neg h1]
    by_cases hs : d.usesSalt = true
    · rw [if_pos hs, Res.err_iff _ (newTunnelPassword_ne_fault H a salt secret auth), newTunnelPassword_ok_iff]
      simp only [e1, hs, true_and, false_or, Classical.not_and_iff_not_or_not, Classical.not_not,
        Nat.not_le, ne_eq, gt_iff_lt]
    · rw [if_neg hs]
      simp only [e1, hs, false_and, or_self, reduceCtorEq, Bool.false_eq_true]

theorem textCipher_err_iff (b : Bytes) :
    textCipher H d b secret auth salt = .err ↔
      (d.encrypt = 0 ∧ b.length > 253) ∨ (d.encrypt ≠ 0 ∧ encFails d b.length secret auth salt) := by
  unfold textCipher
  by_cases h0 : d.encrypt = 0
  · rw [if_pos h0]
    unfold newBytes
    by_cases hl : b.length > 253 <;> simp [h0, hl]
  · rw [if_neg h0, obfuscate_err_iff]
    simp [h0]

/-- exactly when the encoding half of a setter reports an error -/
def encodeRefused (d : Desc) (tag : UInt8) (v : GVal) (secret auth salt : Bytes) : Prop :=
  match d.kind, v with
  | .string, .bytes b | .octets, .bytes b =>
      (d.size.isSome = true ∧ d.size ≠ some b.length) ∨                    -- wrong fixed size
      (d.encrypt = 0 ∧ b.length > 253) ∨                                   -- oversize
      (d.encrypt ≠ 0 ∧ encFails d b.length secret auth salt) ∨             -- failing encryption
      (d.hasTag = true ∧ tag.toNat ≤ 0x1F ∧ d.encrypt = 0 ∧ b.length = 253)  -- no room for the tag
  | .ipaddr, .bytes ip => to4 ip = none ∨ encFails d 4 secret auth salt     -- wrong address family
  | .ipv6addr, .bytes ip => to16 ip = none ∨ encFails d 16 secret auth salt
  | .ifid, .bytes x => x.length ≠ 8
  | .ipv6prefix, .pfx p =>
      ∀ ip mask, p = some (ip, mask) →
        ¬ (ip.length = 16 ∧ mask.length = 16 ∧ (maskOnes mask).isSome = true)
  | .date, .time u => u < 0 ∨ 4294967295 < u                               -- out-of-range time
  | .byte, .nat _ => False
  | .integer, .nat _ => d.hasTag = false ∧ encFails d 4 secret auth salt
  | .integer64, .nat _ => d.hasTag = false ∧ encFails d 8 secret auth salt
  | .short, .nat _ => d.hasTag = false ∧ encFails d 2 secret auth salt
  | _, _ => True   -- a value of another Go type (cannot be written in Go), or a concat attribute

theorem encodeValue_text_err_iff (hH : ∀ x, (H x).length = 16) (hwf : d.wf)
    (hk : d.kind = .string ∨ d.kind = .octets) (b : Bytes) :
    encodeValue H d tag (.bytes b) secret auth salt = .err ↔
      (d.size.isSome = true ∧ d.size ≠ some b.length) ∨
      (d.encrypt = 0 ∧ b.length > 253) ∨
      (d.encrypt ≠ 0 ∧ encFails d b.length secret auth salt) ∨
      (d.hasTag = true ∧ tag.toNat ≤ 0x1F ∧ d.encrypt = 0 ∧ b.length = 253) := by
  rw [encodeValue_text H hk]
  by_cases hsz : d.size.isSome = true ∧ d.size ≠ some b.length
  · rw [if_pos hsz]; simp [hsz]
  rw [if_neg hsz, ← or_assoc (b := d.encrypt ≠ 0 ∧ _), ← textCipher_err_iff H]
  cases hc : textCipher H d b secret auth salt with
  | fault => exact absurd hc (textCipher_ne_fault H b)
  | err => simp
  | ok c =>
    -- the stage succeeded: the only refusal left is a tag octet in front of 253 octets,
    -- which only an unencrypted value can have
    obtain ⟨l0, l1, l2⟩ := textCipher_length H hH hk b c hc
    simp only [hsz, reduceCtorEq, false_or]
    constructor
    · intro h
      split at h
      · next ht =>
        split at h
        · next hlen =>
          rcases hwf.encrypt_cases with e | e | e
          · have := l0 e; rw [this.1] at hlen; exact ⟨ht.1, ht.2, e, by omega⟩
          · have := l1 e; omega
          · have := l2 e; omega
        · cases h
      · cases h
    · intro h
      rw [if_pos ⟨h.1, h.2.1⟩, if_pos (by rw [(l0 h.2.2.1).1]; omega)]

theorem encodeValue_err_iff (hH : ∀ x, (H x).length = 16) (hwf : d.wf)
    (v : GVal) :
    encodeValue H d tag v secret auth salt = .err ↔ encodeRefused d tag v secret auth salt := by
  have addr : ∀ ip conv n, d.kind.addr conv n →
      (encodeValue H d tag (.bytes ip) secret auth salt = .err ↔
        conv ip = none ∨ encFails d n secret auth salt) := by
    intro ip conv n hk
    rw [encodeValue_addr H hk]
    cases hc : conv ip with
    | none => simp
    | some x => simp only [reduceCtorEq, false_or]; rw [obfuscate_err_iff, hk.length hc]
  have int : ∀ n w, d.kind.intBytes = some w →
      (encodeValue H d tag (.nat n) secret auth salt = .err ↔
        d.hasTag = false ∧ encFails d w secret auth salt) := by
    intro n w hk
    rw [encodeValue_int H w hk]
    cases d.hasTag with
    | true => simp
    | false => simp only [Bool.false_eq_true, if_false, true_and]; rw [obfuscate_err_iff, beBytes_length]
  cases hk : d.kind <;> cases v <;> simp only [encodeRefused.eq_def, hk]
  case string.bytes b => exact encodeValue_text_err_iff H hH hwf (Or.inl hk) b
  case octets.bytes b => exact encodeValue_text_err_iff H hH hwf (Or.inr hk) b
  case ipaddr.bytes ip => exact addr ip _ _ (Or.inl ⟨hk, rfl, rfl⟩)
  case ipv6addr.bytes ip => exact addr ip _ _ (Or.inr ⟨hk, rfl, rfl⟩)
  case integer.nat n => exact int n 4 (by rw [hk]; rfl)
  case integer64.nat n => exact int n 8 (by rw [hk]; rfl)
  case short.nat n => exact int n 2 (by rw [hk]; rfl)
  all_goals simp only [encodeValue.eq_def, hk, Kind.intBytes]
  case ifid.bytes x => unfold newIFID; split <;> simp_all
  case ipv6prefix.pfx p =>
    rw [Res.err_iff _ (newIPv6Prefix_ne_fault p)]
    match p with
    | none => simp [newIPv6Prefix]
    | some (ip, m) =>
      rw [prefix_enc_ok_iff']
      exact ⟨fun h ip' m' e => by cases e; exact h, fun h => h ip m rfl⟩
  case date.time u =>
    unfold newDate
    split
    · simp; omega
    · split <;> simp <;> omega
  case byte.nat n => simp

theorem hSet_err_iff (hH : ∀ x, (H x).length = 16) (hwf : d.wf) (as : Attrs)
    (v : GVal) :
    hSet H d as tag v secret auth salt = .err ↔
      if d.kind = .concat then (∀ b, v ≠ .bytes b)
      else encodeRefused d tag v secret auth salt ∨
        (d.vendorID ≠ 0 ∧ ∃ a, encodeValue H d tag v secret auth salt = .ok a ∧
          (a.length = 0 ∨ 247 < a.length)) := by
  by_cases hk : d.kind = .concat
  · rw [if_pos hk, hSet_concat H hk]; cases v <;> simp
  · rw [if_neg hk, hSet_eq H hk, Res.bind_eq_err (encodeValue_ne_fault H v),
      encodeValue_err_iff H hH hwf]
    simp only [fun a => (storeSet_spec (d := d) as a).2]
    exact or_congr Iff.rfl ⟨fun ⟨a, he, hv, hl⟩ => ⟨hv, a, he, hl⟩, fun ⟨hv, a, he, hl⟩ => ⟨a, he, hv, hl⟩⟩

theorem hAdd_err_iff (hH : ∀ x, (H x).length = 16) (hwf : d.wf) (as : Attrs)
    (v : GVal) :
    hAdd H d as tag v secret auth salt = .err ↔
      d.kind = .concat ∨ encodeRefused d tag v secret auth salt ∨
        (d.vendorID ≠ 0 ∧ ∃ a, encodeValue H d tag v secret auth salt = .ok a ∧
          (a.length = 0 ∨ 247 < a.length)) := by
  by_cases hk : d.kind = .concat
  · rw [hAdd_concat H hk]; simp [hk]
  · rw [hAdd_eq H hk, Res.bind_eq_err (encodeValue_ne_fault H v),
      encodeValue_err_iff H hH hwf]
    simp only [fun a => (storeAdd_spec (d := d) as a).2, hk, false_or]
    exact or_congr Iff.rfl ⟨fun ⟨a, he, hv, hl⟩ => ⟨hv, a, he, hl⟩, fun ⟨hv, a, he, hl⟩ => ⟨a, he, hv, hl⟩⟩

theorem refused (hH : ∀ x, (H x).length = 16) (hwf : d.wf) (hk : d.kind ≠ .concat) (as : Attrs)
    (v : GVal) (hr : encodeRefused d tag v secret auth salt) :
    hSet H d as tag v secret auth salt = .err ∧ hAdd H d as tag v secret auth salt = .err :=
  ⟨(hSet_err_iff H hH hwf as v).2 (by rw [if_neg hk]; exact Or.inl hr),
    (hAdd_err_iff H hH hwf as v).2 (Or.inr (Or.inl hr))⟩

end
end RV
