/-
  C13 — `X_Get`, `X_LookupString`, `X_GetString`, `X_GetStrings` in the heap model (`hGetH`, `hLookupStringH`,
  `hGetStringH`, `hGetStringsH`): what the caller reads through the results is the total model's answer
  (`RV.hGet`, `RV.hLookupString`, `RV.hGetString`, `RV.hGetStrings`), for every descriptor.
-/
import RV.Proofs.ProvGets
import RV.Proofs.HelperGet
namespace RV
namespace Prov


theorem getTextTail_seen (k : Kind) (hz : GVal.zero k = .bytes []) (t : UInt8) {m : M (Res Slice)} {h : Heap}
    {v : Res Bytes} (hs : Shows (m h) v) :
    seen (getView k) ((m >>= fun r => (match r with
        | .ok s => pure (t, some (GValH.bytes s))
        | .err => pure (t, none)
        | .fault => pure (t, none) : M (UInt8 × Option GValH))) h) =
      (t, .bytes (match (generalizing := false) v with | .ok v => v | _ => [])) := by
  rw [bind_apply]
  obtain ⟨rfl, _⟩ := hs
  cases hm : (m h).1 <;> simp only [seen, viewRes, getView, GValH.view, pure_apply, hm, hz]

theorem getIpTail_seen (k : Kind) (hz : GVal.zero k = .bytes []) (dec : Bytes → Res Bytes) (a : Slice) (h : Heap) :
    seen (getView k)
      ((copyDecH dec a >>= fun ip => (match ip with
          | .ok s => pure (0, some (GValH.bytes s))
          | .err => pure (0, none)
          | .fault => pure (0, none) : M (UInt8 × Option GValH))) h) =
    (match dec (h.read a) with
     | .ok ip => (0, GVal.bytes ip)
     | _ => (0, GVal.bytes [])) := by
  rw [bind_apply, copyDecH_apply]
  cases dec (h.read a) <;> simp [seen, getView, GValH.view, hz]

theorem lookupResultsH_view_all (H : Hash) (hH : ∀ x, (H x).length = 16) (d : Desc) (a secret : Slice)
    (auth : Bytes) (h : Heap) :
    seen (getView d.kind) (lookupResultsH H d a secret auth h) =
      lookupResults H d (h.read a) (h.read secret) auth := by
  by_cases hk : d.kind = .string ∨ d.kind = .octets ∨ d.kind = .concat
  · rw [lookupResults_text H d hk, untag_read]
    -- at a text kind the body is, by unfolding, `readS a`, then `textDecH` on the untagged slice, then a tail
    -- that keeps the value
    rcases hk with hk | hk | hk <;> simp only [lookupResultsH, hk] <;>
      exact getTextTail_seen _ rfl _ (textDecH_shows H d (.inr hH) _ secret auth h)
  have hint : ∀ k w, seen (getView k)
        (intCaseH H d w (fun t _ => (t, none)) (fun t v => (t, some (.nat (beNat v)))) (0, none) (0, none)
          a secret auth h) =
      intCase H d w (fun t _ => (t, GVal.zero k)) (fun t v => (t, .nat (beNat v))) (0, GVal.zero k) (0, GVal.zero k)
        (h.read a) (h.read secret) auth :=
    fun k w => intCase_seen (getView k) H d (.inr hH) w a secret auth h
      (fun _ _ _ _ => rfl) (fun _ _ _ _ => rfl) (fun _ _ => rfl) (fun _ _ => rfl)
  -- the address kinds: the salt decryption in front of a copying decoder `dec`
  have hip : ∀ k (hz : GVal.zero k = .bytes []) dec, _ := fun k hz dec =>
    saltFirstH_seen H d (.inr hH) a secret auth h (vw := getView k) (err := (0, none)) (fault := (0, none))
      (k := fun a => copyDecH dec a >>= fun ip => (match ip with
          | .ok s => pure (0, some (GValH.bytes s))
          | .err => pure (0, none)
          | .fault => pure (0, none) : M (UInt8 × Option GValH)))
      (km := fun v => match dec v with | .ok ip => (0, GVal.bytes ip) | _ => (0, GVal.bytes []))
      (zerr := (0, GVal.bytes [])) (zfault := (0, GVal.bytes []))
      (fun s g => getIpTail_seen k hz dec s g) (fun g => by simp only [getView, hz]) (fun g => by simp only [getView, hz])
  unfold lookupResultsH lookupResults
  cases hkk : d.kind <;> simp only [hkk] at hk ⊢
  case string | octets | concat => simp at hk
  case ipaddr =>
    simp only [if_true]
    refine (hip .ipaddr rfl ipAddr).trans ?_
    generalize (if d.usesSalt = true then tpPlain H (h.read a) (h.read secret) auth else Res.ok (h.read a)) = x
    cases x <;> rfl
  case ipv6addr =>
    simp only [reduceCtorEq, if_false]
    refine (hip .ipv6addr rfl ipv6Addr).trans ?_
    generalize (if d.usesSalt = true then tpPlain H (h.read a) (h.read secret) auth else Res.ok (h.read a)) = x
    cases x <;> rfl
  case ifid => exact getIpTail_seen .ifid rfl ifid a h
  case ipv6prefix =>
    rw [bind_apply, ipv6PrefixH_apply]
    cases ipv6Prefix (h.read a) with
    | ok r =>
      obtain ⟨ip, mask⟩ := r
      simp only [seen, getView, GValH.view, pure_apply, read_new2, read_new2']
    | err => rfl
    | fault => rfl
  case date =>
    have e : dateH a h = (date (h.read a), h) := rfl
    rw [bind_apply, e]
    cases date (h.read a) <;> rfl
  case byte =>
    rw [readIte_apply (β := UInt8 × Option GValH) a (fun av => av.length ≠ 1) (fun _ => (0, none))
      (fun av => (0, some (.nat (av.getD 0 0).toNat)))]
    simp only [seen]
    split <;> rfl
  case integer =>
    simp only [Kind.intBytes]
    refine (hint .integer 4).trans (ite_congr rfl (fun _ => rfl) (fun _ => ?_))
    generalize (if d.usesSalt = true then tpPlain H (h.read a) (h.read secret) auth else Res.ok (h.read a)) = x
    cases x <;> rfl
  case integer64 =>
    simp only [Kind.intBytes]
    refine (hint .integer64 8).trans (ite_congr rfl (fun _ => rfl) (fun _ => ?_))
    generalize (if d.usesSalt = true then tpPlain H (h.read a) (h.read secret) auth else Res.ok (h.read a)) = x
    cases x <;> rfl
  case short =>
    simp only [Kind.intBytes]
    refine (hint .short 2).trans (ite_congr rfl (fun _ => rfl) (fun _ => ?_))
    generalize (if d.usesSalt = true then tpPlain H (h.read a) (h.read secret) auth else Res.ok (h.read a)) = x
    cases x <;> rfl


theorem hGet_eq_pick (H : Hash) (d : Desc) (as : Attrs) (secret auth : Bytes) :
    hGet H d as secret auth = pick d (0, GVal.zero d.kind) (fun b => (0, .bytes b))
      (fun a => lookupResults H d a secret auth) (rawValues d as) := by
  unfold hGet pick
  by_cases hc : d.kind = .concat
  · rw [if_pos hc, if_pos hc, hc]
    cases rawValues d as <;> rfl
  · rw [if_neg hc, if_neg hc]; rfl

theorem hGetH_view_all (H : Hash) (hH : ∀ x, (H x).length = 16) (d : Desc) (p : HPacket) (auth : Bytes)
    (h : Heap) (hp : p.below h.length) :
    seen (getView d.kind) (hGetH H d p auth h) = hGet H d (p.view h).attrs (h.read p.secret) auth := by
  rw [hGetH_eq, hGet_eq_pick]
  exact getterH_seen (getView d.kind) d p _ _ (fun a s => lookupResults H d a s auth) h hp
    (fun _ => rfl) (fun _ _ => rfl) concatLoopH_seen (fun a g => lookupResultsH_view_all H hH d a p.secret auth g)


theorem shows_strOfResH {m : M (Res Slice)} {h : Heap} {v : Res Bytes} (hs : Shows (m h) v) :
    Shows ((m >>= strOfResH) h) v := by
  rw [bind_apply]
  obtain ⟨rfl, _⟩ := hs
  cases hm : (m h).1 with
  | ok b => simp only [seen, viewRes, hm]; exact shows_ok (read_new1 _ _) rfl
  | err => simp only [seen, viewRes, hm]; exact shows_err _
  | fault => simp only [seen, viewRes, hm]; exact shows_fault _

theorem textStrDecH_shows (H : Hash) (hH : ∀ x, (H x).length = 16) (d : Desc) (s secret : Slice) (auth : Bytes)
    (h : Heap) :
    Shows (textStrDecH H d s secret auth h) (textPlain H d (h.read s) (h.read secret) auth) := by
  have e : textStrDecH H d s secret auth =
      if d.encrypt = 1 then userPasswordH H s secret auth >>= strOfResH
      else if d.encrypt = 2 then tpPlainH H s secret auth >>= strOfResH
      else (do let x ← stringH s; pure (.ok x)) := encrypt_match _ _ _ _
  rw [e, textPlain]
  by_cases h1 : d.encrypt = 1
  · rw [if_pos h1, if_pos h1]; exact shows_strOfResH (userPasswordH_shows H hH s secret auth h)
  · rw [if_neg h1, if_neg h1]
    by_cases h2 : d.encrypt = 2
    · rw [if_pos h2, if_pos h2]; exact shows_strOfResH (tpPlainH_shows H hH s secret auth h)
    · rw [if_neg h2, if_neg h2]; exact shows_ok (read_new1 h _) rfl

/-- what the caller sees of the body of `X_LookupString`: the results, and whether `err != nil` -/
def viewStrBody (g : Heap) (r : (UInt8 × Option GValH) × Bool) : (UInt8 × GVal) × Bool :=
  (getView .string g r.1, r.2)

theorem strTail_seen (d : Desc) (t : UInt8) {m : M (Res Slice)} {h : Heap} {v : Res Bytes} (hs : Shows (m h) v) :
    let r := (m >>= fun r => (match r with
          | .ok s => pure ((t, some (GValH.bytes s)), decide (d.size.isSome ∧ d.size ≠ some s.len))
          | .err => pure ((t, none), true)
          | .fault => pure ((t, none), true) : M ((UInt8 × Option GValH) × Bool))) h
    seen viewStrBody r =
      (match (generalizing := false) v with
       | .ok v => ((t, GVal.bytes v), decide (d.size.isSome ∧ d.size ≠ some v.length))
       | _ => ((t, GVal.bytes []), true)) ∧
    (r.1.2 = false → ∃ v, r.1.1 = (t, some v)) := by
  intro r
  obtain ⟨rfl, hl⟩ := hs
  have e : r = _ := bind_apply _ _ _
  rw [e]
  cases hm : (m h).1 with
  | ok s =>
    simp only [seen, viewRes, viewStrBody, getView, GValH.view, pure_apply, hm]
    rw [hl s hm]
    exact ⟨rfl, fun _ => ⟨_, rfl⟩⟩
  | err => simp only [seen, viewRes, hm]; exact ⟨rfl, fun hc => by cases hc⟩
  | fault => simp only [seen, viewRes, hm]; exact ⟨rfl, fun hc => by cases hc⟩

theorem lookupStringBodyH_view (H : Hash) (hH : ∀ x, (H x).length = 16) (d : Desc) (a secret : Slice)
    (auth : Bytes) (h : Heap) :
    let r := lookupStringBodyH H d a secret auth h
    seen viewStrBody r = lookupStringBody H d (h.read a) (h.read secret) auth ∧
    (r.1.2 = false → ∃ t v, r.1.1 = (t, some v)) := by
  intro r
  rw [lookupStringBody_textPlain H, untag_read]
  obtain ⟨k1, k2⟩ := strTail_seen d (if d.hasTag = true then tagStripH (h.read a) a else (0, a)).1
    (textStrDecH_shows H hH d (if d.hasTag = true then tagStripH (h.read a) a else (0, a)).2 secret auth h)
  exact ⟨k1, fun hc => ⟨_, k2 hc⟩⟩

theorem concatStrLoopH_view (g0 : Heap) (raws : List Slice) (hr : ∀ s ∈ raws, s.buf < g0.length) :
    ∀ (value : Slice) (g : Heap), Ext g0.length g0 g → value.buf < g.length →
      seen (fun g' v => g'.read v) (concatStrLoopH raws value g) = g.read value ++ (raws.map g0.read).flatten := by
  induction raws with
  | nil => intro value g _ _; simp [concatStrLoopH, seen]
  | cons a rest ih =>
    intro value g he hv
    have ha : a.buf < g0.length := hr a List.mem_cons_self
    have e : stringH a g = (⟨g.length, 0, (g.read a).length⟩, g ++ [g.read a]) := rfl
    unfold concatStrLoopH
    rw [bind_apply, e]
    simp only []
    rw [bind_apply, readS_apply]
    simp only []
    rw [read_new1, bind_apply, readS_apply]
    simp only []
    rw [read_append g _ value hv, bind_apply, copyNew_apply]
    simp only []
    have he2 : Ext g0.length g0 (g ++ [g.read a] ++ [g.read value ++ g.read a]) :=
      (he.trans (ext_append _ g _ he.1)).trans (ext_append _ _ _ (by have := he.1; simp; omega))
    rw [ih (fun s hs => hr s (List.mem_cons_of_mem _ hs)) _ _ he2 (by simp), read_new1, he.read a ha]
    simp [List.append_assoc]

theorem concatStrLoopH_seen (g : Heap) (raws : List Slice) (hr : ∀ s ∈ raws, s.buf < g.length) :
    seen (fun g' v => g'.read v) ((copyNew [] >>= concatStrLoopH raws) g) = (raws.map g.read).flatten := by
  rw [bind_apply, copyNew_apply]
  exact (concatStrLoopH_view g raws hr _ _ (ext_append _ _ _ (Nat.le_refl _)) (by simp)).trans
    (by rw [read_new1]; rfl)

theorem hLookupString_eq_pick (H : Hash) (d : Desc) (as : Attrs) (secret auth : Bytes) :
    hLookupString H d as secret auth = pick d .noAttr (fun v => .val 0 (.bytes v))
      (fun a => if (lookupStringBody H d a secret auth).2 then .err
        else .val (lookupStringBody H d a secret auth).1.1 (lookupStringBody H d a secret auth).1.2)
      (rawValues d as) := by
  unfold hLookupString pick
  simp only [map_stringOf]
  rfl

theorem hLookupStringH_view_all (H : Hash) (hH : ∀ x, (H x).length = 16) (d : Desc) (p : HPacket) (auth : Bytes)
    (h : Heap) (hp : p.below h.length) :
    seen LookupResH.view (hLookupStringH H d p auth h) =
      hLookupString H d (p.view h).attrs (h.read p.secret) auth := by
  rw [hLookupStringH_eq, hLookupString_eq_pick]
  refine getterH_seen LookupResH.view d p _ _ (fun a s => if (lookupStringBody H d a s auth).2 then .err
        else .val (lookupStringBody H d a s auth).1.1 (lookupStringBody H d a s auth).1.2) h hp
    (fun _ => rfl) (fun _ _ => rfl) concatStrLoopH_seen (fun a g => ?_)
  obtain ⟨k1, k2⟩ := lookupStringBodyH_view H hH d a p.secret auth g
  rw [bind_apply, ← k1]
  generalize lookupStringBodyH H d a p.secret auth g = r at k2 ⊢
  obtain ⟨⟨⟨t, ov⟩, e⟩, g'⟩ := r
  cases e with
  | true => cases ov <;> rfl
  | false =>
    obtain ⟨t', v, hv⟩ := k2 rfl
    cases hv
    rfl

theorem hGetString_eq_pick (H : Hash) (d : Desc) (as : Attrs) (secret auth : Bytes) :
    hGetString H d as secret auth = pick d (0, .bytes []) (fun b => (0, .bytes b))
      (fun a => (lookupStringBody H d a secret auth).1) (rawValues d as) := by
  unfold hGetString pick
  rw [map_stringOf]
  by_cases hc : d.kind = .concat
  · rw [if_pos hc, if_pos hc]
    cases rawValues d as <;> rfl
  · rw [if_neg hc, if_neg hc]; rfl

theorem hGetStringH_view_all (H : Hash) (hH : ∀ x, (H x).length = 16) (d : Desc) (p : HPacket) (auth : Bytes)
    (h : Heap) (hp : p.below h.length) :
    seen (getView .string) (hGetStringH H d p auth h) =
      hGetString H d (p.view h).attrs (h.read p.secret) auth := by
  rw [hGetStringH_eq, hGetString_eq_pick]
  exact getterH_seen (getView .string) d p _ _ (fun a s => (lookupStringBody H d a s auth).1) h hp
    (fun _ => rfl) (fun _ _ => rfl) concatStrLoopH_seen
    (fun a g => congrArg Prod.fst (lookupStringBodyH_view H hH d a p.secret auth g).1)

theorem lookupStringBody_decode (H : Hash) (d : Desc) (hk : d.kind = .string ∨ d.kind = .octets ∨ d.kind = .concat)
    (a secret auth : Bytes) :
    ((lookupStringBody H d a secret auth).2 = false →
      decodeValue H d a secret auth = .ok (lookupStringBody H d a secret auth).1) ∧
    ((lookupStringBody H d a secret auth).2 = true → ∀ tv, decodeValue H d a secret auth ≠ .ok tv) := by
  rw [lookupStringBody_textPlain H, decodeValue_text H d hk]
  cases textPlain H d (untag d a).2 secret auth with
  | ok v =>
    simp only []
    by_cases hs : d.size.isSome ∧ d.size ≠ some v.length
    · rw [if_pos hs]
      refine ⟨fun hc => ?_, fun _ tv hc => by cases hc⟩
      rw [decide_eq_true hs] at hc
      cases hc
    · rw [if_neg hs]
      refine ⟨fun _ => rfl, fun hc => ?_⟩
      rw [decide_eq_false hs] at hc
      cases hc
  | err =>
    refine ⟨fun hc => ?_, fun _ tv hc => by cases hc⟩
    simp only [] at hc
    cases hc
  | fault =>
    refine ⟨fun hc => ?_, fun _ tv hc => by cases hc⟩
    simp only [] at hc
    cases hc

theorem hGetStringsGoH_view (H : Hash) (hH : ∀ x, (H x).length = 16) (d : Desc)
    (hk : d.kind = .string ∨ d.kind = .octets ∨ d.kind = .concat) (secret : Slice) (auth : Bytes)
    (raws : List Slice) :
    ∀ (g : Heap), secret.buf < g.length → (∀ s ∈ raws, s.buf < g.length) →
      seen viewGets (hGetStringsGoH H d secret auth raws g) =
        hGets.go H d (g.read secret) auth (raws.map g.read) := by
  induction raws with
  | nil => intro g _ _; rfl
  | cons a rest ih =>
    intro g hs hr
    obtain ⟨k1, k2⟩ := lookupStringBodyH_view H hH d a secret auth g
    have hb := Obs.bound (obs_lookupStringBodyH H d a secret auth) g
    have e1 := (Obs.call g (obs_lookupStringBodyH H d a secret auth)).1
    obtain ⟨m1, m2⟩ := lookupStringBody_decode H d hk (g.read a) (g.read secret) auth
    rw [List.map_cons]
    unfold hGetStringsGoH
    rw [bind_apply]
    generalize lookupStringBodyH H d a secret auth g = r at k1 k2 hb e1
    obtain ⟨⟨⟨t, ov⟩, e⟩, g1⟩ := r
    rw [← k1] at m1 m2
    cases e with
    | true =>
      rw [hGets_go_cons_fail H d (g.read secret) auth (g.read a) _ (m2 rfl)]
      cases ov <;> rfl
    | false =>
      obtain ⟨t', v, hv⟩ := k2 rfl
      cases hv
      have ihv := ih g1 (Nat.lt_of_lt_of_le hs e1.1)
        (fun s hs' => Nat.lt_of_lt_of_le (hr s (List.mem_cons_of_mem _ hs')) e1.1)
      rw [e1.read secret hs,
        List.map_congr_left (fun s hs' => e1.read s (hr s (List.mem_cons_of_mem _ hs')))] at ihv
      rw [hGets_go_cons_ok H d (g.read secret) auth (g.read a) _ _ (m1 rfl), ← ihv]
      exact viewGets_cons (Obs.pureObs (obs_hGetStringsGoH H d secret auth rest)) g1 (t, v)
        (fun s hs' => hb s (List.mem_append_left _ hs'))

theorem hGetStringsH_view_all (H : Hash) (hH : ∀ x, (H x).length = 16) (d : Desc)
    (hk : d.kind = .string ∨ d.kind = .octets ∨ d.kind = .concat) (p : HPacket) (auth : Bytes)
    (h : Heap) (hp : p.below h.length) :
    seen viewGets (hGetStringsH H d p auth h) = hGetStrings H d (p.view h).attrs (h.read p.secret) auth := by
  obtain ⟨hm, hb⟩ := rawSlicesH_view d p h hp
  have e := (Obs.call h (obs_rawSlicesH d p)).1
  unfold hGetStringsH
  rw [bind_apply, hGetStrings_eq, hGets_eq, ← hm,
    hGetStringsGoH_view H hH d hk p.secret auth _ _ (Nat.lt_of_lt_of_le hp.1 e.1) hb, e.read p.secret hp.1]
  rfl

end Prov
end RV
