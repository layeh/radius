/-
  The receive loop (C05): `stepDatagram` in the words of `Spec.acceptable`, one induction about
  `recvLoopFrom` (`recvLoopFrom_skip`) and `Spec.leadingBad` as a `findIdx` give `recvLoop = Spec.outcome`;
  the clauses of C05 are read off `Spec.outcome`.
  The Exchange machine (C08): `step` phase by phase, exact equations for `sent` and `ctxDone`, the
  invariant `Inv`, and the facts about whole runs that the property theorems quote.
-/
import RV.Model.Client
namespace RV
open RV.Client

section loop
variable (H : Hash) (cfg : Cfg) (wire secret : Bytes)

theorem acceptable_iff (d : Bytes) :
    Spec.acceptable H cfg wire secret d = true ↔
      ∃ p, parse (readBuf d) secret = .ok p ∧
        (cfg.skipVerify = true ∨ isAuthenticResponse H (readBuf d) wire secret = true) := by
  unfold Spec.acceptable
  cases parse (readBuf d) secret <;> simp [Res.isOk]

theorem budgetReached_iff (count : Int) :
    budgetReached cfg count = true ↔ cfg.maxErrors > 0 ∧ count ≥ cfg.maxErrors := by
  simp [budgetReached]

theorem step_of_acceptable (count : Int) (d : Bytes) (h : Spec.acceptable H cfg wire secret d = true) :
    ∃ p, stepDatagram H cfg wire secret count d = .ret p ∧ parse (readBuf d) secret = .ok p := by
  obtain ⟨p, hp, hv⟩ := (acceptable_iff H cfg wire secret d).1 h
  refine ⟨p, ?_, hp⟩
  unfold stepDatagram
  rcases hv with hv | hv <;> simp [hp, hv]

theorem step_of_unacceptable (count : Int) (d : Bytes) (h : Spec.acceptable H cfg wire secret d = false) :
    stepDatagram H cfg wire secret count d =
      if budgetReached cfg (count + 1) then .fail (Spec.errClass secret d) else .cont (count + 1) := by
  unfold stepDatagram Spec.errClass
  unfold Spec.acceptable at h
  cases hq : parse (readBuf d) secret <;> simp_all [Res.isOk]

theorem step_ret_iff (count : Int) (d : Bytes) (p : Packet) :
    stepDatagram H cfg wire secret count d = .ret p ↔
      parse (readBuf d) secret = .ok p ∧
        (cfg.skipVerify = true ∨ isAuthenticResponse H (readBuf d) wire secret = true) := by
  cases ha : Spec.acceptable H cfg wire secret d with
  | true =>
    obtain ⟨q, hq, hpq⟩ := step_of_acceptable H cfg wire secret count d ha
    obtain ⟨_, _, hv⟩ := (acceptable_iff H cfg wire secret d).1 ha
    simp [hq, hpq, hv]
  | false =>
    rw [step_of_unacceptable H cfg wire secret count d ha]
    constructor
    · intro h; split at h <;> cases h
    · intro h
      rw [(acceptable_iff H cfg wire secret d).2 ⟨p, h⟩] at ha
      cases ha

theorem step_cont_eq (count : Int) (d : Bytes) (c' : Int)
    (h : stepDatagram H cfg wire secret count d = .cont c') : c' = count + 1 := by
  cases ha : Spec.acceptable H cfg wire secret d with
  | true =>
    obtain ⟨q, hq, -⟩ := step_of_acceptable H cfg wire secret count d ha
    rw [hq] at h
    cases h
  | false =>
    rw [step_of_unacceptable H cfg wire secret count d ha] at h
    split at h <;> cases h
    rfl

theorem recvLoopFrom_skip (bad rest : List Bytes) (i : Nat) (c : Int)
    (hbad : ∀ d ∈ bad, Spec.acceptable H cfg wire secret d = false)
    (hbud : cfg.maxErrors > 0 → c + bad.length < cfg.maxErrors) :
    recvLoopFrom H cfg wire secret i c (bad ++ rest) =
      recvLoopFrom H cfg wire secret (i + bad.length) (c + bad.length) rest := by
  induction bad generalizing i c with
  | nil => simp
  | cons d ds ih =>
    simp only [List.length_cons, Int.natCast_add, Int.cast_ofNat_Int] at hbud
    have hb : ¬ budgetReached cfg (c + 1) = true := by
      rw [budgetReached_iff]
      intro ⟨hm, hge⟩
      have := hbud hm
      omega
    rw [List.cons_append, recvLoopFrom, step_of_unacceptable H cfg wire secret c d (hbad d (by simp)),
      if_neg hb]
    simp only
    rw [ih (i + 1) (c + 1) (fun d' hd' => hbad d' (List.mem_cons_of_mem _ hd'))
      (fun hm => by have := hbud hm; omega)]
    congr 1
    · simp only [List.length_cons]; omega
    · simp only [List.length_cons]; omega

theorem leadingBad_eq_findIdx (hist : List Bytes) :
    Spec.leadingBad H cfg wire secret hist = hist.findIdx (Spec.acceptable H cfg wire secret) := by
  unfold Spec.leadingBad
  rw [List.takeWhile_eq_take_findIdx_not, List.length_take, Nat.min_eq_left List.findIdx_le_length]
  simp only [Bool.not_not]

theorem leadingBad_le (hist : List Bytes) : Spec.leadingBad H cfg wire secret hist ≤ hist.length :=
  leadingBad_eq_findIdx H cfg wire secret hist ▸ List.findIdx_le_length

theorem unacceptable_of_lt_leadingBad {hist : List Bytes} {j : Nat}
    (h : j < Spec.leadingBad H cfg wire secret hist)
    (hj : j < hist.length := Nat.lt_of_lt_of_le h (leadingBad_le H cfg wire secret hist)) :
    Spec.acceptable H cfg wire secret hist[j] = false :=
  List.not_of_lt_findIdx (leadingBad_eq_findIdx H cfg wire secret hist ▸ h)

theorem acceptable_leadingBad {hist : List Bytes} (h : Spec.leadingBad H cfg wire secret hist < hist.length) :
    Spec.acceptable H cfg wire secret hist[Spec.leadingBad H cfg wire secret hist] = true := by
  simp only [leadingBad_eq_findIdx]
  exact List.findIdx_getElem

theorem lt_leadingBad_iff (hist : List Bytes) (i : Nat) :
    i < Spec.leadingBad H cfg wire secret hist ↔
      i < hist.length ∧ ∀ j d, j ≤ i → hist[j]? = some d → Spec.acceptable H cfg wire secret d = false := by
  rw [leadingBad_eq_findIdx, List.lt_findIdx_iff]
  constructor
  · rintro ⟨h, hall⟩
    refine ⟨h, fun j d hj hd => ?_⟩
    obtain ⟨_, rfl⟩ := List.getElem?_eq_some_iff.1 hd
    exact hall j hj
  · rintro ⟨h, hall⟩
    exact ⟨h, fun j hj => hall j _ hj (List.getElem?_eq_getElem _)⟩

theorem recvLoop_eq_outcome (hist : List Bytes) :
    recvLoop H cfg wire secret hist = Spec.outcome H cfg wire secret hist := by
  have hlen := leadingBad_le H cfg wire secret hist
  have hskip : ∀ k, k ≤ Spec.leadingBad H cfg wire secret hist → (cfg.maxErrors > 0 → k < cfg.maxErrors) →
      recvLoopFrom H cfg wire secret 0 0 hist = recvLoopFrom H cfg wire secret k k (hist.drop k) := by
    intro k hk hbud
    have := recvLoopFrom_skip H cfg wire secret (hist.take k) (hist.drop k) 0 0
      (fun d hd => by
        obtain ⟨j, hj, rfl⟩ := List.getElem_of_mem hd
        rw [List.getElem_take]
        exact unacceptable_of_lt_leadingBad H cfg wire secret (by rw [List.length_take] at hj; omega))
      (by rw [List.length_take, Nat.min_eq_left (by omega)]; omega)
    rwa [List.take_append_drop, List.length_take, Nat.min_eq_left (by omega), Nat.zero_add, Int.zero_add] at this
  unfold recvLoop Spec.outcome
  simp only
  split
  · -- the budget is reached inside the bad prefix, at datagram `maxErrors - 1`
    rename_i hb
    obtain ⟨m, hm⟩ : ∃ m : Nat, cfg.maxErrors = m + 1 := ⟨cfg.maxErrors.toNat - 1, by omega⟩
    have hlt : m < hist.length := by omega
    rw [show cfg.maxErrors.toNat - 1 = m by omega, hskip m (by omega) (by omega),
      List.drop_eq_getElem_cons hlt, recvLoopFrom,
      step_of_unacceptable H cfg wire secret _ _ (unacceptable_of_lt_leadingBad H cfg wire secret (by omega)),
      if_pos ((budgetReached_iff cfg _).2 (by omega)), List.getD_eq_getElem?_getD,
      List.getElem?_eq_getElem hlt]
    rfl
  · rename_i hb
    rw [hskip _ (Nat.le_refl _) (by omega)]
    cases hd : hist[Spec.leadingBad H cfg wire secret hist]? with
    | none => rw [List.drop_eq_nil_of_le (List.getElem?_eq_none_iff.1 hd)]; rfl
    | some d =>
      obtain ⟨hlt, rfl⟩ := List.getElem?_eq_some_iff.1 hd
      obtain ⟨p, hs, hp⟩ := step_of_acceptable H cfg wire secret
        (Spec.leadingBad H cfg wire secret hist) _ (acceptable_leadingBad H cfg wire secret hlt)
      rw [List.drop_eq_getElem_cons hlt, recvLoopFrom]
      simp only [hs, hp]

theorem recvLoop_returned (hist : List Bytes) (i : Nat) (p : Packet)
    (h : recvLoop H cfg wire secret hist = .returned i p) :
    i = Spec.leadingBad H cfg wire secret hist ∧ ∃ d, hist[i]? = some d ∧ parse (readBuf d) secret = .ok p := by
  rw [recvLoop_eq_outcome] at h
  unfold Spec.outcome at h
  simp only at h
  split at h
  · cases h
  · split at h
    · rename_i d hd
      split at h
      · rename_i q hq
        cases h
        exact ⟨rfl, d, hd, hq⟩
      · cases h
    · cases h

theorem recvLoop_waiting_iff (hist : List Bytes) :
    recvLoop H cfg wire secret hist = .waiting ↔
      (∀ d, d ∈ hist → Spec.acceptable H cfg wire secret d = false) ∧
      (cfg.maxErrors > 0 → (hist.length : Int) < cfg.maxErrors) := by
  have hn : Spec.leadingBad H cfg wire secret hist = hist.length ↔
      ∀ d, d ∈ hist → Spec.acceptable H cfg wire secret d = false := by
    rw [leadingBad_eq_findIdx]; exact List.findIdx_eq_length
  have hlen := leadingBad_le H cfg wire secret hist
  rw [recvLoop_eq_outcome, ← hn]
  unfold Spec.outcome
  simp only
  constructor
  · intro h
    split at h
    · cases h
    · rename_i hb
      split at h
      · rename_i d hd
        obtain ⟨hlt, rfl⟩ := List.getElem?_eq_some_iff.1 hd
        obtain ⟨q, hq, -⟩ := (acceptable_iff H cfg wire secret _).1 (acceptable_leadingBad H cfg wire secret hlt)
        rw [hq] at h
        cases h
      · rename_i hd
        have := List.getElem?_eq_none_iff.1 hd
        exact ⟨by omega, by omega⟩
  · rintro ⟨hl, hb⟩
    rw [if_neg (by omega), hl, List.getElem?_eq_none (Nat.le_refl _)]

theorem loop_stable (hist more : List Bytes) (i : Nat) (c : Int)
    (h : recvLoopFrom H cfg wire secret i c hist ≠ .waiting) :
    recvLoopFrom H cfg wire secret i c (hist ++ more) = recvLoopFrom H cfg wire secret i c hist := by
  induction hist generalizing i c with
  | nil => exact absurd rfl h
  | cons d ds ih =>
    rw [List.cons_append]
    unfold recvLoopFrom at h ⊢
    cases hs : stepDatagram H cfg wire secret c d with
    | ret p => rfl
    | fail e => rfl
    | cont c' =>
      rw [hs] at h
      exact ih (i + 1) c' h

end loop

namespace Exchange
open RV.Exchange

variable (H : Hash) (P : Params)

theorem step_dialing {s : State} (h : s.phase = .dialing) (e : Event) :
    step H P s e =
      match e with
      | .dialOk => { s with phase := .waiting, sent := s.sent ++ [P.wireBytes], connClosed := false, helperAlive := true }
      | .dialFail => { s with phase := .returned (if s.ctxDone then .ctxErr else .dialErr) }
      | .ctxDone => { s with ctxDone := true }
      | _ => s := by
  unfold step
  rw [h]
  rfl

theorem step_waiting {s : State} (h : s.phase = .waiting) (e : Event) :
    step H P s e =
      match e with
      | .tick => if P.retry > 0 ∧ s.helperAlive = true then { s with sent := s.sent ++ [P.wireBytes] } else s
      | .ctxDone => { s with ctxDone := true }
      | .helperObservesCtx =>
        if s.helperAlive = true ∧ helperCtxDone s = true then { s with helperAlive := false, connClosed := true } else s
      | .datagram d =>
        if s.connClosed then s else
        match stepDatagram H P.cfg P.wireBytes P.secret s.errCount d with
        | .ret p => finish s (.reply p)
        | .fail err => finish s (.pktErr err)
        | .cont c => { s with errCount := c }
      | .readError => finish s (if s.ctxDone then .ctxErr else .netErr)
      | _ => s := by
  unfold step
  rw [h]
  rfl

theorem step_returned_eq {s : State} {r : Result} (h : s.phase = .returned r) (e : Event) :
    step H P s e =
      match e with
      | .ctxDone => { s with ctxDone := true }
      | .helperObservesCtx => if s.helperAlive = true then { s with helperAlive := false, connClosed := true } else s
      | _ => s := by
  unfold step
  rw [h]
  rfl

theorem run_nil (s : State) : run H P s [] = s := rfl
theorem run_cons (s : State) (e : Event) (evs : List Event) :
    run H P s (e :: evs) = run H P (step H P s e) evs := rfl
theorem run_append (s : State) (a b : List Event) :
    run H P s (a ++ b) = run H P (run H P s a) b := List.foldl_append

theorem reach_append (a b : List Event) : reach H P (a ++ b) = run H P (reach H P a) b :=
  run_append H P (init P) a b

theorem run_induction_on (Q : State → Prop) (A : Event → Prop)
    (hstep : ∀ s e, A e → Q s → Q (step H P s e))
    (s : State) (evs : List Event) (hA : ∀ e, e ∈ evs → A e) (h : Q s) : Q (run H P s evs) := by
  induction evs generalizing s with
  | nil => exact h
  | cons e es ih =>
    exact ih (step H P s e) (fun e' he' => hA e' (List.mem_cons_of_mem _ he'))
      (hstep s e (hA e (List.mem_cons_self ..)) h)

theorem run_induction (Q : State → Prop) (hstep : ∀ s e, Q s → Q (step H P s e))
    (s : State) (evs : List Event) (h : Q s) : Q (run H P s evs) :=
  run_induction_on H P Q (fun _ => True) (fun s e _ => hstep s e) s evs (fun _ _ => trivial) h

/-- the two `conn.Write(wire)` of client.go: right after the dial, and the helper's `case <-retryTimer` -/
theorem step_sent_eq (s : State) (e : Event) :
    (step H P s e).sent =
      if (e = .dialOk ∧ s.phase = .dialing) ∨
         (e = .tick ∧ s.phase = .waiting ∧ P.retry > 0 ∧ s.helperAlive = true)
      then s.sent ++ [P.wireBytes] else s.sent := by
  cases hp : s.phase with
  | dialing => rw [step_dialing H P hp]; cases e <;> simp
  | waiting => rw [step_waiting H P hp]; cases e <;> simp [finish] <;> (repeat' split) <;> rfl
  | returned r => rw [step_returned_eq H P hp]; cases e <;> simp <;> split <;> rfl

/-- the successful dial is the only way into the receive loop and the only start of the helper -/
theorem step_dial_only (s : State) (e : Event) :
    ((step H P s e).phase = .waiting → s.phase = .waiting ∨ (e = .dialOk ∧ s.phase = .dialing)) ∧
    ((step H P s e).helperAlive = true → s.helperAlive = true ∨ (e = .dialOk ∧ s.phase = .dialing)) := by
  rcases s with ⟨phase, sent, cc, ha, cd, ec⟩
  cases phase <;> cases e <;> (unfold step; simp only [finish]) <;> (repeat' split) <;> simp

theorem step_sent (s : State) (e : Event) :
    (step H P s e).sent = s.sent ∨ (step H P s e).sent = s.sent ++ [P.wireBytes] := by
  rw [step_sent_eq]
  split
  · exact Or.inr rfl
  · exact Or.inl rfl

theorem step_returned (s : State) (e : Event) (r : Result) (h : s.phase = .returned r) :
    (step H P s e).phase = .returned r ∧ (step H P s e).sent = s.sent ∧
      (step H P s e).errCount = s.errCount := by
  rw [step_returned_eq H P h]
  cases e <;> simp [apply_ite, h]

theorem step_phase_ne_dialing (s : State) (e : Event) (h : s.phase ≠ .dialing) :
    (step H P s e).phase ≠ .dialing := by
  cases hp : s.phase with
  | dialing => exact absurd hp h
  | waiting => rw [step_waiting H P hp]; cases e <;> simp [finish, hp] <;> (repeat' split) <;> simp [hp]
  | returned r => simp [(step_returned H P s e r hp).1]

theorem step_dial_leaves_dialing (s : State) (e : Event) (he : e = .dialOk ∨ e = .dialFail) :
    (step H P s e).phase ≠ .dialing := by
  by_cases hd : s.phase = .dialing
  · rw [step_dialing H P hd]
    rcases he with rfl | rfl <;> simp
  · exact step_phase_ne_dialing H P s e hd

theorem init_sent : (init P).sent = [] := by
  unfold init
  cases P.wire <;> rfl

theorem init_phase_ne_waiting : (init P).phase ≠ .waiting := by
  unfold init
  cases P.wire <;> simp

theorem sent_wire (evs : List Event) : ∀ x, x ∈ (reach H P evs).sent → x = P.wireBytes := by
  apply run_induction H P (fun s => ∀ x, x ∈ s.sent → x = P.wireBytes)
  · intro s e hs x hx
    rcases step_sent H P s e with h | h <;> rw [h] at hx
    · exact hs x hx
    · rcases List.mem_append.1 hx with hx | hx
      · exact hs x hx
      · exact List.mem_singleton.1 hx
  · unfold init
    cases P.wire <;> simp

structure Inv (s : State) : Prop where
  /-- needed for the other three at the dial -/
  dialing_fresh : s.phase = .dialing → s.sent = [] ∧ s.connClosed = true ∧ s.helperAlive = false
  /-- C08 "never when the interval is zero or negative": only the write at the dial happens -/
  no_retry_one : P.retry ≤ 0 → s.sent.length ≤ 1
  /-- the deferred `conn.Close()` -/
  returned_closed : isReturned s = true → s.connClosed = true
  /-- while the call waits only the helper closes the conn, and it exits when it does: what `ctx_wins`
      needs when the helper is found gone -/
  waiting_helper : s.phase = .waiting → s.helperAlive = !s.connClosed

theorem inv_init : Inv P (init P) := by
  unfold init
  cases P.wire <;> constructor <;> simp [isReturned]

theorem inv_finish {s : State} (h : Inv P s) (r : Result) : Inv P (finish s r) :=
  ⟨nofun, h.no_retry_one, fun _ => rfl, nofun⟩

theorem inv_step (s : State) (e : Event) (h : Inv P s) : Inv P (step H P s e) := by
  cases hp : s.phase with
  | dialing =>
    obtain ⟨hs, hc, ha⟩ := h.dialing_fresh hp
    rw [step_dialing H P hp]
    cases e with
    | dialOk => exact ⟨nofun, fun _ => by simp [hs], nofun, fun _ => rfl⟩
    | dialFail => exact ⟨nofun, h.no_retry_one, fun _ => hc, nofun⟩
    | _ => exact ⟨h.1, h.2, h.3, h.4⟩
  | waiting =>
    -- an event keeps the state up to `ctxDone`/`errCount`, returns through `finish`, or is one of the updates below
    have hnr : ¬ isReturned s = true := by simp [isReturned, hp]
    rw [step_waiting H P hp]
    cases e with
    | tick =>
      dsimp only
      split
      · exact ⟨fun hd => Phase.noConfusion (hp.symm.trans hd), fun hr => by omega, fun hr => absurd hr hnr, h.4⟩
      · exact h
    | helperObservesCtx =>
      dsimp only
      split
      · exact ⟨fun hd => Phase.noConfusion (hp.symm.trans hd), h.2, fun _ => rfl, fun _ => rfl⟩
      · exact h
    | datagram d =>
      dsimp only
      split
      · exact h
      · cases stepDatagram H P.cfg P.wireBytes P.secret s.errCount d with
        | cont c => exact ⟨h.1, h.2, h.3, h.4⟩
        | _ => exact inv_finish P h _
    | readError => exact inv_finish P h _
    | _ => exact ⟨h.1, h.2, h.3, h.4⟩
  | returned r =>
    have hc := h.returned_closed (by simp [isReturned, hp])
    rw [step_returned_eq H P hp]
    cases e with
    | helperObservesCtx =>
      dsimp only
      split
      · exact ⟨fun hd => Phase.noConfusion (hp.symm.trans hd), h.2, fun _ => rfl, fun hw => Phase.noConfusion (hp.symm.trans hw)⟩
      · exact h
    | _ => exact ⟨h.1, h.2, h.3, h.4⟩

theorem inv_run (evs : List Event) : Inv P (reach H P evs) :=
  run_induction H P (Inv P) (inv_step H P) (init P) evs (inv_init P)

theorem run_returned (s : State) (evs : List Event) (r : Result) (h : s.phase = .returned r) :
    (run H P s evs).phase = .returned r ∧ (run H P s evs).sent = s.sent :=
  run_induction H P (fun s' => s'.phase = .returned r ∧ s'.sent = s.sent)
    (fun s' e hs => ⟨(step_returned H P s' e r hs.1).1, (step_returned H P s' e r hs.1).2.1.trans hs.2⟩)
    s evs ⟨h, rfl⟩

theorem isReturned_iff (s : State) : isReturned s = true ↔ ∃ r, s.phase = .returned r := by
  unfold isReturned
  cases s.phase <;> simp

theorem run_isReturned (s : State) (evs : List Event) (h : isReturned s = true) :
    isReturned (run H P s evs) = true := by
  obtain ⟨r, hr⟩ := (isReturned_iff s).1 h
  exact (isReturned_iff _).2 ⟨r, (run_returned H P s evs r hr).1⟩

theorem run_past_dial (a b : List Event) (dial : Event) (hd : dial = .dialOk ∨ dial = .dialFail) :
    (run H P (init P) (a ++ dial :: b)).phase ≠ .dialing := by
  rw [run_append, run_cons]
  exact run_induction H P (fun s => s.phase ≠ .dialing) (step_phase_ne_dialing H P) _ b
    (step_dial_leaves_dialing H P _ dial hd)

theorem step_helper_dead (s : State) (e : Event) (hp : s.phase ≠ .dialing) (h : s.helperAlive = false) :
    (step H P s e).helperAlive = false ∧ (step H P s e).sent = s.sent := by
  refine ⟨Bool.eq_false_iff.2 fun hh => ?_, by simp [step_sent_eq, hp, h]⟩
  rcases (step_dial_only H P s e).2 hh with ha | hd
  · rw [h] at ha
    cases ha
  · exact hp hd.2

theorem run_helper_dead (s : State) (evs : List Event) (hp : s.phase ≠ .dialing) (h : s.helperAlive = false) :
    (run H P s evs).helperAlive = false ∧ (run H P s evs).sent = s.sent :=
  (run_induction H P (fun s' => s'.phase ≠ .dialing ∧ s'.helperAlive = false ∧ s'.sent = s.sent)
    (fun s' e hs => ⟨step_phase_ne_dialing H P s' e hs.1, (step_helper_dead H P s' e hs.1 hs.2.1).1,
      (step_helper_dead H P s' e hs.1 hs.2.1).2.trans hs.2.2⟩) s evs ⟨hp, h, rfl⟩).2

theorem step_helper_exit (s : State) (r : Result) (h : s.phase = .returned r) :
    (step H P s .helperObservesCtx).helperAlive = false := by
  rw [step_returned_eq H P h]
  cases ha : s.helperAlive <;> simp [ha]

theorem step_readError (s : State) (h : s.phase = .waiting) :
    (step H P s .readError).phase = .returned (if s.ctxDone then .ctxErr else .netErr) := by
  rw [step_waiting H P h]
  rfl

theorem step_datagram_open (s : State) (d : Bytes) (h : s.phase = .waiting) (hc : s.connClosed = false) :
    step H P s (.datagram d) =
      match stepDatagram H P.cfg P.wireBytes P.secret s.errCount d with
      | .ret p => finish s (.reply p)
      | .fail err => finish s (.pktErr err)
      | .cont c => { s with errCount := c } := by
  rw [step_waiting H P h]
  simp only [hc, Bool.false_eq_true, if_false]

theorem step_acceptable (s : State) (d : Bytes) (h : s.phase = .waiting) (hc : s.connClosed = false)
    (ha : Spec.acceptable H P.cfg P.wireBytes P.secret d = true) :
    ∃ p, parse (readBuf d) P.secret = .ok p ∧ (step H P s (.datagram d)).phase = .returned (.reply p) := by
  obtain ⟨p, hs, hp⟩ := step_of_acceptable H P.cfg P.wireBytes P.secret s.errCount d ha
  refine ⟨p, hp, ?_⟩
  rw [step_datagram_open H P s d h hc, hs]
  rfl

theorem run_open_until_helper (evs : List Event) (h : .helperObservesCtx ∉ evs) :
    (reach H P evs).phase = .waiting → (reach H P evs).connClosed = false := by
  apply run_induction_on H P (fun s => s.phase = .waiting → s.connClosed = false) (fun e => e ≠ .helperObservesCtx)
    _ _ _ (fun e he heq => h (heq ▸ he))
  · unfold init
    cases P.wire <;> simp
  · intro s e he h hw'
    -- the call waits after the step: it has just dialled (the conn is fresh), or it waited before, and
    -- then only the helper's close or a return, which leaves the loop, touches `connClosed`
    rcases (step_dial_only H P s e).1 hw' with hw | ⟨rfl, hd⟩
    · have hc := h hw
      rw [step_waiting H P hw] at hw' ⊢
      cases e with
      | helperObservesCtx => exact absurd rfl he
      | tick => dsimp only; split <;> exact hc
      | readError => cases hw'
      | datagram d =>
        dsimp only at hw' ⊢
        rw [if_neg (by simp [hc])] at hw' ⊢
        cases hs : stepDatagram H P.cfg P.wireBytes P.secret s.errCount d with
        | cont c => exact hc
        | _ => rw [hs] at hw'; cases hw'
      | _ => exact hc
    · rw [step_dialing H P hd]

theorem step_ctxDone (s : State) (e : Event) :
    (step H P s e).ctxDone = (s.ctxDone || decide (e = .ctxDone)) := by
  rcases s with ⟨phase, sent, cc, ha, cd, ec⟩
  cases phase <;> cases e <;> unfold step <;> simp only [finish] <;> (repeat' split) <;> simp

theorem run_ctxDone_sticky (s : State) (evs : List Event) (h : s.ctxDone = true) :
    (run H P s evs).ctxDone = true :=
  run_induction H P (fun s => s.ctxDone = true) (fun s e hs => by simp [step_ctxDone, hs]) s evs h

/-- the state the call is in once the helper has seen the cancelled context: the conn is closed, so
    no datagram is delivered any more; only the read error remains -/
def CtxClosed (s : State) : Prop :=
  s.phase = .waiting ∧ s.connClosed = true ∧ s.helperAlive = false ∧ s.ctxDone = true

theorem run_ctxClosed (s : State) (evs : List Event) (he : ∀ e, e ∈ evs → e ≠ .readError)
    (h : CtxClosed s) : CtxClosed (run H P s evs) := by
  refine run_induction_on H P CtxClosed (fun e => e ≠ .readError) (fun s e he h => ?_) s evs he h
  obtain ⟨h1, h2, h3, h4⟩ := h
  -- on a closed conn a datagram is a no-op; with the helper gone so are `tick` and `helperObservesCtx`
  rw [step_waiting H P h1]
  cases e with
  | readError => exact absurd rfl he
  | ctxDone => exact ⟨h1, h2, h3, rfl⟩
  | tick => dsimp only; rw [if_neg (by simp [h3])]; exact ⟨h1, h2, h3, h4⟩
  | helperObservesCtx => dsimp only; rw [if_neg (by simp [h3])]; exact ⟨h1, h2, h3, h4⟩
  | datagram d => dsimp only; rw [if_pos h2]; exact ⟨h1, h2, h3, h4⟩
  | _ => exact ⟨h1, h2, h3, h4⟩

theorem step_helper_closes (s : State) (hi : Inv P s) (hw : s.phase = .waiting) (hc : s.ctxDone = true) :
    CtxClosed (step H P s .helperObservesCtx) := by
  have hcd : helperCtxDone s = true := by simp [helperCtxDone, hc]
  rw [step_waiting H P hw]
  cases ha : s.helperAlive with
  | true =>
    simp only [hcd, and_self, if_true]
    exact ⟨hw, rfl, rfl, hc⟩
  | false =>
    -- the helper went earlier; it closed the conn when it went (`Inv.waiting_helper`)
    have hcl : s.connClosed = true := by simpa [ha] using (hi.waiting_helper hw).symm
    simp only [Bool.false_eq_true, false_and, if_false]
    exact ⟨hw, hcl, ha, hc⟩

theorem ctxClosed_readError (s : State) (mid post : List Event) (h : CtxClosed s)
    (hmid : ∀ e, e ∈ mid → e ≠ .readError) :
    (run H P s (mid ++ .readError :: post)).phase = .returned .ctxErr := by
  rw [run_append, run_cons]
  have hm := run_ctxClosed H P s mid hmid h
  have := step_readError H P _ hm.1
  rw [hm.2.2.2] at this
  exact (run_returned H P _ post _ this).1

theorem run_no_dialOk (evs : List Event) (h : .dialOk ∉ evs) :
    ((reach H P evs).phase = .dialing ∨ isReturned (reach H P evs) = true) ∧
      (reach H P evs).helperAlive = false ∧ (reach H P evs).sent = [] := by
  apply run_induction_on H P
    (fun s => (s.phase = .dialing ∨ isReturned s = true) ∧ s.helperAlive = false ∧ s.sent = [])
    (fun e => e ≠ .dialOk) _ _ _ (fun e he heq => h (heq ▸ he))
  · unfold init
    cases P.wire <;> simp [isReturned]
  · rintro s e he ⟨hs | hs, ha, hn⟩
    · rw [step_dialing H P hs]
      cases e <;> simp_all [isReturned]
    · obtain ⟨r, hr⟩ := (isReturned_iff s).1 hs
      refine ⟨Or.inr (run_isReturned H P s [e] hs), ?_, (step_returned H P s e r hr).2.1.trans hn⟩
      rw [step_returned_eq H P hr]
      cases e <;> simp [ha]

theorem dialFail_returns (a c : List Event) (h : .dialOk ∉ a) :
    isReturned (reach H P (a ++ .dialFail :: c)) = true := by
  rw [reach_append, run_cons]
  apply run_isReturned
  rcases (run_no_dialOk H P a h).1 with hd | hr
  · rw [step_dialing H P hd]
    rfl
  · exact run_isReturned H P _ [.dialFail] hr

theorem readError_returns (pre c : List Event) (h : (reach H P pre).phase ≠ .dialing) :
    isReturned (reach H P (pre ++ .readError :: c)) = true := by
  rw [reach_append, run_cons]
  apply run_isReturned
  rw [isReturned_iff]
  cases hp : (reach H P pre).phase with
  | dialing => exact absurd hp h
  | waiting => exact ⟨_, step_readError H P _ hp⟩
  | returned r => exact ⟨r, (step_returned H P _ _ r hp).1⟩

theorem sent_nonempty (evs : List Event) :
    ((reach H P evs).phase = .waiting → (reach H P evs).sent ≠ []) ∧
    (∀ p, (reach H P evs).phase = .returned (.reply p) → (reach H P evs).sent ≠ []) := by
  apply run_induction H P
    (fun s => (s.phase = .waiting → s.sent ≠ []) ∧ (∀ p, s.phase = .returned (.reply p) → s.sent ≠ []))
  · intro s e hs
    cases hp : s.phase with
    | dialing =>
      rw [step_dialing H P hp]
      cases e <;> simp [hp]
      split <;> simp
    | waiting =>
      have hne := hs.1 hp
      rw [step_waiting H P hp]
      cases e <;> simp only [finish] <;> (repeat' split) <;> simp_all
    | returned r =>
      obtain ⟨h1, h2, -⟩ := step_returned H P s e r hp
      rw [h1, h2, ← hp]
      exact hs
  · unfold init
    cases P.wire <;> simp

theorem wire_ok_of_not_encodeErr (evs : List Event)
    (h : (reach H P evs).phase ≠ .returned .encodeErr) : P.wire = .ok P.wireBytes := by
  cases hw : P.wire with
  | ok w => simp [Params.wireBytes, hw]
  | err | fault => exact absurd (run_returned H P (init P) evs .encodeErr (by simp [init, hw])).1 h

end Exchange
end RV
