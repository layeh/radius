/- Lemmas about the fine machine RV.Model.Server2 (`serveRead` / `serveSpawn` as separate steps), used by
   RV.Props.C06 and RV.Props.C07.  The invariants of the coarse machine (`InvG`, `InvF`, `InvO`, `InvC`) are
   invariants of the `base` component of the fine machine: every fine step is a coarse step on `base`, no
   step on `base` (`serveRead`), or `spawn` by a Serve call that is still running (`serveSpawn`, by `Inv2`). -/
import RV.Model.Server2
import RV.Proofs.Server
namespace RV.Server

theorem step2_serveRead_eq (H : Hash) (cfg : Cfg) (s : St2) (i peer : Nat) (d : Bytes) :
    step2 H cfg s (.serveRead i peer d) =
      if s.base.serves[i]? = some .running ∧ s.holds i = none ∧
          s.base.connClosed.getD (s.base.connOf.getD i 0) 0 = 0
      then some { s with held := s.held.set i (some (peer, d)) } else none := by
  simp only [step2]
  split
  · next hs hh =>
    by_cases hc : s.base.connClosed.getD (s.base.connOf.getD i 0) 0 > 0
    · rw [if_pos hc, if_neg]; omega
    · rw [if_neg hc, if_pos]; exact ⟨hs, hh, by omega⟩
  · next hn =>
    rw [if_neg]
    rintro ⟨h1, h2, _⟩
    exact hn h1 h2

theorem step2_serveRead {H : Hash} {cfg : Cfg} {s s' : St2} {i peer : Nat} {d : Bytes}
    (h : step2 H cfg s (.serveRead i peer d) = some s') :
    s.base.serves[i]? = some .running ∧ s.holds i = none ∧
    s.base.connClosed.getD (s.base.connOf.getD i 0) 0 = 0 ∧
    s' = { s with held := s.held.set i (some (peer, d)) } := by
  rw [step2_serveRead_eq] at h
  split at h
  · next hc => exact ⟨hc.1, hc.2.1, hc.2.2, (Option.some.inj h).symm⟩
  · cases h

theorem step2_serveSpawn {H : Hash} {cfg : Cfg} {s s' : St2} {i : Nat}
    (h : step2 H cfg s (.serveSpawn i) = some s') :
    ∃ peer d, s.holds i = some (peer, d) ∧
      s' = { base := spawn H cfg s.base i peer d, held := s.held.set i none } := by
  simp only [step2] at h
  split at h
  · next peer d hh => exact ⟨peer, d, hh, (Option.some.inj h).symm⟩
  · cases h

theorem step2_base {H : Hash} {cfg : Cfg} {s s' : St2} {l : Label}
    (h : step2 H cfg s (.base l) = some s') :
    ∃ b, step H cfg s.base l = some b ∧ s' = { s with base := b } ∧
      ∀ i, l.readLoopOf = some i → s.holds i = none := by
  simp only [step2] at h
  split at h
  · next i hi =>
    split at h
    · cases h
    · next hn =>
      cases hb : step H cfg s.base l with
      | none => rw [hb] at h; cases h
      | some b =>
        rw [hb] at h
        refine ⟨b, rfl, (Option.some.inj h).symm, ?_⟩
        intro i' hi'
        rw [hi] at hi'; cases hi'
        cases hh : s.holds i with
        | none => rfl
        | some x => rw [hh] at hn; exact absurd rfl hn
  · next hi =>
    cases hb : step H cfg s.base l with
    | none => rw [hb] at h; cases h
    | some b =>
      rw [hb] at h
      refine ⟨b, rfl, (Option.some.inj h).symm, ?_⟩
      intro i' hi'; rw [hi] at hi'; cases hi'

theorem step2_base_eq {H : Hash} {cfg : Cfg} {s : St2} {l : Label}
    (hh : ∀ i, l.readLoopOf = some i → s.holds i = none) :
    step2 H cfg s (.base l) = (step H cfg s.base l).map fun b => { s with base := b } := by
  simp only [step2]
  split
  · next i hi => rw [hh i hi]; rfl
  · rfl

theorem run2_append (H : Hash) (cfg : Cfg) (s : St2) (l1 l2 : List Label2) :
    run2 H cfg s (l1 ++ l2) = run2 H cfg (run2 H cfg s l1) l2 := by
  induction l1 generalizing s with
  | nil => rfl
  | cons l ls ih =>
    simp only [List.cons_append, run2]
    split <;> exact ih _

theorem run2_preserves (H : Hash) (cfg : Cfg) (P : St2 → Prop)
    (hstep : ∀ s l s', P s → step2 H cfg s l = some s' → P s') :
    ∀ ls s, P s → P (run2 H cfg s ls) := by
  intro ls
  induction ls with
  | nil => intro s h; exact h
  | cons l ls ih =>
    intro s h
    simp only [run2]
    split
    · next s' hs => exact ih _ (hstep s l s' h hs)
    · exact ih _ h

/-- invariant of the fine machine: a Serve call that holds a datagram between `ReadFrom` and `go` is in its read
    loop — hence counted (`held_is_counted`) -/
structure Inv2 (s : St2) : Prop where
  len : s.held.length = s.base.serves.length
  run : ∀ (i : Nat) (x : Nat × Bytes), s.holds i = some x → s.base.serves[i]? = some .running

theorem holds_mk_set (b : St) (held : List (Option (Nat × Bytes))) (i j : Nat) (v : Option (Nat × Bytes)) :
    ({ base := b, held := held.set i v } : St2).holds j = if i = j ∧ i < held.length then v else held.getD j none := by
  simp only [St2.holds]; exact getD_set _ _ _ _ _

theorem Inv2_initWith2 (conns : List Nat) (nD : Nat) : Inv2 (initWith2 conns nD) := by
  refine ⟨by simp [initWith2, initWith], ?_⟩
  intro i x h
  simp [St2.holds, initWith2, List.getD_eq_getElem?_getD, List.getElem?_replicate] at h
  split at h <;> simp at h

theorem spawn_serves (H : Hash) (cfg : Cfg) (s : St) (i peer : Nat) (d : Bytes) :
    (spawn H cfg s i peer d).serves = s.serves := rfl


theorem Inv2_step {H : Hash} {cfg : Cfg} {s s' : St2} (l : Label2) (h : Inv2 s)
    (hs : step2 H cfg s l = some s') : Inv2 s' := by
  cases l with
  | serveRead i peer d =>
    obtain ⟨hrun, _, _, rfl⟩ := step2_serveRead hs
    refine ⟨by simpa using h.len, ?_⟩
    intro j x hj
    rw [holds_mk_set] at hj
    split at hj
    · next hc => rw [← hc.1]; exact hrun
    · exact h.run j x hj
  | serveSpawn i =>
    obtain ⟨peer, d, hh, rfl⟩ := step2_serveSpawn hs
    refine ⟨by simpa [spawn_serves] using h.len, ?_⟩
    intro j x hj
    rw [holds_mk_set] at hj
    split at hj
    · cases hj
    · exact h.run j x hj
  | base l =>
    obtain ⟨b, hb, rfl, hno⟩ := step2_base hs
    refine ⟨by rw [(step_shape hb).2.1]; exact h.len, ?_⟩
    intro j x hj
    have hj' : s.holds j = some x := hj
    -- `j` holds a datagram, so `l` is not a step of its read loop
    have hne : ∀ l', l = l' → l'.readLoopOf = some j → False := fun l' e hl => by
      subst e; rw [hno j hl] at hj'; cases hj'
    exact step_running_stable hb (h.run j x hj') ⟨fun e => hne _ e rfl, fun k e => hne _ e rfl⟩

/-- In the fine machine a Serve call in its read loop leaves it only by a `serveReadErr` / `serveReadFail`
    step of its own. -/
theorem step2_running_stable {H : Hash} {cfg : Cfg} {s s' : St2} {l : Label2} (hs : step2 H cfg s l = some s')
    {i : Nat} (hi : s.base.serves[i]? = some .running)
    (hl : l ≠ .base (.serveReadErr i) ∧ ∀ k, l ≠ .base (.serveReadFail i k)) :
    s'.base.serves[i]? = some .running := by
  cases l with
  | serveRead j peer d => obtain ⟨_, _, _, rfl⟩ := step2_serveRead hs; exact hi
  | serveSpawn j => obtain ⟨peer, d, _, rfl⟩ := step2_serveSpawn hs; exact hi
  | base l0 =>
    obtain ⟨b, hb, rfl, _⟩ := step2_base hs
    exact step_running_stable hb hi ⟨fun e => hl.1 (by rw [e]), fun k e => hl.2 k (by rw [e])⟩

/-- every invariant of the coarse machine that `spawn` by a running Serve call preserves is an invariant
    of the `base` component of the fine machine -/
theorem base_step2 {H : Hash} {cfg : Cfg} {P : St → Prop}
    (hstep : ∀ s l s', P s → step H cfg s l = some s' → P s')
    (hspawn : ∀ s i peer d, P s → s.serves[i]? = some .running → P (spawn H cfg s i peer d))
    {s s' : St2} (l : Label2) (h2 : Inv2 s) (h : P s.base) (hs : step2 H cfg s l = some s') : P s'.base := by
  cases l with
  | serveRead i peer d => obtain ⟨_, _, _, rfl⟩ := step2_serveRead hs; exact h
  | serveSpawn i =>
    obtain ⟨peer, d, hh, rfl⟩ := step2_serveSpawn hs
    exact hspawn _ i peer d h (h2.run i _ hh)
  | base l =>
    obtain ⟨b, hb, rfl, _⟩ := step2_base hs
    exact hstep _ l b h hb

theorem base_run2 {H : Hash} {cfg : Cfg} {P : St → Prop}
    (hstep : ∀ s l s', P s → step H cfg s l = some s' → P s')
    (hspawn : ∀ s i peer d, P s → s.serves[i]? = some .running → P (spawn H cfg s i peer d))
    (ls : List Label2) (s : St2) (h2 : Inv2 s) (h : P s.base) :
    Inv2 (run2 H cfg s ls) ∧ P (run2 H cfg s ls).base :=
  run2_preserves H cfg (fun s => Inv2 s ∧ P s.base)
    (fun _ l _ hh hs => ⟨Inv2_step l hh.1 hs, base_step2 hstep hspawn l hh.1 hh.2 hs⟩) ls s ⟨h2, h⟩

theorem Inv2_run (H : Hash) (cfg : Cfg) (conns : List Nat) (nD : Nat) (ls : List Label2) :
    Inv2 (run2 H cfg (initWith2 conns nD) ls) :=
  run2_preserves H cfg Inv2 (fun _ l _ h hs => Inv2_step l h hs) ls _ (Inv2_initWith2 conns nD)

theorem InvG_run2 (H : Hash) (cfg : Cfg) (conns : List Nat) (nD : Nat) (ls : List Label2) :
    InvG (run2 H cfg (initWith2 conns nD) ls).base :=
  (base_run2 (P := InvG) (fun _ _ _ h hs => InvG_step h hs) (fun _ _ _ _ h hr => InvG_spawn h hr)
    ls _ (Inv2_initWith2 conns nD) (InvG_initWith conns nD)).2

theorem CtxOK_run2 (H : Hash) (cfg : Cfg) (conns : List Nat) (nD : Nat) (ls : List Label2) :
    CtxOK (run2 H cfg (initWith2 conns nD) ls).base :=
  (base_run2 (P := CtxOK) (fun _ _ _ h hs => CtxOK_step h hs) (fun _ _ _ _ h _ => h)
    ls _ (Inv2_initWith2 conns nD) (CtxOK_initWith conns nD)).2

theorem InvF_run2_from (H : Hash) (cfg : Cfg) (hv : cfg.variant = .fixed) (ls : List Label2) (s : St2)
    (h2 : Inv2 s) (h : InvF s.base) : Inv2 (run2 H cfg s ls) ∧ InvF (run2 H cfg s ls).base :=
  base_run2 (P := InvF) (fun _ _ _ h hs => InvF_step hv h hs) (fun _ _ _ _ h hr => InvF_spawn h hr) ls s h2 h

theorem InvF_run2 (H : Hash) (cfg : Cfg) (hv : cfg.variant = .fixed) (conns : List Nat) (nD : Nat)
    (ls : List Label2) : InvF (run2 H cfg (initWith2 conns nD) ls).base :=
  (InvF_run2_from H cfg hv ls _ (Inv2_initWith2 conns nD) (InvF_initWith conns nD)).2

theorem InvO_run2 (H : Hash) (cfg : Cfg) (conns : List Nat) (nD : Nat) (ls : List Label2) :
    InvO H cfg (run2 H cfg (initWith2 conns nD) ls).base :=
  (base_run2 (P := InvO H cfg) (fun _ _ _ h hs => InvO_step h hs) (fun _ i peer d h _ => InvO_spawn i peer d h)
    ls _ (Inv2_initWith2 conns nD) (InvO_initWith H cfg conns nD)).2

theorem InvC_run2 (H : Hash) (cfg : Cfg) (conns : List Nat) (nD : Nat) (ls : List Label2) :
    InvC (run2 H cfg (initWith2 conns nD) ls).base :=
  (base_run2 (P := InvC) (fun _ _ _ h hs => InvC_step h hs) (fun _ i peer d h _ => InvC_spawn i peer d h)
    ls _ (Inv2_initWith2 conns nD) (InvC_initWith conns nD)).2

theorem connOf_run2 (H : Hash) (cfg : Cfg) (conns : List Nat) (nD : Nat) (ls : List Label2) :
    (run2 H cfg (initWith2 conns nD) ls).base.connOf = conns :=
  (base_run2 (P := fun s => s.connOf = conns) (fun _ _ _ h hs => (step_shape hs).1.trans h)
    (fun _ _ _ _ h _ => h) ls _ (Inv2_initWith2 conns nD) rfl).2

structure Drained2 (s : St2) : Prop where
  base : Drained s.base
  held : ∀ i, s.holds i = none

theorem Drained2_step {H : Hash} {cfg : Cfg} {s s' : St2} (l : Label2) (h : Drained2 s)
    (hs : step2 H cfg s l = some s') :
    Drained2 s' ∧ s'.base.log.filter isHS = s.base.log.filter isHS ∧ s'.base.tasks = s.base.tasks := by
  cases l with
  | serveRead i peer d =>
    obtain ⟨hr, _⟩ := step2_serveRead hs
    cases h.base.serves _ (List.mem_of_getElem? hr)
  | serveSpawn i =>
    obtain ⟨peer, d, hh, _⟩ := step2_serveSpawn hs
    rw [h.held i] at hh; cases hh
  | base l =>
    obtain ⟨b, hb, rfl, _⟩ := step2_base hs
    obtain ⟨hd, hl⟩ := Drained_step h.base hb
    exact ⟨⟨hd, h.held⟩, hl⟩

/-- once drained, always drained: no handler starts and no goroutine is spawned -/
theorem Drained2_run (H : Hash) (cfg : Cfg) (ls : List Label2) (s : St2) (h : Drained2 s) :
    Drained2 (run2 H cfg s ls) ∧ (run2 H cfg s ls).base.log.filter isHS = s.base.log.filter isHS ∧
      (run2 H cfg s ls).base.tasks = s.base.tasks :=
  run2_preserves H cfg
    (fun s' => Drained2 s' ∧ s'.base.log.filter isHS = s.base.log.filter isHS ∧ s'.base.tasks = s.base.tasks)
    (fun _ l _ h hs =>
      have h' := Drained2_step l h.1 hs
      ⟨h'.1, h'.2.1.trans h.2.1, h'.2.2.trans h.2.2⟩) ls s ⟨h, rfl, rfl⟩

theorem no_held_of_drained {s : St2} (h2 : Inv2 s) (hd : Drained s.base) : ∀ i, s.holds i = none := by
  intro i
  cases hh : s.holds i with
  | none => rfl
  | some x =>
    have := hd.serves _ (List.mem_of_getElem? (h2.run i x hh))
    cases this

theorem Drained2_of_closed {s : St2} (h2 : Inv2 s) (h : InvF s.base) (hc : s.base.closes ≥ 1) : Drained2 s :=
  ⟨Drained_of_closed h hc, no_held_of_drained h2 (Drained_of_closed h hc)⟩
/-- In a state satisfying the invariants, a Serve call that holds a read-but-not-yet-spawned datagram is
    in its read loop, hence counted in `activeCount`; so `lastActive` has not been closed and no Shutdown
    call has returned nil. -/
theorem held_is_counted {s : St2} (h2 : Inv2 s) (h : InvF s.base) {i : Nat} {x : Nat × Bytes}
    (hh : s.holds i = some x) :
    s.base.serves[i]? = some .running ∧ countedServes s.base ≥ 1 ∧
    s.base.active ≥ (if s.base.sd then 0 else 1) ∧ s.base.closes = 0 ∧
    ∀ (j : Nat) (c : Bool), s.base.downs[j]? ≠ some (⟨.returned .nil, c⟩ : Down) := by
  have hrun := h2.run i x hh
  have hpos := counted_pos hrun
  have hact := h.act
  have hcl0 : s.base.closes = 0 := by
    have h1 := h.cl1
    have : ¬ s.base.closes = 1 := by intro hx; have := h.cl2.mp hx; omega
    omega
  refine ⟨hrun, hpos, ?_, hcl0, ?_⟩
  · cases hsd : s.base.sd <;> simp [hsd] at hact ⊢ <;> omega
  · intro j c hj
    have := h.nil j c hj
    omega

/-- the coarse measure, plus 3 for every datagram a Serve call holds: its `serveSpawn` adds a goroutine
    that has not run its pipeline (weight 2 in `drainMeasure`) -/
def measure2 (s : St2) : Nat := drainMeasure s.base + 3 * heldCount s

def isDrainLabel2 : Label2 → Bool
  | .serveSpawn _ => true
  | .base l => isDrainLabel l
  | .serveRead .. => false

def isOwnDrainLabel2 : Label2 → Bool
  | .serveSpawn _ => true
  | .base l => isOwnDrainLabel l
  | .serveRead .. => false

theorem isDrain2_of_own {l : Label2} (h : isOwnDrainLabel2 l = true) : isDrainLabel2 l = true := by
  cases l with
  | serveRead i peer d => cases h
  | serveSpawn i => rfl
  | base l => exact isDrain_of_own h

theorem heldCount_set {s : St2} {i : Nat} (hi : i < s.held.length) (v : Option (Nat × Bytes)) :
    heldCount { s with held := s.held.set i v } + (if (s.holds i).isSome then 1 else 0) =
      heldCount s + (if v.isSome then 1 else 0) := by
  have := filter_set_length Option.isSome s.held i (s.holds i) v
    (by simp [St2.holds, List.getD_eq_getElem?_getD, List.getElem?_eq_getElem hi])
  simpa [heldCount] using this

/-- `serveSpawn i` is enabled whenever Serve call `i` holds a datagram — also after Shutdown has been
    requested and its conn has been closed — and it releases the datagram -/
theorem serveSpawn_enabled {H : Hash} {cfg : Cfg} {s : St2} {i : Nat} {x : Nat × Bytes}
    (hh : s.holds i = some x) :
    step2 H cfg s (.serveSpawn i) =
      some { base := spawn H cfg s.base i x.1 x.2, held := s.held.set i none } := by
  simp only [step2, hh]


/-- after Shutdown `serveRead` is not enabled (the conn of a running Serve call has been closed) — but
    `serveSpawn` IS, for a datagram read before, and it is a drain step -/
theorem step2_drain_le {H : Hash} {cfg : Cfg} {s s' : St2} {l : Label2} (h2 : Inv2 s) (h : InvF s.base)
    (hsd : s.base.sd = true) (hs : step2 H cfg s l = some s') :
    s'.base.sd = true ∧ (isDrainLabel2 l = true → measure2 s' < measure2 s) ∧
      (isDrainLabel2 l = false → measure2 s' = measure2 s) ∧ (∀ i peer d, l ≠ .serveRead i peer d) := by
  cases l with
  | serveRead i peer d =>
    obtain ⟨hrun, _, hcl, _⟩ := step2_serveRead hs
    have := running_conn_closed h hsd hrun
    omega
  | serveSpawn i =>
    obtain ⟨peer, d, hh, rfl⟩ := step2_serveSpawn hs
    have hil : i < s.held.length := by rw [h2.len]; exact lt_of_getElem?_eq_some (h2.run i _ hh)
    have hc := heldCount_set hil none
    rw [hh] at hc
    simp only [Option.isSome_some, if_true, Option.isSome_none, Bool.false_eq_true, if_false] at hc
    have hm := drainMeasure_spawn H cfg s.base i peer d
    have hlt : measure2 { base := spawn H cfg s.base i peer d, held := s.held.set i none } + 1 = measure2 s := by
      simp only [measure2, hm]
      have : heldCount { base := spawn H cfg s.base i peer d, held := s.held.set i none } =
          heldCount { s with held := s.held.set i none } := rfl
      rw [this]; omega
    exact ⟨hsd, fun _ => by omega, (by intro hx; cases hx), by intro _ _ _ hx; cases hx⟩
  | base l =>
    obtain ⟨b, hb, rfl, _⟩ := step2_base hs
    obtain ⟨a1, a3, a4⟩ := step_drain_le h hsd hb
    have hk : heldCount { s with base := b } = heldCount s := rfl
    refine ⟨a1, ?_, ?_, ?_⟩
    · intro hd; have := a3 hd; simp only [measure2, hk]; omega
    · intro hd; have := a4 hd; simp only [measure2, hk]; omega
    · intro _ _ _ hx; cases hx

theorem exists_held_or_none (s : St2) : (∃ i x, s.holds i = some x) ∨ ∀ i, s.holds i = none := by
  by_cases h0 : heldCount s = 0
  · right
    intro i
    simp only [St2.holds, List.getD_eq_getElem?_getD]
    cases hi : s.held[i]? with
    | none => rfl
    | some a =>
      have := filter_length_zero h0 a (List.mem_of_getElem? hi)
      cases a with
      | none => rfl
      | some x => cases this
  · left
    obtain ⟨i, a, hi, ha⟩ := exists_of_filter_pos h0
    cases a with
    | none => cases ha
    | some x => exact ⟨i, x, by simp [St2.holds, List.getD_eq_getElem?_getD, hi]⟩

/-- a held datagram can be spawned; otherwise the coarse machine's own drain step is enabled here too -/
theorem own_drain_label_enabled2 {H : Hash} {cfg : Cfg} {s : St2} (h2 : Inv2 s) (h : InvF s.base)
    (hsd : s.base.sd = true) (hm : countedServes s.base + liveTasks s.base ≠ 0) :
    ∃ l s', isOwnDrainLabel2 l = true ∧ step2 H cfg s l = some s' ∧ s'.base.sd = true ∧
      measure2 s' < measure2 s := by
  rcases exists_held_or_none s with ⟨i, x, hh⟩ | hnone
  · refine ⟨.serveSpawn i, _, rfl, serveSpawn_enabled hh, ?_⟩
    obtain ⟨a1, a3, _⟩ := step2_drain_le h2 h hsd (serveSpawn_enabled (H := H) (cfg := cfg) hh)
    exact ⟨a1, a3 rfl⟩
  · obtain ⟨l, b, hown, hb, _, _⟩ := own_drain_label_enabled (H := H) (cfg := cfg) h hsd hm
    have hs : step2 H cfg s (.base l) = some { s with base := b } := by
      rw [step2_base_eq (fun i _ => hnone i), hb]; rfl
    obtain ⟨a1, a3, _⟩ := step2_drain_le h2 h hsd hs
    exact ⟨.base l, _, hown, hs, a1, a3 (isDrain_of_own hown)⟩

theorem measure2_zero {s : St2} (h : measure2 s = 0) : countedServes s.base = 0 ∧ liveTasks s.base = 0 := by
  simp only [measure2, drainMeasure] at h; omega

def ownDrainSteps2 (H : Hash) (cfg : Cfg) : St2 → List Label2 → Nat
  | _, [] => 0
  | s, l :: ls =>
    match step2 H cfg s l with
    | some s' => (if isOwnDrainLabel2 l then 1 else 0) + ownDrainSteps2 H cfg s' ls
    | none => ownDrainSteps2 H cfg s ls

theorem drain2_bound (H : Hash) (cfg : Cfg) (hv : cfg.variant = .fixed) :
    ∀ (ls : List Label2) (s : St2), Inv2 s → InvF s.base → s.base.sd = true →
      (run2 H cfg s ls).base.sd = true ∧
        ownDrainSteps2 H cfg s ls + measure2 (run2 H cfg s ls) ≤ measure2 s := by
  intro ls
  induction ls with
  | nil => intro s _ _ hsd; exact ⟨hsd, by simp [ownDrainSteps2, run2]⟩
  | cons l ls ih =>
    intro s h2 h hsd
    simp only [run2, ownDrainSteps2]
    cases hs : step2 H cfg s l with
    | none => exact ih s h2 h hsd
    | some s' =>
      simp only []
      obtain ⟨hsd', hlt, heq, _⟩ := step2_drain_le h2 h hsd hs
      have hI := InvF_run2_from H cfg hv [l] s h2 h
      simp only [run2, hs] at hI
      obtain ⟨h1, hb⟩ := ih s' hI.1 hI.2 hsd'
      refine ⟨h1, ?_⟩
      cases hd : isOwnDrainLabel2 l with
      | true => have := hlt (isDrain2_of_own hd); simp only [if_true]; omega
      | false =>
        simp only [Bool.false_eq_true, if_false]
        cases hd2 : isDrainLabel2 l with
        | true => have := hlt hd2; omega
        | false => have := heq hd2; omega

theorem drain2_own {H cfg} (hv : cfg.variant = .fixed) :
    ∀ (n : Nat) (s : St2), Inv2 s → InvF s.base → s.base.sd = true → measure2 s ≤ n →
      ∃ ls', (∀ l ∈ ls', isOwnDrainLabel2 l = true) ∧ (run2 H cfg s ls').base.sd = true ∧
        countedServes (run2 H cfg s ls').base = 0 ∧ liveTasks (run2 H cfg s ls').base = 0 := by
  intro n
  induction n with
  | zero =>
    intro s _ _ hsd hm
    have := measure2_zero (s := s) (by omega)
    exact ⟨[], by simp, hsd, this.1, this.2⟩
  | succ n ih =>
    intro s h2 h hsd hm
    by_cases hz : countedServes s.base + liveTasks s.base = 0
    · refine ⟨[], by simp, hsd, ?_, ?_⟩ <;> simp only [run2] <;> omega
    · obtain ⟨l, s', hown, hs, hsd', hlt⟩ := own_drain_label_enabled2 (H := H) (cfg := cfg) h2 h hsd hz
      have hI := InvF_run2_from H cfg hv [l] s h2 h
      simp only [run2, hs] at hI
      obtain ⟨ls', hall, h0, h1, h2'⟩ := ih s' hI.1 hI.2 hsd' (by omega)
      refine ⟨l :: ls', ?_, ?_, ?_, ?_⟩
      · intro l' hl'
        rcases List.mem_cons.mp hl' with rfl | hm'
        · exact hown
        · exact hall l' hm'
      all_goals simp only [run2, hs]; assumption

theorem refine_cons_base {l : Label} (hl : ∀ i peer d, l ≠ .serveRecv i peer d) (ls : List Label) :
    refine (l :: ls) = .base l :: refine ls := by
  cases l <;> first | rfl | exact absurd rfl (hl _ _ _)

theorem replicate_getD_none {α} (n i : Nat) : (List.replicate n (none : Option α)).getD i none = none := by
  simp only [List.getD_eq_getElem?_getD, List.getElem?_replicate]
  split <;> rfl

theorem replicate_set_set_none {α} (n i : Nat) (v : Option α) :
    ((List.replicate n (none : Option α)).set i v).set i none = List.replicate n none := by
  apply List.ext_getElem?
  intro j
  simp only [List.set_set, List.getElem?_set, List.getElem?_replicate, List.length_replicate]
  split
  · next h => subst h; split <;> rfl
  · rfl

/-- Simulation: on the schedules in which each `serveRead` is immediately followed by its `serveSpawn` the fine
    machine IS the coarse machine (the pair read as `serveRecv`). -/
theorem adjacent_run (H : Hash) (cfg : Cfg) {ls2 : List Label2} (hadj : PairsAdjacent ls2) :
    ∀ (s : St),
      run2 H cfg { base := s, held := List.replicate s.serves.length none } ls2 =
        { base := run H cfg s (coarsen ls2), held := List.replicate s.serves.length none } := by
  induction hadj with
  | nil => intro s; rfl
  | pair i peer d _ ih =>
    intro s
    simp only [coarsen, run2, run]
    rw [step2_serveRead_eq, step_serveRecv_eq]
    simp only [St2.holds, replicate_getD_none, true_and]
    by_cases hc : s.serves[i]? = some .running ∧ s.connClosed.getD (s.connOf.getD i 0) 0 = 0
    · rw [if_pos hc, if_pos hc]
      have hil : i < s.serves.length := lt_of_getElem?_eq_some hc.1
      simp only []
      simp only [step2]
      have hh : ({ base := s, held := (List.replicate s.serves.length none).set i (some (peer, d)) } : St2).holds i
          = some (peer, d) := by
        simp [St2.holds, List.getD_eq_getElem?_getD, hil]
      rw [hh]
      simp only [replicate_set_set_none]
      have := ih (spawn H cfg s i peer d)
      rw [spawn_serves] at this
      exact this
    · rw [if_neg hc, if_neg hc]
      simp only []
      simp only [step2, St2.holds, replicate_getD_none]
      exact ih s
  | base l _ ih =>
    intro s
    simp only [coarsen, run2, run]
    rw [step2_base_eq (by intro i _; exact replicate_getD_none _ _)]
    cases hs : step H cfg s l with
    | none => exact ih s
    | some s' =>
      simp only [Option.map_some]
      have := ih s'
      rw [(step_shape hs).2.1] at this
      exact this

theorem refine_adjacent : ∀ ls : List Label, PairsAdjacent (refine ls) ∧ coarsen (refine ls) = ls := by
  intro ls
  induction ls with
  | nil => exact ⟨.nil, rfl⟩
  | cons l ls ih =>
    by_cases hl : ∃ i peer d, l = .serveRecv i peer d
    · obtain ⟨i, peer, d, rfl⟩ := hl
      exact ⟨.pair i peer d ih.1, by simp only [refine, coarsen, ih.2]⟩
    · have hl' : ∀ i peer d, l ≠ .serveRecv i peer d := fun i peer d e => hl ⟨i, peer, d, e⟩
      rw [refine_cons_base hl']
      exact ⟨.base l ih.1, by simp only [coarsen, ih.2]⟩

/-- Refinement: every coarse run is a fine run. -/
theorem refine_run (H : Hash) (cfg : Cfg) (ls : List Label) (s : St) :
    run2 H cfg { base := s, held := List.replicate s.serves.length none } (refine ls) =
      { base := run H cfg s ls, held := List.replicate s.serves.length none } := by
  have := adjacent_run H cfg (refine_adjacent ls).1 s
  rw [(refine_adjacent ls).2] at this
  exact this

end RV.Server
