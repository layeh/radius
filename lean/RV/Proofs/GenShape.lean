/- C17 helper lemmas: the templates.  First the validity block as a conjunction (`invalidAttr_false`) and what it
   says about `concat`, tags and kinds without a template; then `attrDecls_eq`, which selects the template by the
   kind predicates, and per template list its roles, the shape of its declarations (`DeclFor`: kind, role, name)
   and their tag and request-packet parameters; `attrDecls_for`, `attrDecls_tag`, `attrDecls_req` put them together. -/
import RV.Proofs.GenBasic
namespace RV.Gen
open RV.Dict RV.Gen.Spec

theorem invalidAttr_false {cfg : Cfg} {vendor : Bool} {a : Attribute} (hv : invalidAttr cfg vendor a = false) :
    a.oid.length = 1
    ∧ (a.size.isSome && !stringy a.typ) = false
    ∧ (cfg.rejectUnimplEncrypt && !encryptSupported a) = false
    ∧ (if vendor then concatenated a
        else concatenated a && (!stringy a.typ || a.encrypt.isSome || a.hasTag.isSome || a.size.isSome)) = false
    ∧ (tagged a && !(stringy a.typ || a.typ == .integer)) = false
    ∧ (hasTemplate a.typ || (!vendor && a.typ == .vsa)) = true := by
  simp only [invalidAttr, Bool.or_eq_false_iff] at hv
  obtain ⟨⟨⟨⟨⟨⟨⟨h1, _⟩, h3⟩, _⟩, h5⟩, h6⟩, h7⟩, h8⟩ := hv
  exact ⟨by simpa using h1, h3, h5, h6, h7, by rwa [Bool.not_eq_false'] at h8⟩

theorem concat_of_valid {cfg : Cfg} {vendor : Bool} {a : Attribute} (hv : invalidAttr cfg vendor a = false)
    (hc : concatenated a = true) : vendor = false ∧ a.encrypt = none ∧ a.hasTag = none := by
  have h := (invalidAttr_false hv).2.2.2.1
  cases vendor
  · simp only [Bool.false_eq_true, if_false, hc, Bool.true_and, Bool.or_eq_false_iff] at h
    exact ⟨rfl, by simpa using h.1.1.2, by simpa using h.1.2⟩
  · rw [if_pos rfl, hc] at h
    cases h

theorem template_of_valid {cfg : Cfg} {vendor : Bool} {a : Attribute} (hv : invalidAttr cfg vendor a = false)
    (ht : hasTemplate a.typ = false) : vendor = false ∧ a.typ = .vsa := by
  have h := (invalidAttr_false hv).2.2.2.2.2
  rw [ht] at h
  simpa using h

theorem stringy_of {t : AttrType} (h : t = .string ∨ t = .octets) : stringy t = true := by
  rcases h with h | h <;> simp [stringy, h]

theorem intBits_of_stringy {t : AttrType} (h : stringy t = true) : intBits t = none := by
  cases t <;> first | rfl | exact absurd h (by decide)

theorem intBits_of_not_int {t : AttrType} (h : isIntKind t = false) : intBits t = none := by
  unfold isIntKind at h
  cases hb : intBits t
  · rfl
  · rw [hb] at h
    cases h

theorem stringy_of_intBits {t : AttrType} {n : Nat} (h : intBits t = some n) : stringy t = false := by
  cases hs : stringy t
  · rfl
  · rw [intBits_of_stringy hs] at h
    cases h

theorem hasTemplate_of_intBits {t : AttrType} {n : Nat} (h : intBits t = some n) : hasTemplate t = true := by
  simp [hasTemplate, isIntKind, h]

/-- the Go type of the values of the kinds with the plain template -/
def simpleTy : AttrType → Ty
  | .ipaddr | .ipv6addr => .ip
  | .ipv6prefix => .ipnet
  | .ifid => .hw
  | .date => .time
  | _ => .byte

theorem simpleTy_ne_packet (t : AttrType) : simpleTy t ≠ .packet := by
  cases t <;> nofun

theorem attrDecls_eq (vendor : Bool) (a : Attribute) (vals : List Value) :
    attrDecls vendor a vals =
      if stringy a.typ then
        if concatenated a && !vendor then concatDecls (identifier a.name) else stringDecls (identifier a.name) a
      else match intBits a.typ with
        | some n => intDecls (identifier a.name) a n (attrValues a.name vals)
        | none =>
          if hasTemplate a.typ then
            simpleDecls (identifier a.name) (simpleTy a.typ) (if isIPKind a.typ then pk a else [.packet])
          else [] := by
  unfold attrDecls
  cases a.typ <;> rfl

theorem stringDecls_roles (id : Bytes) (a : Attribute) : (stringDecls id a).map (·.role) =
    [.add, .addString, .get, .getString, .gets, .getStrings, .lookup, .lookupString, .set, .setString, .del] := rfl

theorem concatDecls_roles (id : Bytes) : (concatDecls id).map (·.role) =
    [.get, .getString, .lookup, .lookupString, .set, .setString, .del] := rfl

theorem simpleDecls_roles (id : Bytes) (t : Ty) (pkts : List Ty) : (simpleDecls id t pkts).map (·.role) =
    [.add, .get, .gets, .lookup, .set, .del] := rfl

theorem attrDecls_text (vendor : Bool) (a : Attribute) (vals : List Value)
    (hk : stringy a.typ = true) (hc : (concatenated a && !vendor) = false) :
    (attrDecls vendor a vals).map (·.role) =
      [.add, .addString, .get, .getString, .gets, .getStrings, .lookup, .lookupString, .set, .setString, .del] := by
  rw [attrDecls_eq, if_pos hk, if_neg (ne_true_of_eq_false hc)]
  exact stringDecls_roles _ a

theorem attrDecls_concat (a : Attribute) (vals : List Value)
    (hk : stringy a.typ = true) (hc : concatenated a = true) :
    (attrDecls false a vals).map (·.role) = [.get, .getString, .lookup, .lookupString, .set, .setString, .del] := by
  rw [attrDecls_eq, if_pos hk, if_pos (by rw [hc]; rfl)]
  exact concatDecls_roles _

theorem attrDecls_simple (vendor : Bool) (a : Attribute) (vals : List Value)
    (hk : hasTemplate a.typ = true) (hs : stringy a.typ = false) (hn : isIntKind a.typ = false) :
    (attrDecls vendor a vals).map (·.role) = [.add, .get, .gets, .lookup, .set, .del] := by
  rw [attrDecls_eq, if_neg (ne_true_of_eq_false hs), intBits_of_not_int hn, if_pos hk]
  exact simpleDecls_roles _ _ _

theorem attrDecls_none (vendor : Bool) (a : Attribute) (vals : List Value) (hk : hasTemplate a.typ = false) :
    attrDecls vendor a vals = [] := by
  have h := hk
  simp only [hasTemplate, Bool.or_eq_false_iff] at h
  rw [attrDecls_eq, if_neg (ne_true_of_eq_false h.1.1.1.1.1.1), intBits_of_not_int h.1.2,
    if_neg (ne_true_of_eq_false hk)]

theorem attrDecls_int (vendor : Bool) (a : Attribute) (vals : List Value) (n : Nat) (hk : intBits a.typ = some n) :
    (attrDecls vendor a vals).map (fun dc => (dc.role, dc.name, dc.results)) =
      [(Role.valueType, identifier a.name, [if n = 64 then Ty.u64 else if n = 16 then Ty.u16 else Ty.u32])]
      ++ (attrValues a.name vals).map (fun v => (Role.valueConst, identifier a.name ++ bs "_Value_" ++ identifier v.name, [Ty.named (identifier a.name)]))
      ++ [(Role.strings, identifier a.name ++ bs "_Strings", [Ty.mapStr (identifier a.name)]),
          (Role.stringer, identifier a.name ++ bs ".String", [Ty.str]),
          (Role.add, identifier a.name ++ bs "_Add", [Ty.error]),
          (Role.get, identifier a.name ++ bs "_Get", tg a .byte ++ [Ty.named (identifier a.name)]),
          (Role.gets, identifier a.name ++ bs "_Gets", tg a .bytes ++ [Ty.slice (Ty.named (identifier a.name)), Ty.error]),
          (Role.lookup, identifier a.name ++ bs "_Lookup", tg a .byte ++ [Ty.named (identifier a.name), Ty.error]),
          (Role.set, identifier a.name ++ bs "_Set", [Ty.error]),
          (Role.del, identifier a.name ++ bs "_Del", [])] := by
  rw [attrDecls_eq, if_neg (ne_true_of_eq_false (stringy_of_intBits hk)), hk]
  simp only [intDecls, List.map_append, List.map_map, beq_iff_eq]
  rfl

/-- what sort of Go declaration a role is -/
def Role.kind : Role → DKind
  | .typeConst | .vendorId | .extValue | .valueConst => .const
  | .valueType => .type
  | .strings => .var
  | .stringer => .method
  | _ => .func

/-- `d` is one of the declarations made for the attribute with identifier `id`, the VALUEs `vs` naming its
    constants: it is the sort of declaration its role says and is named `<id><suffix of the role>`, a
    constant `<id>_Value_<identifier of the VALUE>` -/
structure DeclFor (id : Bytes) (vs : List Value) (d : Decl) : Prop where
  kind : d.kind = d.role.kind
  role : d.role ≠ .typeConst ∧ d.role ≠ .extInit
  name : d.role ≠ .valueConst → d.name = id ++ bs d.role.suffix
  const : d.role = .valueConst → ∃ v ∈ vs, d.name = id ++ bs "_Value_" ++ identifier v.name

theorem DeclFor.name_of_func {id : Bytes} {vs : List Value} {d : Decl} (h : DeclFor id vs d) (hk : d.kind = .func) :
    d.name = id ++ bs d.role.suffix :=
  h.name fun hr => by rw [h.kind, hr] at hk; cases hk

theorem declFor_fn {id : Bytes} {vs : List Value} {r : Role} {ps rs : List Ty} (hk : r.kind = .func) (he : r ≠ .extInit) :
    DeclFor id vs (fn id r ps rs) :=
  ⟨hk.symm, ⟨fun h => (by rw [show r = _ from h] at hk; cases hk), he⟩, fun _ => rfl,
    fun h => (by rw [show r = _ from h] at hk; cases hk)⟩

theorem stringDecls_for (id : Bytes) (a : Attribute) (vs : List Value) : ∀ d ∈ stringDecls id a, DeclFor id vs d := by
  intro d hd
  simp only [stringDecls, List.mem_cons, List.not_mem_nil, or_false] at hd
  rcases hd with rfl | rfl | rfl | rfl | rfl | rfl | rfl | rfl | rfl | rfl | rfl
  all_goals exact declFor_fn rfl nofun

theorem concatDecls_for (id : Bytes) (vs : List Value) : ∀ d ∈ concatDecls id, DeclFor id vs d := by
  intro d hd
  simp only [concatDecls, List.mem_cons, List.not_mem_nil, or_false] at hd
  rcases hd with rfl | rfl | rfl | rfl | rfl | rfl | rfl
  all_goals exact declFor_fn rfl nofun

theorem simpleDecls_for (id : Bytes) (t : Ty) (pkts : List Ty) (vs : List Value) :
    ∀ d ∈ simpleDecls id t pkts, DeclFor id vs d := by
  intro d hd
  simp only [simpleDecls, List.mem_cons, List.not_mem_nil, or_false] at hd
  rcases hd with rfl | rfl | rfl | rfl | rfl | rfl
  all_goals exact declFor_fn rfl nofun

theorem intDecls_for (id : Bytes) (a : Attribute) (n : Nat) (vs : List Value) :
    ∀ d ∈ intDecls id a n vs, DeclFor id vs d := by
  intro d hd
  simp only [intDecls, List.mem_append, List.mem_cons, List.mem_map, List.not_mem_nil, or_false] at hd
  rcases hd with (rfl | ⟨v, hv, rfl⟩) | rfl | rfl | rfl | rfl | rfl | rfl | rfl | rfl
  · exact ⟨rfl, ⟨nofun, nofun⟩, fun _ => (List.append_nil id).symm, nofun⟩
  · exact ⟨rfl, ⟨nofun, nofun⟩, fun h => absurd rfl h, fun _ => ⟨v, hv, rfl⟩⟩
  · exact ⟨rfl, ⟨nofun, nofun⟩, fun _ => rfl, nofun⟩
  · exact ⟨rfl, ⟨nofun, nofun⟩, fun _ => rfl, nofun⟩
  all_goals exact declFor_fn rfl nofun

theorem attrDecls_for (vendor : Bool) (a : Attribute) (vals : List Value) :
    ∀ d ∈ attrDecls vendor a vals, DeclFor (identifier a.name) (attrValues a.name vals) d := by
  rw [attrDecls_eq]
  split
  · split
    · exact concatDecls_for _ _
    · exact stringDecls_for _ a _
  · split
    · exact intDecls_for _ a _ _
    · split
      · exact simpleDecls_for _ _ _ _
      · nofun

theorem api_shape_roles (vendor : Bool) (a : Attribute) (vals : List Value) :
    ((attrDecls vendor a vals).filter (·.kind == .func)).map (·.role) = helperRoles vendor a := by
  rw [attrDecls_eq, helperRoles]
  split
  · split <;> rfl
  · split
    · rename_i n hn
      rw [if_pos (hasTemplate_of_intBits hn)]
      simp only [intDecls, List.filter_append, List.map_append]
      rw [List.filter_eq_nil_iff.2 (List.forall_mem_map.2 fun _ _ => Bool.false_ne_true)]
      rfl
    · split <;> rfl

theorem api_shape_names (vendor : Bool) (a : Attribute) (vals : List Value) :
    ∀ d ∈ attrDecls vendor a vals, d.kind = .func → d.name = identifier a.name ++ bs d.role.suffix :=
  fun d hd => (attrDecls_for vendor a vals d hd).name_of_func

theorem intDecls_nonfunc (id : Bytes) (a : Attribute) (bits : Nat) (vals : List Value) :
    ((intDecls id a bits vals).filter (·.kind != .func)).map (fun d => (d.kind, d.role, d.name)) =
      [(DKind.type, Role.valueType, id)]
      ++ vals.map (fun v => (DKind.const, Role.valueConst, id ++ bs "_Value_" ++ identifier v.name))
      ++ [(DKind.var, Role.strings, id ++ bs "_Strings"), (DKind.method, Role.stringer, id ++ bs ".String")] := by
  simp only [intDecls, List.filter_append, List.map_append]
  rw [List.filter_eq_self.2 (List.forall_mem_map.2 fun _ _ => rfl), List.map_map]
  rfl

theorem stringDecls_tag (id : Bytes) (a : Attribute) :
    ∀ d ∈ stringDecls id a, hasTagParam d = ((d.role.isWriter || d.role.isReader) && tagged a) :=
  List.map_inj_left.1 (by unfold stringDecls tg; cases tagged a <;> rfl)

theorem concatDecls_tag (id : Bytes) : ∀ d ∈ concatDecls id, hasTagParam d = false :=
  List.map_inj_left.1 (rfl : (concatDecls id).map hasTagParam = (concatDecls id).map fun _ => false)

theorem simpleDecls_tag (id : Bytes) (t : Ty) (pkts : List Ty) : ∀ d ∈ simpleDecls id t pkts, hasTagParam d = false :=
  List.map_inj_left.1 (rfl : (simpleDecls id t pkts).map hasTagParam = (simpleDecls id t pkts).map fun _ => false)

theorem intDecls_tag (id : Bytes) (a : Attribute) (bits : Nat) (vals : List Value) :
    ∀ d ∈ intDecls id a bits vals, hasTagParam d = ((d.role.isWriter || d.role.isReader) && tagged a) :=
  List.map_inj_left.1 (by
    unfold intDecls tg
    simp only [List.map_append, List.map_map]
    cases tagged a <;> rfl)

theorem attrDecls_tag {cfg : Cfg} {vendor : Bool} {a : Attribute} (vals : List Value)
    (hv : invalidAttr cfg vendor a = false) :
    ∀ d ∈ attrDecls vendor a vals, hasTagParam d = ((d.role.isWriter || d.role.isReader) && tagged a) := by
  rw [attrDecls_eq]
  split
  · split
    · rename_i hc
      rw [Bool.and_eq_true] at hc
      intro d hd
      rw [concatDecls_tag _ d hd, tagged, (concat_of_valid hv hc.1).2.2]
      exact (Bool.and_false _).symm
    · exact stringDecls_tag _ a
  · split
    · exact intDecls_tag _ a _ _
    · rename_i hs _ hn
      split
      · have ht : tagged a = false := by
          cases ht : tagged a
          · rfl
          · have h := (invalidAttr_false hv).2.2.2.2.1
            rw [ht, eq_false_of_ne_true hs, Bool.true_and, Bool.false_or, Bool.not_eq_false', beq_iff_eq] at h
            rw [h] at hn
            cases hn
        intro d hd
        rw [simpleDecls_tag _ _ _ d hd, ht]
        exact (Bool.and_false _).symm
      · nofun

theorem stringDecls_req (id : Bytes) (a : Attribute) :
    ∀ d ∈ stringDecls id a, hasRequestParam d = (d.role.isReader && salted a) :=
  List.map_inj_left.1 (by unfold stringDecls tg pk; cases tagged a <;> cases salted a <;> rfl)

theorem concatDecls_req (id : Bytes) : ∀ d ∈ concatDecls id, hasRequestParam d = false :=
  List.map_inj_left.1 (rfl : (concatDecls id).map hasRequestParam = (concatDecls id).map fun _ => false)

theorem simpleDecls_req (id : Bytes) {t : Ty} (ht : t ≠ .packet) (pkts : List Ty) :
    ∀ d ∈ simpleDecls id t pkts, hasRequestParam d = (d.role.isReader && pkts == [Ty.packet, Ty.packet]) := by
  have h : ([Ty.packet, t] == [Ty.packet, Ty.packet]) = false := by simpa using ht
  intro d hd
  simp only [simpleDecls, List.mem_cons, List.not_mem_nil, or_false] at hd
  rcases hd with rfl | rfl | rfl | rfl | rfl | rfl
  · exact h
  · rfl
  · rfl
  · rfl
  · exact h
  · rfl

theorem intDecls_req (id : Bytes) (a : Attribute) (bits : Nat) (vals : List Value) :
    ∀ d ∈ intDecls id a bits vals, hasRequestParam d = (d.role.isReader && salted a) :=
  List.map_inj_left.1 (by
    unfold intDecls tg pk
    simp only [List.map_append, List.map_map]
    cases tagged a <;> cases salted a <;> rfl)

theorem pk_eq (a : Attribute) : (pk a == [Ty.packet, Ty.packet]) = salted a := by
  unfold pk
  cases salted a <;> rfl

theorem attrDecls_req {cfg : Cfg} {vendor : Bool} {a : Attribute} (vals : List Value)
    (hv : invalidAttr cfg vendor a = false)
    (hk : salted a = true → (stringy a.typ || isIPKind a.typ || isIntKind a.typ) = true) :
    ∀ d ∈ attrDecls vendor a vals, hasRequestParam d = (d.role.isReader && salted a) := by
  rw [attrDecls_eq]
  split
  · split
    · rename_i hc
      rw [Bool.and_eq_true] at hc
      intro d hd
      rw [concatDecls_req _ d hd, salted, (concat_of_valid hv hc.1).2.1]
      exact (Bool.and_false _).symm
    · exact stringDecls_req _ a
  · split
    · exact intDecls_req _ a _ _
    · rename_i hs _ hn
      split
      · intro d hd
        rw [simpleDecls_req _ (simpleTy_ne_packet _) _ d hd]
        congr 1
        split
        · exact pk_eq a
        · rename_i hip
          cases hsalt : salted a
          · rfl
          · have h := hk hsalt
            rw [eq_false_of_ne_true hs, eq_false_of_ne_true hip, isIntKind, hn] at h
            cases h
      · nofun

theorem request_param_general (cfg : Cfg) (vendor : Bool) (a : Attribute) (vals : List Value)
    (hv : invalidAttr cfg vendor a = false)
    (hk : salted a = true → (stringy a.typ || isIPKind a.typ || isIntKind a.typ) = true) :
    ∀ d ∈ attrDecls vendor a vals, d.role.isReader = true → hasRequestParam d = salted a := by
  intro d hd hr
  rw [attrDecls_req vals hv hk d hd, hr]
  rfl

theorem salted_kind_of_valid {cfg : Cfg} (hc : cfg.rejectUnimplEncrypt = true) {vendor : Bool} {a : Attribute}
    (hv : invalidAttr cfg vendor a = false) (hs : salted a = true) :
    (stringy a.typ || isIPKind a.typ || isIntKind a.typ) = true := by
  have he : encryptSupported a = true := by simpa [hc] using (invalidAttr_false hv).2.2.1
  have henc : a.encrypt = some 2 := by simpa [salted] using hs
  unfold encryptSupported at he
  rw [henc] at he
  cases h1 : stringy a.typ <;> cases h2 : isIPKind a.typ <;> cases h3 : isIntKind a.typ <;> simp_all

end RV.Gen
