/-
  C15 "the parser never panics".  The model (RV.Model.DictParser) has no panic outcome: its list
  accesses are total.  Here: a branch of the `switch` of `parse` (parser.go 76-255) is entered only with
  the field count its code indexes; and `Guarded`, a copy of the per-line code (`parseOID` and
  `line[:idx]` included) in which every Go index and slice expression is PARTIAL (`none` = run-time
  panic) and `&&` / `||` short-circuit, never yields `none` and is the model's function.

  CAUTION when editing the `do` blocks: a nested action `(← e)` in the condition of an `else if` is
  hoisted by Lean in front of the whole `if` chain, which would evaluate an index expression earlier
  than Go does.  Every guarded access below sits in its own `do` block behind its guard
  (checked with `#print`).
-/
import RV.Model.DictParser
namespace RV.DictParser
open RV RV.Dict

/-- the branches of the `switch` of `parse` (parser.go 76-255) -/
inductive Branch where
  | attribute | value | vendor | beginVendor | endVendor | include | unknown
deriving DecidableEq, Repr

/-- the `case` conditions of parser.go 77, 112, 130, 152, 176, 196, 247, in order -/
def branchOf (fields : List Bytes) : Branch :=
  let n := fields.length
  let kw := fields.headD []
  if (n == 4 || n == 5) && kw == kwATTRIBUTE then .attribute
  else if n == 4 && kw == kwVALUE then .value
  else if (n == 3 || n == 4) && kw == kwVENDOR then .vendor
  else if n == 2 && kw == kwBEGIN then .beginVendor
  else if n == 2 && kw == kwEND then .endVendor
  else if n == 2 && kw == kwINCLUDE then .include
  else .unknown

theorem dispatch_unknown_branch (cfg : Cfg) (ign : Bool) (inc : IncludeHandler) (file : Bytes) (lineNo : Nat)
    (vb : Option Bytes) (st : St) (fields : List Bytes) (h : branchOf fields = .unknown) :
    dispatch cfg ign inc file lineNo vb st fields = .fail (.decl .unknownLine file lineNo) st := by
  let P (b : Branch) : Prop := b = .unknown → dispatch cfg ign inc file lineNo vb st fields = .fail (.decl .unknownLine file lineNo) st
  have : P (branchOf fields) :=
    iteInduction (motive := P) (fun _ h => nomatch h) fun h1 => iteInduction (motive := P) (fun _ h => nomatch h) fun h2 =>
    iteInduction (motive := P) (fun _ h => nomatch h) fun h3 => iteInduction (motive := P) (fun _ h => nomatch h) fun h4 =>
    iteInduction (motive := P) (fun _ h => nomatch h) fun h5 => iteInduction (motive := P) (fun _ h => nomatch h) fun h6 _ => by
      unfold dispatch
      simp only []
      rw [if_neg h1, if_neg h2, if_neg h3, if_neg h4, if_neg h5, if_neg h6]
  exact this h

/-- The largest `i` such that the Go code of the branch - its callee `parseAttribute` / `parseValue`
    / `parseVendor` included - evaluates `fields[i]` (`f[i]`) UNCONDITIONALLY:
    ATTRIBUTE `f[3]` (parser.go 324; `f[4]` at 377 only under `len(f) >= 5`), VALUE `f[3]` (437),
    VENDOR `f[2]` (455; `f[3]` at 469 only under `len(f) == 4`), BEGIN-VENDOR / END-VENDOR / $INCLUDE
    `fields[1]` (163, 184, 206); the `default` branch indexes nothing. -/
def maxIndex : Branch → Option Nat
  | .attribute => some 3
  | .value => some 3
  | .vendor => some 2
  | .beginVendor => some 1
  | .endVendor => some 1
  | .include => some 1
  | .unknown => none

/-- the index a branch evaluates under a condition on the field count, with that condition:
    ATTRIBUTE `f[4]` under `len(f) >= 5` (parser.go 376-377), VENDOR `f[3]` under `len(f) == 4` (465-469) -/
def condIndex : Branch → Option (Nat × (Nat → Bool))
  | .attribute => some (4, fun n => n ≥ 5)
  | .vendor => some (3, fun n => n == 4)
  | _ => none

/-- the field counts with which a branch is entered -/
def arityOK : Branch → Nat → Bool
  | .attribute, n => n == 4 || n == 5
  | .value, n => n == 4
  | .vendor, n => n == 3 || n == 4
  | .beginVendor, n => n == 2
  | .endVendor, n => n == 2
  | .include, n => n == 2
  | .unknown, _ => true

/-- the keyword a `case` compares `fields[0]` with; the `default` branch has none -/
def keyword : Branch → Bytes
  | .attribute => kwATTRIBUTE
  | .value => kwVALUE
  | .vendor => kwVENDOR
  | .beginVendor => kwBEGIN
  | .endVendor => kwEND
  | .include => kwINCLUDE
  | .unknown => []

/-- the six keywords are pairwise different: they differ in length -/
theorem keyword_inj {b b' : Branch} (h : keyword b = keyword b') : b = b' := by
  cases b <;> cases b' <;> first | rfl | exact absurd (congrArg List.length h) (by decide)

/-- a `case` is entered only with its field count and its keyword: the six tests of `branchOf` are
    `arityOK b n && fields[0] == keyword b`, in order -/
theorem branchOf_spec (fields : List Bytes) :
    arityOK (branchOf fields) fields.length = true ∧
      (branchOf fields = .unknown ∨ fields.headD [] = keyword (branchOf fields)) := by
  let P (b : Branch) : Prop := arityOK b fields.length = true ∧ (b = .unknown ∨ fields.headD [] = keyword b)
  have f : ∀ b, (arityOK b fields.length && fields.headD [] == keyword b) = true → P b :=
    fun b h => ⟨(Bool.and_eq_true_iff.mp h).1, .inr (eq_of_beq (Bool.and_eq_true_iff.mp h).2)⟩
  exact iteInduction (motive := P) (f .attribute) fun _ => iteInduction (motive := P) (f .value) fun _ =>
    iteInduction (motive := P) (f .vendor) fun _ => iteInduction (motive := P) (f .beginVendor) fun _ =>
    iteInduction (motive := P) (f .endVendor) fun _ => iteInduction (motive := P) (f .include) fun _ => ⟨rfl, .inl rfl⟩

theorem branchOf_wrong_count (fields : List Bytes) (b : Branch) (hk : fields.headD [] = keyword b)
    (hn : arityOK b fields.length = false) : branchOf fields = .unknown := by
  obtain ⟨ha, hu | hk'⟩ := branchOf_spec fields
  · exact hu
  · rw [← keyword_inj (hk.symm.trans hk'), hn] at ha
    exact absurd ha Bool.false_ne_true

theorem branchOf_other_keyword (fields : List Bytes)
    (h1 : fields.headD [] ≠ kwATTRIBUTE) (h2 : fields.headD [] ≠ kwVALUE) (h3 : fields.headD [] ≠ kwVENDOR)
    (h4 : fields.headD [] ≠ kwBEGIN) (h5 : fields.headD [] ≠ kwEND) (h6 : fields.headD [] ≠ kwINCLUDE) :
    branchOf fields = .unknown := by
  obtain ⟨-, hu | hk⟩ := branchOf_spec fields
  · exact hu
  · cases hb : branchOf fields <;> rw [hb] at hk <;> first | rfl | contradiction

/-! ## The panic-aware copy of the per-line code

  `Option` = "or a run-time panic".  `none` is produced ONLY by the primitives `at?` (`idx`,
  `byteAt`), `slice` (`sliceTo`, `sliceFrom`) and `setAt?` below (an index or slice expression out of
  range; indices are Go `int`s, i.e. `Int`, so `len(x)-1` can be negative); everything else is the Go control flow, with `&&` and `||`
  evaluated left to right with short-circuit (an `if` per operand), so that an operand is evaluated
  only when the Go code evaluates it.  Library calls (`strings.EqualFold`, `strings.HasPrefix`,
  `strings.Split`, `strings.TrimPrefix`, `strconv.ParseInt`, `strconv.ParseUint`, `append`) do not
  index on the caller's behalf and are taken from the model. -/
namespace Guarded

/-- Go `x[i]` for a constant or `int` index: `none` = run-time panic (index out of range) -/
def at? {α : Type} (x : List α) (i : Int) : Option α := if 0 ≤ i then x[i.toNat]? else none
/-- Go `f[i]` on the fields -/
def idx (f : List Bytes) (i : Nat) : Option Bytes := at? f i
/-- Go `s[i]` on a string -/
def byteAt (s : Bytes) (i : Int) : Option UInt8 := at? s i
/-- Go `s[a:b]`: panics unless `0 ≤ a ≤ b ≤ len(s)` -/
def slice (s : Bytes) (a b : Int) : Option Bytes :=
  if 0 ≤ a ∧ a ≤ b ∧ b ≤ s.length then some ((s.take b.toNat).drop a.toNat) else none
/-- Go `s[:n]` -/
def sliceTo (s : Bytes) (n : Int) : Option Bytes := slice s 0 n
/-- Go `s[n:]` -/
def sliceFrom (s : Bytes) (n : Int) : Option Bytes := slice s n s.length

/-- Go `x[i] = v`: `none` = run-time panic (index out of range) -/
def setAt? {α : Type} (x : List α) (i : Int) (v : α) : Option (List α) :=
  if 0 ≤ i ∧ i < x.length then some (x.set i.toNat v) else none

/-- `len(x)` is a Go `int` (so that `len(x)-1` is `-1`, not `0`, for an empty `x`) -/
def len {α : Type} (x : List α) : Int := x.length

/-- parser.go 323-374, the type switch of `parseAttribute` on `t = f[3]` -/
def parseTypeG (t : Bytes) : Option (Except ErrClass (AttrType × Option Int)) :=
  if foldEq t nmString then some (.ok (.string, none))                 -- 324
  else if foldEq t nmOctets then some (.ok (.octets, none))            -- 326
  else do
    -- 328: `len(f[3]) > 8 && strings.EqualFold(f[3][:7], "octets[") && f[3][len(f[3])-1] == ']'`
    let sized : Bool ←
      if len t > 8 then do
        let pre ← sliceTo t 7                                          -- `f[3][:7]`, after `len(f[3]) > 8`
        if foldEq pre kwOctetsBr then do
          let last ← byteAt t (len t - 1)                              -- `f[3][len(f[3])-1]`, after `len(f[3]) > 8`
          pure (last == 93)
        else pure false
      else pure false
    if sized then do
      let mid ← slice t 7 (len t - 1)                                  -- 329: `f[3][7:len(f[3])-1]`
      match parseInt32 mid with
      | some n => pure (.ok (.octets, some n))
      | none => pure (.error .unknownAttributeType)
    else
      match typeTable.find? (fun e => foldEq t e.1) with               -- 340-373
      | some e => pure (.ok (e.2, none))
      | none => pure (.error .unknownAttributeType)

/-- parser.go 285-304, the `for i, ch := range s` loop of `parseOID`, on bytes: `rest` = the bytes
    from offset `i` on, `o` = the slice built so far.  (A byte ≥ 0x80 starts a rune that is neither
    `.` nor a digit: `default: return nil`; so whenever the loop goes on, all bytes before `i` were
    ASCII and the rune offset `i` advances by 1.)  Result `[]` = `nil`. -/
def oidLoopG (cfg : Cfg) (s : Bytes) : Bytes → Int → List Int → Option (List Int)
  | [], _, o => some o                                                 -- 305: `return o`
  | ch :: rest, i, o =>
    if ch == 46 then do                                                -- 287: `case '.'`
      -- 288: `i == 0 || len(s) == i+1 || s[i+1] < '0' || s[i+1] > '9'`
      let bad : Bool ←
        if i == 0 then pure true
        else if len s == i + 1 then pure true
        else do                                                        -- from here on: len(s) != i+1
          if (← byteAt s (i + 1)) < 48 then pure true                  -- `s[i+1] < '0' ||`
          else do pure ((← byteAt s (i + 1)) > 57)                     -- `s[i+1] > '9'`
      if bad then pure []                                              -- 289: `return nil`
      else oidLoopG cfg s rest (i + 1) (o ++ [0])                      -- 291: `o = append(o, 0)`
    else if isDigit ch then do                                         -- 292: `case '0', ..., '9'`
      let o := if i == 0 then o ++ [0] else o                          -- 293-295
      -- 296 (fix #13): `o[len(o)-1] > (maxInt-int(ch-'0'))/10`
      let over : Bool ←
        if cfg.oidOverflowRejected then do pure ((← at? o (len o - 1)) > (maxInt64 - digitVal ch) / 10)
        else pure false
      if over then pure []                                             -- 297: `return nil`
      else do
        let o1 ← setAt? o (len o - 1) (wrap64 ((← at? o (len o - 1)) * 10))                  -- 299: `o[len(o)-1] *= 10`
        let o2 ← setAt? o1 (len o1 - 1) (wrap64 ((← at? o1 (len o1 - 1)) + digitVal ch))     -- 300: `o[len(o)-1] += int(ch - '0')`
        oidLoopG cfg s rest (i + 1) o2
    else pure []                                                       -- 301: `default: return nil`

/-- parser.go 282-306, `parseOID(s)`; `none` = panic, `[]` = nil -/
def parseOIDG (cfg : Cfg) (s : Bytes) : Option (List Int) := oidLoopG cfg s s 0 []

/-- parser.go 308-426, `parseAttribute(f)` -/
def parseAttributeG (cfg : Cfg) (f : List Bytes) : Option (Except ErrClass Attribute) := do
  let f2 ← idx f 2                                                     -- 311: `parseOID(f[2])`
  let oid ← parseOIDG cfg f2
  if len oid == 0 then pure (.error .invalidOID)                       -- 312 (314: `f[2]` again)
  else do
    let f1 ← idx f 1                                                   -- 319
    let f3 ← idx f 3                                                   -- 324 ff.
    match ← parseTypeG f3 with
    | .error e => pure (.error e)
    | .ok (ty, size) =>
      let a : Attribute := { name := f1, oid := oid, typ := ty, size := size }
      if len f ≥ 5 then do                                             -- 376
        let f4 ← idx f 4                                               -- 377: `strings.Split(f[4], ",")`
        pure (parseFlags (splitComma f4) a)
      else pure (.ok a)

/-- parser.go 428-450, `parseValue(f)` -/
def parseValueG (f : List Bytes) : Option (Except ErrClass Value) := do
  let f1 ← idx f 1                                                     -- 432
  let f2 ← idx f 2                                                     -- 433
  let f3 ← idx f 3                                                     -- 437: `strings.HasPrefix(f[3], "0x")`
  if f3.take 2 == kw0x then do
    let f3' ← idx f 3
    let digits ← sliceFrom f3' 2                                       -- 438: `f[3][2:]`, after HasPrefix(f[3], "0x")
    match parseUint32Hex digits with
    | some n => pure (.ok { attrName := f1, name := f2, number := n })
    | none => pure (.error .strconv)
  else do
    let f3' ← idx f 3                                                  -- 443
    match parseUint32Dec f3' with
    | some n => pure (.ok { attrName := f1, name := f2, number := n })
    | none => pure (.error .strconv)

/-- parser.go 469, the NEGATION of the `if` condition on `s = f[3]`:
    `!HasPrefix(f[3], "format=") || len(f[3]) != 10 || f[3][8] != ',' ||
     (f[3][7] != '1' && f[3][7] != '2' && f[3][7] != '4') || (f[3][9] < '0' || f[3][9] > '2')`
    (before fix #12 the last operand was `(f[3][9] < '0' && f[3][9] > '2')`).
    `||` is left to right with short-circuit: the operands that index `f[3][8]`, `f[3][7]`, `f[3][9]`
    are reached only when `len(f[3]) != 10` was evaluated to false. -/
def formatOKG (cfg : Cfg) (s : Bytes) : Option Bool :=
  if !(s.take 7 == kwFormat) then some false                           -- `!strings.HasPrefix(f[3], "format=") ||`
  else if len s != 10 then some false                                  -- `len(f[3]) != 10 ||`
  else do                                                              -- from here on: len(f[3]) == 10
    if (← byteAt s 8) != 44 then return false                          -- `f[3][8] != ',' ||`
    -- `(f[3][7] != '1' && f[3][7] != '2' && f[3][7] != '4') ||`
    let notT : Bool ←
      if (← byteAt s 7) != 49 then
        if (← byteAt s 7) != 50 then do pure ((← byteAt s 7) != 52) else pure false
      else pure false
    if notT then return false
    -- `(f[3][9] < '0' || f[3][9] > '2')`      (current code: `&&`)
    let notL : Bool ←
      if cfg.formatLenChecked then
        if (← byteAt s 9) < 48 then pure true else do pure ((← byteAt s 9) > 50)
      else
        if (← byteAt s 9) < 48 then do pure ((← byteAt s 9) > 50) else pure false
    if notL then return false
    return true

/-- parser.go 452-481, `parseVendor(f)` -/
def parseVendorG (cfg : Cfg) (f : List Bytes) : Option (Except ErrClass Vendor) := do
  let f2 ← idx f 2                                                     -- 455
  match parseInt32 f2 with
  | none => pure (.error .strconv)
  | some n => do
    let f1 ← idx f 1                                                   -- 461
    if len f == 4 then do                                              -- 465
      let f3 ← idx f 3                                                 -- 469 (each `f[3]` is the same access)
      if ← formatOKG cfg f3 then do
        let t ← byteAt f3 7                                            -- 475: `int(f[3][7] - '0')`
        let l ← byteAt f3 9                                            -- 477: `int(f[3][9] - '0')`
        pure (.ok { name := f1, number := n,
                    typeOctets := some ((t - 48).toNat : Int), lengthOctets := some ((l - 48).toNat : Int) })
      else pure (.error .invalidVendorFormat)
    else pure (.ok { name := f1, number := n })

/-- a `case lenTest && fields[0] == kw`: `fields[0]` is evaluated only when the length test is true -/
def caseG (lenTest : Bool) (fields : List Bytes) (kw : Bytes) : Option Bool :=
  if lenTest then do pure ((← idx fields 0) == kw) else pure false

/-- parser.go 76-255, the `switch` of `parse` on the fields of one line -/
def dispatchG (cfg : Cfg) (ign : Bool) (inc : IncludeHandler)
    (file : Bytes) (lineNo : Nat) (vb : Option Bytes) (st : St) (fields : List Bytes) : Option Step := do
  let n := len fields
  let perr (c : ErrClass) : Step := .fail (.decl c file lineNo) st
  if ← caseG (n == 4 || n == 5) fields kwATTRIBUTE then                -- 77
    match ← parseAttributeG cfg fields with                            -- 78
    | .error e => pure (perr e)
    | .ok a =>
      match attributeByName (scopeAttrs st.dict vb) a.name with
      | some existing =>
        if ign && a == existing then pure (.next vb st)
        else pure (perr .duplicateAttribute)
      | none => pure (.next vb { st with dict := addAttr st.dict a vb })
  else if ← caseG (n == 4) fields kwVALUE then                         -- 112
    match ← parseValueG fields with                                    -- 113
    | .error e => pure (perr e)
    | .ok x => pure (.next vb { st with dict := addValue st.dict x vb })
  else if ← caseG (n == 3 || n == 4) fields kwVENDOR then              -- 130
    match ← parseVendorG cfg fields with                               -- 131
    | .error e => pure (perr e)
    | .ok v =>
      match vendorByNameOrNumber st.dict.vendors v.name v.number with
      | some _ => pure (perr .duplicateVendor)
      | none => pure (.next vb { st with dict := { st.dict with vendors := st.dict.vendors ++ [v] } })
  else if ← caseG (n == 2) fields kwBEGIN then                         -- 152
    if vb.isSome then pure (perr .nestedVendorBlock)
    else do
      let f1 ← idx fields 1                                            -- 163 (167: again)
      match vendorByName st.dict.vendors f1 with
      | none => pure (perr .unknownVendor)
      | some _ => pure (.next (some f1) st)
  else if ← caseG (n == 2) fields kwEND then                           -- 176
    match vb with
    | none => pure (perr .unmatchedEndVendor)
    | some v => do
      let f1 ← idx fields 1                                            -- 184 (187: again)
      if v != f1 then pure (perr .invalidEndVendor) else pure (.next none st)
  else if ← caseG (n == 2) fields kwINCLUDE then                       -- 196
    if vb.isSome then pure (perr .beginVendorInclude)
    else do
      let f1 ← idx fields 1                                            -- 206
      match inc f1 file lineNo st with
      | (none, st') => pure (.next vb st')
      | (some e, st') => pure (.fail e st')
  else pure (perr .unknownLine)                                        -- 247

theorem at?_ofNat {α : Type} (x : List α) (i : Nat) : at? x (i : Int) = x[i]? := rfl

theorem at?_eq {α : Type} (x : List α) (i : Nat) (d : α) (h : i < x.length) : at? x (i : Int) = some (x.getD i d) := by
  rw [at?_ofNat, List.getD_eq_getElem?_getD, List.getElem?_eq_getElem h]
  rfl

theorem idx_eq (f : List Bytes) (i : Nat) (h : i < f.length) : idx f i = some (f.getD i []) := at?_eq f i [] h

theorem byteAt_eq (s : Bytes) (i : Nat) (h : i < s.length) : byteAt s (i : Int) = some (s.getD i 0) := at?_eq s i 0 h

theorem len_sub_one {α : Type} (x : List α) (h : 0 < x.length) : len x - 1 = ((x.length - 1 : Nat) : Int) := by
  unfold len
  omega

theorem len_beq {α : Type} (x : List α) (k : Nat) : (len x == (k : Int)) = (x.length == k) := by
  unfold len
  rw [Bool.eq_iff_iff, beq_iff_eq, beq_iff_eq, Int.ofNat_inj]

theorem at?_len_sub_one {α : Type} (x : List α) : at? x (len x - 1) = x.getLast? := by
  cases x with
  | nil => rfl
  | cons a t => rw [len_sub_one (a :: t) (Nat.succ_pos _), at?_ofNat, List.getLast?_eq_getElem?]

theorem slice_eq (s : Bytes) (a b : Nat) (hab : a ≤ b) (hb : b ≤ s.length) :
    slice s (a : Int) (b : Int) = some ((s.take b).drop a) := by
  unfold slice
  rw [if_pos ⟨by omega, by omega, by omega⟩]
  rfl

theorem sliceTo_eq (s : Bytes) (n : Nat) (h : n ≤ s.length) : sliceTo s (n : Int) = some (s.take n) :=
  slice_eq s 0 n (Nat.zero_le n) h

theorem sliceFrom_eq (s : Bytes) (n : Nat) (h : n ≤ s.length) : sliceFrom s (n : Int) = some (s.drop n) := by
  rw [sliceFrom, slice_eq s n s.length h (Nat.le_refl _), List.take_length]

theorem slice_mid (s : Bytes) (a : Nat) (h : a < s.length) : slice s (a : Int) (len s - 1) = some ((s.drop a).dropLast) := by
  rw [len_sub_one s (by omega), slice_eq s a _ (by omega) (by omega), List.dropLast_eq_take, List.length_drop, List.take_drop]
  congr 3
  omega


theorem parseTypeG_eq (t : Bytes) : parseTypeG t = some (parseType t) := by
  unfold parseTypeG parseType
  split
  · rfl
  split
  · rfl
  -- both sides end in the same two `match`es; the guarded ones wrap each arm in `some`
  generalize hr : List.find? (fun e => foldEq t e.fst) typeTable = r
  by_cases h8 : t.length > 8
  · have h8' : len t > 8 := Int.ofNat_lt.mpr h8
    have hne : t ≠ [] := List.ne_nil_of_length_pos (by omega)
    have e1 : sliceTo t 7 = some (t.take 7) := sliceTo_eq t 7 (by omega)
    have e2 : slice t 7 (len t - 1) = some ((t.drop 7).dropLast) := slice_mid t 7 (by omega)
    simp only [h8', h8, if_true, e1, e2, byteAt, at?_len_sub_one, List.getLast?_eq_some_getLast hne, Option.bind_eq_bind,
      Option.bind_some, Option.pure_def, decide_true, Bool.true_and, Option.some_beq_some]
    generalize parseInt32 (t.drop 7).dropLast = n
    generalize foldEq (t.take 7) kwOctetsBr = b
    generalize (t.getLast hne == 93) = c
    cases n <;> cases r <;> cases b <;> cases c <;> rfl
  · have h8' : ¬ len t > 8 := fun h => h8 (Int.ofNat_lt.mp h)
    simp only [h8', h8, if_false, Option.bind_eq_bind, Option.bind_some, Option.pure_def, decide_false, Bool.false_and,
      Bool.false_eq_true]
    cases r <;> rfl

theorem at?_last {α : Type} (xs : List α) (a : α) : at? (xs ++ [a]) (len (xs ++ [a]) - 1) = some a := by
  rw [at?_len_sub_one, List.getLast?_concat]

theorem setAt?_last {α : Type} (xs : List α) (a v : α) : setAt? (xs ++ [a]) (len (xs ++ [a]) - 1) v = some (xs ++ [v]) := by
  have : len (xs ++ [a]) - 1 = (xs.length : Int) := by
    rw [len_sub_one _ (by simp), List.length_append]
    rfl
  rw [this, setAt?, if_pos ⟨by omega, by rw [List.length_append]; exact Int.ofNat_lt.mpr (Nat.lt_succ_self _)⟩, Int.toNat_natCast, List.set_append_right _ _ (Nat.le_refl _), Nat.sub_self]
  rfl

theorem wrap64_wrap64_add (x d : Int) : wrap64 (wrap64 x + d) = wrap64 (x + d) := by
  unfold wrap64
  omega

/-- one digit (parser.go 292-300): on a slice that ends in `cur` (after line 293-295), the test of fix #13 and the
    two updates of `o[len(o)-1]` are in range and compute the model's `oidStep` -/
theorem oidLoopG_digit (cfg : Cfg) (s rest : Bytes) (c : UInt8) (i : Int) (o done : List Int) (cur : Int)
    (hdot : ¬ (c == 46) = true) (hd : isDigit c = true) (ho : (if i == 0 then o ++ [0] else o) = done ++ [cur]) :
    oidLoopG cfg s (c :: rest) i o =
      match oidStep cfg cur c with
      | some v => oidLoopG cfg s rest (i + 1) (done ++ [v])
      | none => some [] := by
  rw [oidLoopG]
  simp only [hdot, hd, ho, if_true, at?_last, setAt?_last, Option.bind_eq_bind, Option.bind_some,
    Option.pure_def, wrap64_wrap64_add, oidStep]
  generalize decide (cur > (maxInt64 - ↑(digitVal c)) / 10) = over
  cases cfg.oidOverflowRejected <;> cases over <;> rfl

/-- invariant of the loop: `pre` = the bytes consumed (not empty: the first byte is `parseOIDG_eq`'s), `i` its
    length, and the Go slice `o` = the model's finished components, in order, followed by the current one -/
theorem oidLoopG_eq (cfg : Cfg) : ∀ (rest pre : Bytes) (done : List Int) (cur : Int), pre ≠ [] →
    oidLoopG cfg (pre ++ rest) rest (pre.length : Int) (done.reverse ++ [cur])
      = some ((oidLoop cfg rest done cur).getD []) := by
  intro rest
  induction rest with
  | nil => intro pre done cur _; simp [oidLoopG, oidLoop]
  | cons c rest ih =>
    intro pre done cur hpre
    have hi : ((pre.length : Int) == 0) = false :=
      beq_eq_false_iff_ne.mpr fun h => hpre (List.eq_nil_of_length_eq_zero (Int.ofNat_inj.mp h))
    have hstep := ih (pre ++ [c])
    have hs : pre ++ [c] ++ rest = pre ++ c :: rest := by simp
    have hl : (((pre ++ [c]).length : Nat) : Int) = (pre.length : Int) + 1 := by simp
    rw [hs, hl] at hstep
    by_cases hdot : (c == 46) = true
    · unfold oidLoopG oidLoop
      simp only [hdot, if_true, hi]
      cases rest with
      | nil =>
        have : (len (pre ++ [c]) == (pre.length : Int) + 1) = true := by simp [len]
        simp [this]
      | cons d rest' =>
        have hne : (len (pre ++ c :: d :: rest') == (pre.length : Int) + 1) = false := by
          apply beq_eq_false_iff_ne.mpr
          simp [len]; omega
        have hb : byteAt (pre ++ c :: d :: rest') ((pre.length : Int) + 1) = some d := by
          have : ((pre.length : Int) + 1) = ((pre.length + 1 : Nat) : Int) := by simp
          rw [this, byteAt, at?_ofNat]
          simp
        simp only [hne, hb, Option.bind_eq_bind, Option.bind_some, Option.pure_def]
        have hdone : done.reverse ++ [cur] ++ [0] = (cur :: done).reverse ++ [0] := by simp
        rw [hdone, hstep (cur :: done) 0 (by simp)]
        have k1 : (d < 48) ↔ ¬ (48 ≤ d) := by simp
        have k2 : (d > 57) ↔ ¬ (d ≤ 57) := by simp
        simp only [k1, k2, isDigit]
        by_cases a : 48 ≤ d <;> by_cases b : d ≤ 57 <;> simp [a, b]
    · by_cases hd : isDigit c = true
      · rw [oidLoopG_digit cfg _ rest c _ _ done.reverse cur hdot hd (by rw [hi]; rfl)]
        unfold oidLoop
        rw [if_neg hdot, if_pos hd]
        cases oidStep cfg cur c with
        | none => rfl
        | some v => exact hstep done v (by simp)
      · unfold oidLoopG oidLoop
        simp [hdot, hd]

theorem parseOIDG_eq (cfg : Cfg) (s : Bytes) : parseOIDG cfg s = some ((parseOID cfg s).getD []) := by
  unfold parseOIDG parseOID
  cases s with
  | nil => rfl
  | cons c rest =>
    by_cases hd : isDigit c = true
    · have hdot : ¬ (c == 46) = true := fun h => by rw [eq_of_beq h] at hd; exact absurd hd (by decide)
      rw [oidLoopG_digit cfg _ rest c 0 [] [] 0 hdot hd rfl]
      simp only [hd, if_true]
      cases oidStep cfg 0 c with
      | none => rfl
      | some v => exact oidLoopG_eq cfg rest [c] [] v (by simp)
    · unfold oidLoopG
      by_cases hdot : (c == 46) = true <;> simp [hdot, hd]

theorem oidLoop_ne_nil (cfg : Cfg) : ∀ (s : Bytes) (done : List Int) (cur : Int) (o : List Int),
    oidLoop cfg s done cur = some o → o ≠ [] := by
  intro s
  induction s with
  | nil => intro done cur o h; simp [oidLoop] at h; subst h; simp
  | cons c rest ih =>
    intro done cur o h
    unfold oidLoop at h
    split at h
    · split at h
      · simp at h
      · split at h
        · exact ih _ _ _ h
        · simp at h
    · split at h
      · split at h
        · exact ih _ _ _ h
        · simp at h
      · simp at h

theorem parseOID_ne_nil (cfg : Cfg) (s : Bytes) (o : List Int) (h : parseOID cfg s = some o) : o ≠ [] := by
  unfold parseOID at h
  split at h
  · simp at h
  · split at h
    · split at h
      · exact oidLoop_ne_nil cfg _ _ _ _ h
      · simp at h
    · simp at h

theorem parseAttributeG_eq (cfg : Cfg) (f : List Bytes) (hlen : f.length = 4 ∨ f.length = 5) :
    parseAttributeG cfg f = some (parseAttribute cfg (f.getD 1 []) (f.getD 2 []) (f.getD 3 [])
      (if f.length == 5 then some (f.getD 4 []) else none)) := by
  have h1 := idx_eq f 1 (by omega)
  have h2 := idx_eq f 2 (by omega)
  have h3 := idx_eq f 3 (by omega)
  have h5 : len f ≥ 5 ↔ (f.length == 5) = true := by
    unfold len
    rw [beq_iff_eq]
    omega
  unfold parseAttributeG parseAttribute
  simp only [h1, h2, h3, h5, parseOIDG_eq, parseTypeG_eq, Option.bind_eq_bind, Option.bind_some, Option.pure_def]
  cases ho : parseOID cfg (f.getD 2 []) with
  | none => rfl
  | some o =>
    have : (len o == 0) = false := by
      rw [show (len o == 0) = (o.length == 0) from len_beq o 0]
      exact beq_false_of_ne fun h => parseOID_ne_nil cfg _ _ ho (List.eq_nil_of_length_eq_zero h)
    simp only [Option.getD_some, this, Bool.false_eq_true, if_false]
    cases parseType (f.getD 3 []) with
    | error e => rfl
    | ok p =>
      by_cases h : (f.length == 5) = true
      · simp only [h, if_true, idx_eq f 4 (by rw [eq_of_beq h]; decide), Option.bind_some]
      · simp only [h, Bool.false_eq_true, if_false]

theorem take_eq_length_le {α : Type} (s p : List α) (n : Nat) (h : s.take n = p) (hp : p.length = n) : n ≤ s.length := by
  have := congrArg List.length h
  simp at this
  omega

theorem parseValueG_eq (f : List Bytes) (hlen : f.length = 4) :
    parseValueG f = some (parseValue (f.getD 1 []) (f.getD 2 []) (f.getD 3 [])) := by
  have h1 := idx_eq f 1 (by omega)
  have h2 := idx_eq f 2 (by omega)
  have h3 := idx_eq f 3 (by omega)
  unfold parseValueG parseValue
  simp only [h1, h2, h3, Option.bind_eq_bind, Option.bind_some, Option.pure_def]
  generalize f.getD 1 [] = a
  generalize f.getD 2 [] = b
  generalize f.getD 3 [] = t
  by_cases hp : (List.take 2 t == kw0x) = true
  · have hle : 2 ≤ t.length := take_eq_length_le _ _ 2 (by simpa using hp) (by decide)
    have e : sliceFrom t 2 = some (t.drop 2) := sliceFrom_eq t 2 hle
    simp only [hp, if_true, e, Option.bind_some]
    cases parseUint32Hex (t.drop 2) <;> rfl
  · simp only [hp]
    cases parseUint32Dec t <;> rfl

theorem formatOKG_short (cfg : Cfg) (s : Bytes) (h : s.length ≠ 10) : formatOKG cfg s = some false := by
  have : (len s != 10) = true := by
    rw [bne, show (len s == 10) = (s.length == 10) from len_beq s 10, beq_false_of_ne h]
    rfl
  unfold formatOKG
  rw [if_pos this]
  split <;> rfl

theorem formatOK_of_length_ne (cfg : Cfg) (s : Bytes) (h : s.length ≠ 10) : formatOK cfg s = false := by
  rw [formatOK, beq_false_of_ne h, Bool.and_false]
  rfl

theorem formatOKG_eq (cfg : Cfg) (s : Bytes) : formatOKG cfg s = some (formatOK cfg s) := by
  by_cases hl : s.length = 10
  · have h7 : byteAt s 7 = some (s.getD 7 0) := byteAt_eq s 7 (by omega)
    have h8 : byteAt s 8 = some (s.getD 8 0) := byteAt_eq s 8 (by omega)
    have h9 : byteAt s 9 = some (s.getD 9 0) := byteAt_eq s 9 (by omega)
    have : (len s != 10) = false := by
      rw [bne, show (len s == 10) = (s.length == 10) from len_beq s 10, hl]
      rfl
    unfold formatOKG formatOK
    simp only [this, h7, h8, h9, Option.bind_eq_bind, Option.bind_some, Option.pure_def]
    generalize List.getD s 7 0 = c7
    generalize List.getD s 8 0 = c8
    generalize List.getD s 9 0 = c9
    simp only [← apply_ite some, hl, bne, if_true, Bool.false_eq_true, if_false, Bool.if_false_left, Bool.if_true_right,
      Bool.or_false, Bool.not_not, Bool.decide_eq_true, beq_self_eq_true, Bool.and_true]
    have hF : (if cfg.formatLenChecked = true then !decide (c9 < 48) && !decide (c9 > 50)
        else !decide (c9 < 48) || !decide (c9 > 50))
        = (!cfg.formatLenChecked || decide (48 ≤ c9) && decide (c9 ≤ 50)) := by
      cases cfg.formatLenChecked
      · show (!decide (c9 < 48) || !decide (c9 > 50)) = true
        by_cases h : c9 < 48
        · have : ¬ c9 > 50 := fun h' => absurd (UInt8.lt_trans h' h) (by decide)
          rw [decide_eq_false this, Bool.not_false, Bool.or_true]
        · rw [decide_eq_false h]
          rfl
      · simp only [← decide_not, UInt8.not_lt, gt_iff_lt]
        rfl
    rw [hF]
    generalize (!cfg.formatLenChecked || decide (48 ≤ c9) && decide (c9 ≤ 50)) = f
    generalize (List.take 7 s == kwFormat) = p
    generalize (c8 == 44) = b8
    generalize (c7 == 49) = e1
    generalize (c7 == 50) = e2
    generalize (c7 == 52) = e3
    rw [← Bool.and_assoc, Bool.and_assoc (p && b8)]
    cases e1 <;> cases e2 <;> rfl
  · rw [formatOKG_short cfg s hl, formatOK_of_length_ne cfg s hl]

theorem formatOK_length (cfg : Cfg) (s : Bytes) (h : formatOK cfg s = true) : s.length = 10 := by
  false_or_by_contra
  rename_i hn
  rw [formatOK_of_length_ne cfg s hn] at h
  exact absurd h (by decide)

theorem parseVendorG_eq (cfg : Cfg) (f : List Bytes) (hlen : f.length = 3 ∨ f.length = 4) :
    parseVendorG cfg f = some (parseVendor cfg (f.getD 1 []) (f.getD 2 [])
      (if f.length == 4 then some (f.getD 3 []) else none)) := by
  have h1 := idx_eq f 1 (by omega)
  have h2 := idx_eq f 2 (by omega)
  have e4 : (len f == 4) = (f.length == 4) := len_beq f 4
  unfold parseVendorG parseVendor
  simp only [h1, h2, e4, Option.bind_eq_bind, Option.bind_some, Option.pure_def]
  cases parseInt32 (f.getD 2 []) with
  | none => rfl
  | some n =>
    by_cases h : (f.length == 4) = true
    · have h3 := idx_eq f 3 (by rw [eq_of_beq h]; decide)
      simp only [h, h3, formatOKG_eq, if_true, Option.bind_some]
      generalize f.getD 3 [] = t
      by_cases hf : formatOK cfg t = true
      · have hl := formatOK_length cfg t hf
        have h7 : byteAt t 7 = some (t.getD 7 0) := byteAt_eq t 7 (by omega)
        have h9 : byteAt t 9 = some (t.getD 9 0) := byteAt_eq t 9 (by omega)
        simp only [hf, h7, h9, if_true, Option.bind_some]
      · simp only [hf]
        rfl
    · simp only [h, Bool.false_eq_true, if_false]

theorem caseG_cons (c : Bool) (f0 : Bytes) (fs : List Bytes) (kw : Bytes) :
    caseG c (f0 :: fs) kw = some (c && f0 == kw) := by
  cases c <;> rfl

theorem ite_some {α : Type} {c : Prop} [Decidable c] {x y : Option α} {a b : α}
    (hx : c → x = some a) (hy : ¬ c → y = some b) : (if c then x else y) = some (if c then a else b) := by
  split
  · exact hx ‹_›
  · exact hy ‹_›

theorem dispatchG_eq (cfg : Cfg) (ign : Bool) (inc : IncludeHandler) (file : Bytes) (lineNo : Nat) (vb : Option Bytes) (st : St) (fields : List Bytes) :
    dispatchG cfg ign inc file lineNo vb st fields = some (dispatch cfg ign inc file lineNo vb st fields) := by
  cases fields with
  | nil => rfl
  | cons f0 fs =>
    have e2 : (len (f0 :: fs) == 2) = ((f0 :: fs).length == 2) := len_beq _ 2
    have e3 : (len (f0 :: fs) == 3) = ((f0 :: fs).length == 3) := len_beq _ 3
    have e4 : (len (f0 :: fs) == 4) = ((f0 :: fs).length == 4) := len_beq _ 4
    have e5 : (len (f0 :: fs) == 5) = ((f0 :: fs).length == 5) := len_beq _ 5
    -- what the length test of a `case` that was entered says about the indices used in its body
    have two : ∀ {kw : Bytes}, ((f0 :: fs).length == 2 && f0 == kw) = true → idx (f0 :: fs) 1 = some ((f0 :: fs).getD 1 []) :=
      fun c => idx_eq _ 1 (by rw [eq_of_beq (Bool.and_eq_true_iff.mp c).1]; decide)
    have either : ∀ {m n : Nat} {kw : Bytes}, (((f0 :: fs).length == m || (f0 :: fs).length == n) && f0 == kw) = true →
        (f0 :: fs).length = m ∨ (f0 :: fs).length = n :=
      fun c => (Bool.or_eq_true_iff.mp (Bool.and_eq_true_iff.mp c).1).imp eq_of_beq eq_of_beq
    unfold dispatchG dispatch
    simp only [e2, e3, e4, e5, caseG_cons, Option.bind_eq_bind, Option.bind_some, Option.pure_def]
    refine ite_some (fun c => ?_) fun _ => ite_some (fun c => ?_) fun _ => ite_some (fun c => ?_) fun _ =>
      ite_some (fun c => ?_) fun _ => ite_some (fun c => ?_) fun _ => ite_some (fun c => ?_) fun _ => rfl
    · rw [parseAttributeG_eq cfg _ (either c), Option.bind_some]
      generalize parseAttribute cfg _ _ _ _ = r
      rcases r with e | a
      · rfl
      · simp only []
        cases attributeByName (scopeAttrs st.dict vb) a.name with
        | none => rfl
        | some ex => simp only []; split <;> rfl
    · rw [parseValueG_eq _ (eq_of_beq (Bool.and_eq_true_iff.mp c).1), Option.bind_some]
      generalize parseValue _ _ _ = r
      rcases r with e | a <;> rfl
    · rw [parseVendorG_eq cfg _ (either c), Option.bind_some]
      generalize parseVendor cfg _ _ _ = r
      rcases r with e | v
      · rfl
      · simp only []
        cases vendorByNameOrNumber st.dict.vendors v.name v.number <;> rfl
    · rw [two c, Option.bind_some]
      split
      · rfl
      · cases vendorByName st.dict.vendors ((f0 :: fs).getD 1 []) <;> rfl
    · rw [two c]
      cases vb with
      | none => rfl
      | some v => simp only [Option.bind_some]; split <;> rfl
    · rw [two c, Option.bind_some]
      split
      · rfl
      · generalize inc _ _ _ _ = r
        rcases r with ⟨_ | e, st'⟩ <;> rfl

/-- THE LINE SWITCH NEVER PANICS: for every field list, the panic-aware `switch` does not hit an
    index out of range -/
theorem dispatch_never_panics (cfg : Cfg) (ign : Bool) (inc : IncludeHandler) (file : Bytes) (lineNo : Nat)
    (vb : Option Bytes) (st : St) (fields : List Bytes) :
    (dispatchG cfg ign inc file lineNo vb st fields).isSome = true := by
  rw [dispatchG_eq]; rfl

/-- `parseOID` never panics (`s[i+1]`, `o[len(o)-1]` are in range), for every byte string -/
theorem parseOIDG_never_panics (cfg : Cfg) (s : Bytes) : (parseOIDG cfg s).isSome = true := by
  rw [parseOIDG_eq]; rfl

/-- the Go result has `len(oid) == 0` (nil) exactly where the model's `parseOID` is `none` -/
theorem parseOIDG_nil_iff (cfg : Cfg) (s : Bytes) : parseOIDG cfg s = some [] ↔ parseOID cfg s = none := by
  rw [parseOIDG_eq]
  cases h : parseOID cfg s with
  | none => simp
  | some o => simpa using parseOID_ne_nil cfg s o h

/-- `strings.IndexByte(line, c)` -/
def indexByte : Bytes → UInt8 → Int
  | [], _ => -1
  | b :: rest, c => if b == c then 0 else if indexByte rest c < 0 then -1 else indexByte rest c + 1

/-- parser.go 65-67: `if idx := strings.IndexByte(line, '#'); idx >= 0 { line = line[:idx] }` -/
def stripCommentG (line : Bytes) : Option Bytes :=
  let idx := indexByte line 35
  if idx ≥ 0 then sliceTo line idx else some line

/-- parser.go 64-255, one iteration of the scan loop -/
def stepLineG (cfg : Cfg) (ign : Bool) (inc : IncludeHandler) (file : Bytes) (lineNo : Nat)
    (vb : Option Bytes) (st : St) (raw : Bytes) : Option Step := do
  let line ← stripCommentG raw                                         -- 65-67
  if len line == 0 then pure (.next vb st)                             -- 68-70
  else
    let fs := Lex.fields line                                          -- 72
    if cfg.skipNoFields && len fs == 0 then pure (.next vb st)         -- 73-75 (fix #11)
    else dispatchG cfg ign inc file lineNo vb st fs                    -- 76-255

theorem indexByte_spec (l : Bytes) (c : UInt8) :
    (indexByte l c = -1 ∧ l.takeWhile (· != c) = l) ∨ indexByte l c = ((l.takeWhile (· != c)).length : Int) := by
  induction l with
  | nil => exact .inl ⟨rfl, rfl⟩
  | cons b rest ih =>
    unfold indexByte
    by_cases hb : (b == c) = true
    · right
      rw [if_pos hb, List.takeWhile_cons_of_neg (by rw [bne, hb]; decide)]
      rfl
    · rw [if_neg hb, List.takeWhile_cons_of_pos (by simpa using hb)]
      rcases ih with ⟨h1, h2⟩ | h
      · rw [h1, h2]
        exact .inl ⟨rfl, rfl⟩
      · rw [h, if_neg (by omega)]
        exact .inr rfl

theorem stripCommentG_eq (l : Bytes) : stripCommentG l = some (Lex.stripComment l) := by
  unfold stripCommentG Lex.stripComment
  rcases indexByte_spec l 35 with ⟨h1, h2⟩ | h
  · rw [h1, h2]
    rfl
  · rw [h, if_pos (Int.natCast_nonneg _), sliceTo_eq l _ (List.takeWhile_prefix _).length_le,
      ← List.prefix_iff_eq_take.mp (List.takeWhile_prefix _)]

theorem stepLineG_eq (cfg : Cfg) (ign : Bool) (inc : IncludeHandler) (file : Bytes) (lineNo : Nat)
    (vb : Option Bytes) (st : St) (raw : Bytes) :
    stepLineG cfg ign inc file lineNo vb st raw = some (stepLine cfg ign inc file lineNo vb st raw) := by
  have e1 : ∀ {α : Type} (x : List α), (len x == 0) = x.isEmpty := by
    intro α x; cases x <;> simp [len]
    omega
  unfold stepLineG stepLine
  simp only [stripCommentG_eq, Option.bind_eq_bind, Option.bind_some, Option.pure_def, e1, dispatchG_eq]
  split
  · rfl
  · split <;> rfl

/-- an include handler for the examples -/
def exInclude : IncludeHandler := fun name file lineNo st => (some (.openErr file lineNo name), st)

-- a 4th VENDOR field shorter than 10 bytes ("VENDOR x 1 f"): refused, no panic
example : dispatchG Cfg.tree false exInclude [] 7 none {} [kwVENDOR, [120], [49], [102]]
    = some (.fail (.decl .invalidVendorFormat [] 7) {}) := by rfl
-- "format=1," is 9 bytes long: `f[3][9]` would be out of range, and is not evaluated
example : formatOKG Cfg.tree [102,111,114,109,97,116,61,49,44] = some false := by decide
example : formatOKG Cfg.current [102,111,114,109,97,116,61,49,44] = some false := by decide
example : formatOKG Cfg.tree [102,111,114,109,97,116,61,49,44,49] = some true := by decide
-- the primitives do panic when the Go expression would
example : byteAt [102,111,114,109,97,116,61,49,44] 9 = none := by decide
example : idx [kwVENDOR, [120], [49]] 3 = none := by decide
example : slice [1, 2, 3] 2 1 = none ∧ slice [1, 2, 3] 1 4 = none ∧ byteAt [] (len ([] : Bytes) - 1) = none := by decide
-- "octets[" + "]" is 8 bytes: `len(f[3]) > 8` fails, `f[3][7:len(f[3])-1]` is not evaluated
example : parseTypeG [111,99,116,101,116,115,91,93] = some (.error .unknownAttributeType) := by rfl
-- ATTRIBUTE with 4 fields: `f[4]` is not evaluated
example : (parseAttributeG Cfg.tree [kwATTRIBUTE, [97], [49], nmString]).isSome = true := by decide
-- "1." : `len(s) == i+1` stops before `s[i+1]`;  ".1" : `i == 0`
example : parseOIDG Cfg.tree [49, 46] = some [] ∧ parseOIDG Cfg.tree [46, 49] = some [] := by decide
example : parseOIDG Cfg.tree [49, 46, 50, 53] = some [1, 25] := by decide
-- no field at all (the code before fix #11): `fields[0]` is not evaluated
example : dispatchG Cfg.current false exInclude [] 1 none {} [] = some (.fail (.decl .unknownLine [] 1) {}) := by rfl
-- VALUE "0x": `f[3][2:]` is the empty string
example : parseValueG [kwVALUE, [97], [98], kw0x] = some (.error .strconv) := by rfl

end Guarded

end RV.DictParser
