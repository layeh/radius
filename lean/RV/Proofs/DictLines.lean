/-
  C16, line level (L2) and whole text (L3): the directive switch `dispatch` of the model lets a
  line pass exactly when the line is a declaration of the grammar RV.Model.DictGrammar that is
  valid where it stands (`LineDecl`), and `Parser.Parse` on a single text succeeds exactly on the
  texts of the language (`Accepts`), returning the dictionary the grammar assigns.
  In this order: the arguments of an ATTRIBUTE line assembled from the token equivalences; the branches of
  `dispatch` as functions of their own with the `dispatch_*_eq` lemmas; `dispatch_next_iff` (L2);
  `parseLines_ok_iff`, `parseText_ok_iff` (L3); declarations are only appended (`Extends`).
  RV.Proofs.DictInclude (a file of C15, the include walk) is imported for `Step.ofResult`, `dispatch_include`,
  `dispatch_cases` and `includeWith_none`.
-/
import RV.Proofs.DictTokens
import RV.Proofs.DictInclude
namespace RV.DictParser
open RV RV.Dict RV.DictParser.Spec RV.DictParser.Grammar

theorem parseAttribute_eq (cfg : Cfg) {oid typ : Bytes} {o : List Int} {ty : AttrType} {size : Option Int}
    (ho : parseOID cfg oid = some o) (ht : parseType typ = .ok (ty, size)) (name : Bytes) (flags : Option Bytes) :
    parseAttribute cfg name oid typ flags =
      match flags with
      | none => .ok { name := name, oid := o, typ := ty, size := size }
      | some fl => parseFlags (splitComma fl) { name := name, oid := o, typ := ty, size := size } := by
  simp only [parseAttribute, ho, ht]
  rfl

theorem parseAttribute_of_args (cfg : Cfg) {name oid typ : Bytes} {flags : Option Bytes} {a : Attribute}
    (h : AttrArgs name oid typ flags a) : parseAttribute cfg name oid typ flags = .ok a := by
  obtain ⟨comps, ty, size, fl, hdot, hfit, htt, hflags, honce, rfl⟩ := h
  rw [parseAttribute_eq cfg (parseOID_of_dotted cfg hdot hfit) ((parseType_iff typ ty size).mpr htt)]
  cases flags with
  | none => simp only at hflags; subst hflags; rfl
  | some field =>
    obtain ⟨items, hfield, hitems⟩ := hflags
    simp only [(splitComma_iff field items).mpr hfield]
    exact parseFlags_of_items hitems _ honce

theorem parseAttribute_iff (cfg : Cfg) (h13 : cfg.oidOverflowRejected = true) (name oid typ : Bytes)
    (flags : Option Bytes) (a : Attribute) :
    parseAttribute cfg name oid typ flags = .ok a ↔ AttrArgs name oid typ flags a := by
  refine ⟨fun h => ?_, parseAttribute_of_args cfg⟩
  cases ho : parseOID cfg oid with
  | none => simp [parseAttribute, ho] at h
  | some o =>
    obtain ⟨comps, hdot, hfit, rfl⟩ := (parseOID_iff cfg h13 oid o).mp ho
    cases ht : parseType typ with
    | error e => simp [parseAttribute, ho, ht] at h
    | ok p =>
      obtain ⟨ty, size⟩ := p
      have htt := (parseType_iff typ ty size).mp ht
      rw [parseAttribute_eq cfg ho ht] at h
      cases flags with
      | none =>
        simp only [Except.ok.injEq] at h
        exact ⟨comps, ty, size, [], hdot, hfit, htt, rfl, rfl, h.symm⟩
      | some field =>
        obtain ⟨fl, hitems, honce, ha⟩ := (parseFlags_iff _ _ _).mp h
        exact ⟨comps, ty, size, fl, hdot, hfit, htt, ⟨splitComma field, (splitComma_iff field _).mp rfl, hitems⟩, honce, ha⟩

/-- the attribute before its flags are applied -/
def AAttr.base (a : AAttr) : Attribute := { name := a.name, oid := a.oid.map Int.ofNat, typ := a.typ, size := a.size }

theorem parseAttribute_shown (cfg : Cfg) (m : List Bool) (a : AAttr) (h : a.ok = true) (flags : Option Bytes) :
    parseAttribute cfg a.name (showOID a.oid) (typeToken m a) flags =
      match flags with
      | none => .ok (AAttr.base a)
      | some fl => parseFlags (splitComma fl) (AAttr.base a) := by
  have hty := parseType_typeToken m a h
  simp only [AAttr.ok, Bool.and_eq_true, List.all_eq_true, decide_eq_true_eq] at h
  obtain ⟨⟨⟨⟨_, hne⟩, hoid⟩, _⟩, _⟩ := h
  exact parseAttribute_eq cfg (parseOID_showOID cfg a.oid (by intro h0; simp [h0] at hne) hoid) hty _ _

theorem parseAttribute_flags (cfg : Cfg) (m : List Bool) (a : AAttr) (rest : List Bytes) (h : a.ok = true)
    (hne : a.flags.map flagToken ++ rest ≠ []) (hcomma : ∀ t ∈ rest, t.all (· != 44) = true) :
    parseAttribute cfg a.name (showOID a.oid) (typeToken m a)
      (some (Spec.intercalate 44 (a.flags.map flagToken ++ rest))) = parseFlags rest a.toAttribute := by
  have hsplit := splitComma_intercalate (a.flags.map flagToken ++ rest) hne (by
    intro t ht
    rcases List.mem_append.mp ht with ht | ht
    · obtain ⟨x, _, rfl⟩ := List.mem_map.mp ht
      exact flagToken_noComma x
    · exact hcomma t ht)
  simp only [AAttr.ok, Bool.and_eq_true] at h
  rw [parseAttribute_shown cfg m a (by simp only [AAttr.ok, Bool.and_eq_true]; exact h)]
  simp only [hsplit]
  exact parseFlags_append (flagItems_flagToken a.flags _ h.2) rest _ h.2

theorem parseAttribute_tokens (cfg : Cfg) (m : List Bool) (a : AAttr) (h : a.ok = true) :
    parseAttribute cfg a.name (showOID a.oid) (typeToken m a)
      (if a.flags.isEmpty then none else some (Spec.intercalate 44 (a.flags.map flagToken))) = .ok a.toAttribute := by
  cases hf : a.flags with
  | nil => rw [parseAttribute_shown cfg m a h]; simp [AAttr.toAttribute, AAttr.base, hf]
  | cons f fs =>
    have := parseAttribute_flags cfg m a [] h (by simp [hf]) (by simp)
    simpa [hf, parseFlags] using this

theorem parseFlags_error (items : List Bytes) (a : Attribute) (e : ErrClass) : parseFlags items a = .error e →
    e = .duplicateAttributeFlag ∨ e = .unknownAttributeFlag ∨ e = .invalidAttributeEncryptType := by
  -- the cases follow the branches of `parseFlags` in the order of its text
  fun_induction parseFlags items a
  case case1 => exact fun h => nomatch h  -- no item left: `.ok`
  case case3 ih => exact ih  -- `encrypt=` accepted, loop goes on
  case case6 ih => exact ih  -- `has_tag` accepted
  case case8 ih => exact ih  -- `concat` accepted
  case case4 => exact fun h => Or.inr (Or.inr (Except.error.inj h).symm)  -- `encrypt=` with no int32
  case case9 => exact fun h => Or.inr (Or.inl (Except.error.inj h).symm)  -- none of the three flags
  -- cases 2, 5, 7: the flag is already set
  all_goals exact fun h => Or.inl (Except.error.inj h).symm

theorem parseAttribute_error (cfg : Cfg) (name oid typ : Bytes) (flags : Option Bytes) (e : ErrClass)
    (h : parseAttribute cfg name oid typ flags = .error e) :
    e = .invalidOID ∨ e = .unknownAttributeType ∨ e = .duplicateAttributeFlag ∨ e = .unknownAttributeFlag ∨
      e = .invalidAttributeEncryptType := by
  cases ho : parseOID cfg oid with
  | none => simp [parseAttribute, ho] at h; exact Or.inl h.symm
  | some o =>
    cases ht : parseType typ with
    | error e' =>
      simp only [parseAttribute, ho, ht, Except.error.injEq] at h
      exact Or.inr (Or.inl (h ▸ parseType_error typ _ ht))
    | ok p =>
      rw [parseAttribute_eq cfg ho ht] at h
      cases flags with
      | none => exact nomatch h
      | some field => exact Or.inr (Or.inr (parseFlags_error _ _ e h))

theorem vendorByNameOrNumber_none_iff (vs : List Vendor) (name : Bytes) (num : Int) :
    vendorByNameOrNumber vs name num = none ↔ ∀ w ∈ vs, w.name ≠ name ∧ w.number ≠ num := by
  simp [vendorByNameOrNumber, List.find?_eq_none]

theorem vendorByName_isSome_iff (vs : List Vendor) (n : Bytes) :
    (∃ v, vendorByName vs n = some v) ↔ ∃ w ∈ vs, w.name = n := by
  constructor
  · rintro ⟨v, hv⟩
    have h1 := List.mem_of_find?_eq_some hv
    have h2 := List.find?_some hv
    exact ⟨v, h1, by simpa using h2⟩
  · rintro ⟨w, hw, hn⟩
    cases h : vendorByName vs n with
    | some v => exact ⟨v, rfl⟩
    | none =>
      simp only [vendorByName, List.find?_eq_none] at h
      have := h w hw
      simp [hn] at this

/-- The six branches of `dispatch`, each as a function of the result of its argument parser, so that a lemma
    can speak of one branch.  They repeat the text of the branches in RV.Model.DictParser; the `dispatch_*_eq`
    lemmas below say so by `rfl` (so a change to `dispatch` that is not made here breaks them), and they are
    the only place where `dispatch` is unfolded. -/
def attrStep (ign : Bool) (file : Bytes) (lineNo : Nat) (vb : Option Bytes) (st : St) : Except ErrClass Attribute → Step
  | .error e => .fail (.decl e file lineNo) st
  | .ok a =>
    match attributeByName (scopeAttrs st.dict vb) a.name with
    | some existing => if ign && a == existing then .next vb st else .fail (.decl .duplicateAttribute file lineNo) st
    | none => .next vb { st with dict := addAttr st.dict a vb }

def valueStep (file : Bytes) (lineNo : Nat) (vb : Option Bytes) (st : St) : Except ErrClass Value → Step
  | .error e => .fail (.decl e file lineNo) st
  | .ok x => .next vb { st with dict := addValue st.dict x vb }

def vendorStep (file : Bytes) (lineNo : Nat) (vb : Option Bytes) (st : St) : Except ErrClass Vendor → Step
  | .error e => .fail (.decl e file lineNo) st
  | .ok v =>
    match vendorByNameOrNumber st.dict.vendors v.name v.number with
    | some _ => .fail (.decl .duplicateVendor file lineNo) st
    | none => .next vb { st with dict := { st.dict with vendors := st.dict.vendors ++ [v] } }

def beginStep (file : Bytes) (lineNo : Nat) (vb : Option Bytes) (st : St) (n : Bytes) : Step :=
  if vb.isSome then .fail (.decl .nestedVendorBlock file lineNo) st
  else match vendorByName st.dict.vendors n with
    | none => .fail (.decl .unknownVendor file lineNo) st
    | some _ => .next (some n) st

def endStep (file : Bytes) (lineNo : Nat) (vb : Option Bytes) (st : St) (n : Bytes) : Step :=
  match vb with
  | none => .fail (.decl .unmatchedEndVendor file lineNo) st
  | some v => if v != n then .fail (.decl .invalidEndVendor file lineNo) st else .next none st

def includeStep (inc : IncludeHandler) (file : Bytes) (lineNo : Nat) (vb : Option Bytes) (st : St) (n : Bytes) : Step :=
  if vb.isSome then .fail (.decl .beginVendorInclude file lineNo) st
  else Step.ofResult vb (inc n file lineNo st)

/-- the field counts and keywords the `switch` of `parse` lets through (parser.go 76-196) -/
def shapeOK (fields : List Bytes) : Bool :=
  let n := fields.length
  let kw := fields.headD []
  ((n == 4 || n == 5) && kw == kwATTRIBUTE) || (n == 4 && kw == kwVALUE) || ((n == 3 || n == 4) && kw == kwVENDOR) ||
  (n == 2 && (kw == kwBEGIN || kw == kwEND || kw == kwINCLUDE))

section dispatchEq
variable (cfg : Cfg) (ign : Bool) (inc : IncludeHandler) (file : Bytes) (lineNo : Nat) (vb : Option Bytes) (st : St)

theorem dispatch_attr_eq (name oid typ : Bytes) (flags : Option Bytes) :
    dispatch cfg ign inc file lineNo vb st ([kwATTRIBUTE, name, oid, typ] ++ flags.toList)
      = attrStep ign file lineNo vb st (parseAttribute cfg name oid typ flags) := by
  cases flags <;> rfl

theorem dispatch_value_eq (a n num : Bytes) :
    dispatch cfg ign inc file lineNo vb st [kwVALUE, a, n, num] = valueStep file lineNo vb st (parseValue a n num) := rfl

theorem dispatch_vendor_eq (name num : Bytes) (fmt : Option Bytes) :
    dispatch cfg ign inc file lineNo vb st ([kwVENDOR, name, num] ++ fmt.toList)
      = vendorStep file lineNo vb st (parseVendor cfg name num fmt) := by
  cases fmt <;> rfl

theorem dispatch_begin_eq (n : Bytes) :
    dispatch cfg ign inc file lineNo vb st [kwBEGIN, n] = beginStep file lineNo vb st n := rfl

theorem dispatch_end_eq (n : Bytes) :
    dispatch cfg ign inc file lineNo vb st [kwEND, n] = endStep file lineNo vb st n := rfl

theorem dispatch_include_eq (n : Bytes) :
    dispatch cfg ign inc file lineNo vb st [kwINCLUDE, n] = includeStep inc file lineNo vb st n := dispatch_include ..

/-- any other field count or keyword: UnknownLineError (the `default:` of the switch) -/
theorem dispatch_unknown (fields : List Bytes) (h : shapeOK fields = false) :
    dispatch cfg ign inc file lineNo vb st fields = .fail (.decl .unknownLine file lineNo) st := by
  simp only [shapeOK, Bool.or_eq_false_iff] at h
  obtain ⟨⟨⟨c1, c2⟩, c3⟩, h4⟩ := h
  have c4 : (fields.length == 2 && fields.headD [] == kwBEGIN) = false ∧
      (fields.length == 2 && fields.headD [] == kwEND) = false ∧
      (fields.length == 2 && fields.headD [] == kwINCLUDE) = false := by
    cases hn : (fields.length == 2) with
    | false => exact ⟨rfl, rfl, rfl⟩
    | true =>
      rw [hn] at h4
      simp only [Bool.true_and, Bool.or_eq_false_iff] at h4 ⊢
      exact ⟨h4.1.1, h4.1.2, h4.2⟩
  simp only [dispatch, c1, c2, c3, c4.1, c4.2.1, c4.2.2, Bool.false_eq_true, if_false]

theorem dispatch_shape (fields : List Bytes) :
    (∃ name oid typ flags, fields = [kwATTRIBUTE, name, oid, typ] ++ Option.toList flags) ∨
    (∃ a n num, fields = [kwVALUE, a, n, num]) ∨
    (∃ name num fmt, fields = [kwVENDOR, name, num] ++ Option.toList fmt) ∨
    (∃ n, fields = [kwBEGIN, n]) ∨ (∃ n, fields = [kwEND, n]) ∨ (∃ n, fields = [kwINCLUDE, n]) ∨
    shapeOK fields = false := by
  by_cases h : shapeOK fields = true
  · match fields, h with
    | [], h | [_], h | _ :: _ :: _ :: _ :: _ :: _ :: _, h => simp [shapeOK] at h
    | [kw, n], h =>
      simp only [shapeOK, List.length_cons, List.length_nil, List.headD_cons] at h
      simp at h
      rcases h with (rfl | rfl) | rfl
      · exact Or.inr (Or.inr (Or.inr (Or.inl ⟨n, rfl⟩)))
      · exact Or.inr (Or.inr (Or.inr (Or.inr (Or.inl ⟨n, rfl⟩))))
      · exact Or.inr (Or.inr (Or.inr (Or.inr (Or.inr (Or.inl ⟨n, rfl⟩)))))
    | [kw, a, b], h =>
      simp only [shapeOK, List.length_cons, List.length_nil, List.headD_cons] at h
      simp at h
      exact Or.inr (Or.inr (Or.inl ⟨a, b, none, by rw [h]; rfl⟩))
    | [kw, a, b, c], h =>
      simp only [shapeOK, List.length_cons, List.length_nil, List.headD_cons] at h
      simp at h
      rcases h with (rfl | rfl) | rfl
      · exact Or.inl ⟨a, b, c, none, rfl⟩
      · exact Or.inr (Or.inl ⟨a, b, c, rfl⟩)
      · exact Or.inr (Or.inr (Or.inl ⟨a, b, some c, rfl⟩))
    | [kw, a, b, c, d], h =>
      simp only [shapeOK, List.length_cons, List.length_nil, List.headD_cons] at h
      simp at h
      exact Or.inl ⟨a, b, c, some d, by rw [h]; rfl⟩
  · exact Or.inr (Or.inr (Or.inr (Or.inr (Or.inr (Or.inr (by simpa using h))))))

end dispatchEq

theorem shapeOK_include (n : Bytes) : shapeOK [kwINCLUDE, n] = true := by
  simp [shapeOK]

/-- L2.  The second alternative is the only way past a `$INCLUDE` line; `st'.log = st.log` in the first because
    only the include handler writes the log. -/
theorem dispatch_next_iff (cfg : Cfg) (h12 : cfg.formatLenChecked = true) (h13 : cfg.oidOverflowRejected = true)
    (ign : Bool) (inc : IncludeHandler) (file : Bytes) (lineNo : Nat) (vb : Option Bytes) (st : St)
    (fields : List Bytes) (vb' : Option Bytes) (st' : St) :
    dispatch cfg ign inc file lineNo vb st fields = .next vb' st' ↔
      (LineDecl ign (vb, st.dict) fields (vb', st'.dict) ∧ st'.log = st.log) ∨
      (∃ n, fields = [kwINCLUDE, n] ∧ vb = none ∧ vb' = none ∧ inc n file lineNo st = (none, st')) := by
  constructor
  · intro h
    rcases dispatch_shape fields with ⟨name, oid, typ, flags, rfl⟩ | ⟨a, n, num, rfl⟩ | ⟨name, num, fmt, rfl⟩ |
      ⟨n, rfl⟩ | ⟨n, rfl⟩ | ⟨n, rfl⟩ | hbad
    · rw [dispatch_attr_eq] at h
      cases hp : parseAttribute cfg name oid typ flags with
      | error e => simp [hp, attrStep] at h
      | ok a =>
        have hargs := (parseAttribute_iff cfg h13 name oid typ flags a).mp hp
        simp only [hp, attrStep] at h
        cases hex : attributeByName (scopeAttrs st.dict vb) a.name with
        | some existing =>
          simp only [hex] at h
          split at h
          · rename_i hc
            simp only [Bool.and_eq_true, beq_iff_eq] at hc
            cases h
            exact Or.inl ⟨LineDecl.attrAgain name oid typ flags a hargs hc.1 (by rw [hex, hc.2]), rfl⟩
          · cases h
        | none =>
          simp only [hex] at h
          cases h
          exact Or.inl ⟨LineDecl.attr name oid typ flags a hargs hex, rfl⟩
    · rw [dispatch_value_eq] at h
      cases hp : parseValue a n num with
      | error e => simp [hp, valueStep] at h
      | ok x =>
        simp only [hp, valueStep] at h
        cases h
        exact Or.inl ⟨LineDecl.value a n num x ((parseValue_iff a n num x).mp hp), rfl⟩
    · rw [dispatch_vendor_eq] at h
      cases hp : parseVendor cfg name num fmt with
      | error e => simp [hp, vendorStep] at h
      | ok v =>
        simp only [hp, vendorStep] at h
        cases hex : vendorByNameOrNumber st.dict.vendors v.name v.number with
        | some w => simp [hex] at h
        | none =>
          simp only [hex] at h
          cases h
          exact Or.inl ⟨LineDecl.vendor name num fmt v ((parseVendor_iff cfg h12 name num fmt v).mp hp)
            ((vendorByNameOrNumber_none_iff _ _ _).mp hex), rfl⟩
    · rw [dispatch_begin_eq] at h
      unfold beginStep at h
      cases vb with
      | some v => simp at h
      | none =>
        simp only [Option.isSome_none, Bool.false_eq_true, if_false] at h
        cases hv : vendorByName st.dict.vendors n with
        | none => simp [hv] at h
        | some w =>
          simp only [hv] at h
          cases h
          exact Or.inl ⟨LineDecl.beginVendor n ((vendorByName_isSome_iff _ _).mp ⟨w, hv⟩), rfl⟩
    · rw [dispatch_end_eq] at h
      unfold endStep at h
      cases vb with
      | none => simp at h
      | some v =>
        simp only at h
        split at h
        · cases h
        · rename_i hne
          have hv : v = n := by simpa using hne
          cases h
          exact Or.inl ⟨hv ▸ LineDecl.endVendor v, rfl⟩
    · rw [dispatch_include_eq] at h
      unfold includeStep at h
      cases vb with
      | some v => simp at h
      | none =>
        simp only [Option.isSome_none, Bool.false_eq_true, if_false] at h
        rcases hr : inc n file lineNo st with ⟨_ | e, st1⟩
        · rw [hr] at h
          cases h
          exact Or.inr ⟨n, rfl, rfl, rfl, hr⟩
        · rw [hr] at h
          cases h
    · rw [dispatch_unknown cfg ign inc file lineNo vb st fields hbad] at h
      cases h
  · rintro (⟨hl, hlog⟩ | ⟨n, rfl, rfl, rfl, hinc⟩)
    · obtain ⟨d, l⟩ := st
      obtain ⟨d', l'⟩ := st'
      simp only at hl hlog
      subst hlog
      cases hl with
      | attr name oid typ flags a hargs hnew =>
        rw [dispatch_attr_eq, (parseAttribute_iff cfg h13 name oid typ flags a).mpr hargs]
        simp only [attrStep, hnew]
      | attrAgain name oid typ flags a hargs hign hsame =>
        rw [dispatch_attr_eq, (parseAttribute_iff cfg h13 name oid typ flags a).mpr hargs]
        simp only [attrStep, hsame, hign, beq_self_eq_true, Bool.and_self, if_true]
      | value attr name num v hargs =>
        rw [dispatch_value_eq, (parseValue_iff attr name num v).mpr hargs]
        rfl
      | vendor name num fmt v hargs hnew =>
        rw [dispatch_vendor_eq, (parseVendor_iff cfg h12 name num fmt v).mpr hargs]
        simp only [vendorStep, (vendorByNameOrNumber_none_iff d.vendors v.name v.number).mpr hnew]
      | beginVendor n hex =>
        obtain ⟨w, hw⟩ := (vendorByName_isSome_iff d.vendors n).mpr hex
        simp only [dispatch_begin_eq, beginStep, Option.isSome_none, Bool.false_eq_true, if_false, hw]
      | endVendor n =>
        simp only [dispatch_end_eq, endStep, bne_self_eq_false, Bool.false_eq_true, if_false]
    · rw [dispatch_include_eq]
      simp [includeStep, hinc, Step.ofResult]

theorem dispatch_fail_of_not_decl (cfg : Cfg) (h12 : cfg.formatLenChecked = true) (h13 : cfg.oidOverflowRejected = true)
    (ign : Bool) (inc : IncludeHandler) (file : Bytes) (lineNo : Nat) (vb : Option Bytes) (st : St) (fields : List Bytes)
    (hno : ∀ s', ¬ LineDecl ign (vb, st.dict) fields s') (hinc : ∀ n, fields = [kwINCLUDE, n] → vb ≠ none) :
    ∃ c, dispatch cfg ign inc file lineNo vb st fields = .fail (.decl c file lineNo) st := by
  rcases dispatch_cases cfg ign inc file lineNo vb st fields with ⟨vb', st', hs, _⟩ | hc | ⟨n, hf, hv, _⟩
  · rcases (dispatch_next_iff cfg h12 h13 ign inc file lineNo vb st fields vb' st').mp hs with ⟨hl, _⟩ | ⟨n, hf, hv, _⟩
    · exact absurd hl (hno _)
    · exact absurd hv (hinc n hf)
  · exact hc
  · exact absurd hv (hinc n hf)


theorem stepLine_eq (cfg : Cfg) (h11 : cfg.skipNoFields = true) (ign : Bool) (inc : IncludeHandler) (file : Bytes)
    (lineNo : Nat) (vb : Option Bytes) (st : St) (raw : Bytes) :
    stepLine cfg ign inc file lineNo vb st raw =
      if (Lex.fields (Lex.stripComment raw)).isEmpty then .next vb st
      else dispatch cfg ign inc file lineNo vb st (Lex.fields (Lex.stripComment raw)) := by
  unfold stepLine
  cases hl : Lex.stripComment raw with
  | nil => simp [Lex.fields, Lex.fieldsAux, Lex.flush]
  | cons b rest => simp [h11]

/-- L3 on the line loop.  `hinc`: the include handler never succeeds — as in `Parse` on a single text, where the
    opener knows no file — so no `$INCLUDE` line passes and `LinesDecl` need not speak of them. -/
theorem parseLines_ok_iff (cfg : Cfg) (h11 : cfg.skipNoFields = true) (h12 : cfg.formatLenChecked = true)
    (h13 : cfg.oidOverflowRejected = true) (ign : Bool) (inc : IncludeHandler)
    (hinc : ∀ n f l s s', inc n f l s ≠ (none, s')) (file : Bytes) (tooLong : Bool) :
    ∀ (ls : List Bytes) (lineNo : Nat) (vb : Option Bytes) (st st' : St),
      parseLines cfg ign inc file tooLong ls lineNo vb st = (none, st') ↔
        tooLong = false ∧
        LinesDecl ign (vb, st.dict) (ls.map fun raw => Lex.fields (Lex.stripComment raw)) (none, st'.dict) ∧
        st'.log = st.log
  | [], lineNo, vb, ⟨d, l⟩, ⟨d', l'⟩ => by
    simp only [parseLines, List.map_nil]
    cases tooLong with
    | true => simp
    | false =>
      simp only [Bool.false_eq_true, if_false, true_and]
      cases vb with
      | some v =>
        constructor
        · intro h; cases h
        · rintro ⟨hl, _⟩; cases hl
      | none =>
        constructor
        · intro h
          cases h
          exact ⟨LinesDecl.nil, rfl⟩
        · rintro ⟨hl, hlog⟩
          cases hl
          cases hlog
          rfl
  | raw :: ls, lineNo, vb, ⟨d, l⟩, ⟨d', l'⟩ => by
    have ih := parseLines_ok_iff cfg h11 h12 h13 ign inc hinc file tooLong ls (lineNo + 1)
    simp only [parseLines, List.map_cons, stepLine_eq cfg h11]
    by_cases hf : (Lex.fields (Lex.stripComment raw)).isEmpty = true
    · have hnil : Lex.fields (Lex.stripComment raw) = [] := by simpa using hf
      rw [hnil]
      simp only [List.isEmpty_nil, if_true]
      rw [ih vb ⟨d, l⟩ ⟨d', l'⟩]
      constructor
      · rintro ⟨h1, h2, h3⟩
        exact ⟨h1, LinesDecl.blank h2, h3⟩
      · rintro ⟨h1, h2, h3⟩
        refine ⟨h1, ?_, h3⟩
        cases h2 with
        | blank h => exact h
        | line hl _ => cases hl
    · simp only [hf, Bool.false_eq_true, if_false]
      generalize Lex.fields (Lex.stripComment raw) = fields at hf ⊢
      constructor
      · intro h
        cases hs : dispatch cfg ign inc file lineNo vb ⟨d, l⟩ fields with
        | fail e st1 => rw [hs] at h; cases h
        | next vb1 st1 =>
          rw [hs] at h
          obtain ⟨h1, h2, h3⟩ := (ih vb1 st1 ⟨d', l'⟩).mp h
          rcases (dispatch_next_iff cfg h12 h13 ign inc file lineNo vb ⟨d, l⟩ fields vb1 st1).mp hs with
            ⟨hl, hlog⟩ | ⟨n, _, _, _, hi⟩
          · exact ⟨h1, LinesDecl.line hl h2, h3.trans hlog⟩
          · exact absurd hi (hinc _ _ _ _ _)
      · rintro ⟨h1, h2, h3⟩
        cases h2 with
        | blank h => simp at hf
        | @line _ _ s1 _ _ hl hrest =>
          obtain ⟨vb1, d1⟩ := s1
          rw [(dispatch_next_iff cfg h12 h13 ign inc file lineNo vb ⟨d, l⟩ fields vb1 ⟨d1, l⟩).mpr (Or.inl ⟨hl, rfl⟩)]
          exact (ih vb1 ⟨d1, l⟩ ⟨d', l'⟩).mpr ⟨h1, hrest, h3⟩

/-- `Parse` on a single text is the line loop with an include handler that always fails (the opener knows no file) -/
theorem parseText_eq_noinc (cfg : Cfg) (ign : Bool) (text : Bytes) :
    ∃ inc : IncludeHandler, (∀ n f l s s', inc n f l s ≠ (none, s')) ∧
      parseText cfg ign text = parseBody cfg ign inc [] text {} := by
  have hfail : ∀ (onPath : Bytes → Bool)
      (recur : (name t : Bytes) → FS.lookup [] name = some t → onPath name = false → St → Result) n f l s s',
      includeWith [] onPath recur n f l s ≠ (none, s') := by
    intro onPath recur n f l s s'
    rw [includeWith_none [] onPath recur n f l s rfl]
    simp
  unfold parseText parseRoot
  cases cfg.includePath with
  | true =>
    simp only [if_true]
    rw [parseFileFix]; exact ⟨_, hfail _ _, rfl⟩
  | false =>
    -- `depthCap` written as a successor, so that the equation of `parseFileCur` for `fuel + 1` applies
    have : depthCap = 199 + 1 := rfl
    simp only [Bool.false_eq_true, if_false]
    rw [this, parseFileCur]; exact ⟨_, hfail _ _, rfl⟩

theorem parseText_ok_iff (cfg : Cfg) (h11 : cfg.skipNoFields = true) (h12 : cfg.formatLenChecked = true)
    (h13 : cfg.oidOverflowRejected = true) (ign : Bool) (text : Bytes) (st : St) :
    parseText cfg ign text = (none, st) ↔ Accepts ign text st.dict ∧ st.log = [] := by
  obtain ⟨inc, hinc, heq⟩ := parseText_eq_noinc cfg ign text
  rw [heq]
  unfold parseBody Accepts fieldLines
  rw [parseLines_ok_iff cfg h11 h12 h13 ign inc hinc [] (Lex.lines text).2 (Lex.lines text).1 1 none {} st]
  constructor
  · rintro ⟨h1, h2, h3⟩; exact ⟨⟨h1, h2⟩, h3⟩
  · rintro ⟨⟨h1, h2⟩, h3⟩; exact ⟨h1, h2, h3⟩


def vkey (v : Vendor) : Bytes × Int := (v.name, v.number)

theorem modifyVendor_keys (n : Bytes) (f : Vendor → Vendor) (hf : ∀ v, vkey (f v) = vkey v) (vs : List Vendor) :
    (modifyVendor n f vs).map vkey = vs.map vkey := by
  induction vs with
  | nil => rfl
  | cons v vs ih =>
    simp only [modifyVendor]
    split
    · simp [hf]
    · simp [ih]

/-- `d'` extends `d`: the top-level attribute and value lists by appending, the vendor list by
    appending vendors (the names and numbers of the vendors already there do not change) -/
def Extends (d d' : Dictionary) : Prop :=
  (∃ m, d'.attributes = d.attributes ++ m) ∧ (∃ m, d'.values = d.values ++ m) ∧
  (∃ m, d'.vendors.map vkey = d.vendors.map vkey ++ m)

theorem Extends.refl (d : Dictionary) : Extends d d := ⟨⟨[], by simp⟩, ⟨[], by simp⟩, ⟨[], by simp⟩⟩

theorem Extends.trans {a b c : Dictionary} (h1 : Extends a b) (h2 : Extends b c) : Extends a c := by
  obtain ⟨⟨m1, e1⟩, ⟨m2, e2⟩, ⟨m3, e3⟩⟩ := h1
  obtain ⟨⟨n1, f1⟩, ⟨n2, f2⟩, ⟨n3, f3⟩⟩ := h2
  exact ⟨⟨m1 ++ n1, by rw [f1, e1, List.append_assoc]⟩, ⟨m2 ++ n2, by rw [f2, e2, List.append_assoc]⟩,
    ⟨m3 ++ n3, by rw [f3, e3, List.append_assoc]⟩⟩

theorem addAttr_extends (d : Dictionary) (a : Attribute) (vb : Option Bytes) : Extends d (addAttr d a vb) := by
  cases vb with
  | none => exact ⟨⟨[a], rfl⟩, ⟨[], by simp [addAttr]⟩, ⟨[], by simp [addAttr]⟩⟩
  | some v =>
    refine ⟨⟨[], by simp [addAttr]⟩, ⟨[], by simp [addAttr]⟩, ⟨[], ?_⟩⟩
    simp only [addAttr, List.append_nil]
    apply modifyVendor_keys
    intro _; rfl

theorem addValue_extends (d : Dictionary) (x : Value) (vb : Option Bytes) : Extends d (addValue d x vb) := by
  cases vb with
  | none => exact ⟨⟨[], by simp [addValue]⟩, ⟨[x], rfl⟩, ⟨[], by simp [addValue]⟩⟩
  | some v =>
    refine ⟨⟨[], by simp [addValue]⟩, ⟨[], by simp [addValue]⟩, ⟨[], ?_⟩⟩
    simp only [addValue, List.append_nil]
    apply modifyVendor_keys
    intro _; rfl

theorem lineDecl_extends {ign : Bool} {s s' : LState} {fields : List Bytes} (h : LineDecl ign s fields s') :
    Extends s.2 s'.2 := by
  cases h with
  | attr name oid typ flags a _ _ => exact addAttr_extends _ _ _
  | attrAgain => exact Extends.refl _
  | value attr name num v _ => exact addValue_extends _ _ _
  | vendor name num fmt v _ _ => exact ⟨⟨[], by simp⟩, ⟨[], by simp⟩, ⟨[vkey v], by simp⟩⟩
  | beginVendor => exact Extends.refl _
  | endVendor => exact Extends.refl _

theorem linesDecl_extends {ign : Bool} {s s' : LState} {lines : List (List Bytes)} (h : LinesDecl ign s lines s') :
    Extends s.2 s'.2 := by
  induction h with
  | nil => exact Extends.refl _
  | blank _ ih => exact ih
  | line hl _ ih => exact Extends.trans (lineDecl_extends hl) ih

end RV.DictParser
