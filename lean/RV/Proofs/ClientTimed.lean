/-
  Proofs about the timed refinement of the Exchange machine (Model/ClientTimed.lean): the refinement
  itself, the invariant of well-timed runs, and the bounds on WHEN retransmissions happen.
  The headline statements are restated in Props/C08.lean.
-/
import RV.Model.ClientTimed
import RV.Proofs.Client
namespace RV.Exchange.Timed
open RV RV.Client RV.Exchange

variable (H : Hash) (P : Params)

theorem step_isReturned (s : State) (e : Event) (h : isReturned s = true) :
    isReturned (step H P s e) = true :=
  run_isReturned H P s [e] h

theorem trun_nil (s : TState) : trun H P s [] = s := rfl
theorem trun_cons (s : TState) (te : TEvent) (evs : List TEvent) :
    trun H P s (te :: evs) = trun H P (tstep H P s te) evs := rfl
theorem trun_append (s : TState) (a b : List TEvent) :
    trun H P s (a ++ b) = trun H P (trun H P s a) b := by
  simp [trun, List.foldl_append]

theorem tstep_logic_fire (s : TState) (t k : Nat) : (tstep H P s (t, .fire k)).logic = s.logic := rfl
theorem tstep_logic_ev (s : TState) (t : Nat) (e : Event) :
    (tstep H P s (t, .ev e)).logic = step H P s.logic e := rfl
theorem tstep_now (s : TState) (te : TEvent) : (tstep H P s te).now = te.1 := by
  rcases te with ⟨t, x⟩
  cases x <;> rfl

theorem timed_refines_from (s : TState) (evs : List TEvent) :
    (trun H P s evs).logic = run H P s.logic (erase evs) := by
  induction evs generalizing s with
  | nil => rfl
  | cons te es ih => rcases te with ⟨t, k | e⟩ <;> exact ih _

theorem timed_refines (evs : List TEvent) :
    (treach H P evs).logic = reach H P (erase evs) :=
  timed_refines_from H P (tinit P) evs

theorem tstep_len (s : TState) (te : TEvent) (h : s.writes.length = s.logic.sent.length) :
    (tstep H P s te).writes.length = (tstep H P s te).logic.sent.length := by
  rcases te with ⟨t, k | e⟩
  · exact h
  · rcases step_sent H P s.logic e with h1 | h1 <;> simp [tstep, h1, h]

theorem writes_parallel_sent (evs : List TEvent) :
    (treach H P evs).writes.length = (treach H P evs).logic.sent.length := by
  suffices h : ∀ s : TState, s.writes.length = s.logic.sent.length →
      (trun H P s evs).writes.length = (trun H P s evs).logic.sent.length from
    h (tinit P) (by simp [tinit, init_sent])
  induction evs with
  | nil => exact fun s hs => hs
  | cons te es ih => exact fun s hs => ih _ (tstep_len H P s te hs)

/-- `Ticker.deliver` without the case distinction: what ends up in the channel is what was there, or `k` -/
theorem Ticker.deliver_eq (tk : Ticker) (k : Nat) :
    tk.deliver k = { tk with next := k + 1, chan := some (tk.chan.getD k),
                             lost := tk.lost + (k - tk.next) + if tk.chan.isSome then 1 else 0 } := by
  rcases tk with ⟨n, c, t, l⟩
  cases c <;> rfl

theorem tstep_fire (s : TState) (t k : Nat) :
    tstep H P s (t, .fire k) = { s with now := t, ticker := s.ticker.map (fun tk => tk.deliver k) } := rfl

theorem tstep_dial (s : TState) (t : Nat) (hd : s.logic.phase = .dialing) :
    tstep H P s (t, .ev .dialOk) =
      { logic := step H P s.logic .dialOk, now := t, t0 := t,
        ticker := if P.retry > 0 then some Ticker.fresh else none,
        writes := s.writes ++ [(t, 0)] } := by
  simp [tstep, hd, step_sent_eq]

theorem tstep_tick (s : TState) (t : Nat) (tk : Ticker) (k : Nat) (htk : s.ticker = some tk)
    (hk : tk.chan = some k) (hr : P.retry > 0) (hal : s.logic.helperAlive = true) :
    tstep H P s (t, .ev .tick) =
      { logic := step H P s.logic .tick, now := t, t0 := s.t0,
        ticker := some { tk with chan := none, taken := tk.taken + 1 },
        writes := if s.logic.phase = .waiting then s.writes ++ [(t, k)] else s.writes } := by
  by_cases hc : s.logic.phase = .waiting <;>
    simp [tstep, step_sent_eq, pendingIdx, Ticker.take, htk, hk, hr, hal, hc]

theorem tstep_other (s : TState) (t : Nat) (e : Event)
    (hd : ¬(e = .dialOk ∧ s.logic.phase = .dialing)) (ht : e ≠ .tick) :
    tstep H P s (t, .ev e) = { s with logic := step H P s.logic e, now := t } := by
  simp [tstep, step_sent_eq, hd, ht]

theorem enabled_no_ticker (s : TState) (te : TEvent) (hn : s.ticker = none) (he : enabled P s te = true) :
    te.2 ≠ .ev .tick ∧ ∀ k, te.2 ≠ .fire k := by
  rcases te with ⟨t, x⟩
  constructor
  · rintro rfl
    simp [enabled, hn] at he
  · rintro k rfl
    simp [enabled, hn] at he

theorem enabled_fire (s : TState) (t k : Nat) (he : enabled P s (t, .fire k) = true) :
    ∃ tk, s.ticker = some tk ∧ tk.next ≤ k ∧ s.t0 + k * period P ≤ t := by
  cases htk : s.ticker with
  | none => exact absurd rfl ((enabled_no_ticker P s _ htk he).2 k)
  | some tk =>
    simp only [enabled, htk, Bool.and_eq_true, decide_eq_true_eq] at he
    exact ⟨tk, rfl, he.2.1.2, he.2.2⟩

theorem enabled_tick (s : TState) (t : Nat) (he : enabled P s (t, .ev .tick) = true) :
    ∃ tk k, s.ticker = some tk ∧ tk.chan = some k ∧ s.logic.helperAlive = true := by
  cases htk : s.ticker with
  | none => exact absurd rfl (enabled_no_ticker P s _ htk he).1
  | some tk =>
    simp only [enabled, htk, Bool.and_eq_true] at he
    obtain ⟨k, hk⟩ := Option.isSome_iff_exists.1 he.2.1
    exact ⟨tk, k, rfl, hk, he.2.2⟩

structure TickInv (s : TState) (tk : Ticker) : Prop where
  retry_pos : P.retry > 0
  next_pos : 1 ≤ tk.next
  /-- every firing delivered so far was due by now -/
  delivered_due : s.t0 + (tk.next - 1) * period P ≤ s.now
  writes_lt : ∀ w ∈ s.writes, w.2 < tk.next
  chan_ok : ∀ k, tk.chan = some k → 1 ≤ k ∧ k < tk.next ∧ ∀ w ∈ s.writes, w.2 < k
  /-- conservation: every firing number below `next` was received, lost, or waits in the channel -/
  conserve : tk.taken + tk.lost + (if tk.chan.isSome then 1 else 0) + 1 = tk.next
  writes_le_taken : s.writes.length ≤ tk.taken + 1
  writes_pos : 1 ≤ s.writes.length

structure TInv (s : TState) : Prop where
  len : s.writes.length = s.logic.sent.length
  t0_le : s.t0 ≤ s.now
  times_le : ∀ w ∈ s.writes, w.1 ≤ s.now
  /-- no write before the firing that caused it was due -/
  due_le : ∀ w ∈ s.writes, s.t0 + w.2 * period P ≤ w.1
  /-- successive writes are caused by firings with increasing numbers -/
  incr : s.writes.Pairwise (fun a b => a.2 < b.2)
  sorted : s.writes.Pairwise (fun a b => a.1 ≤ b.1)
  dialing : s.logic.phase = .dialing → s.ticker = none ∧ s.writes = []
  first : ∀ w, s.writes.head? = some w → w = (s.t0, 0)
  no_ticker : s.ticker = none → s.writes.length ≤ 1
  waiting_ticker : s.logic.phase = .waiting → P.retry > 0 → s.ticker ≠ none
  tick : ∀ tk, s.ticker = some tk → TickInv P s tk

theorem tinv_init : TInv P (tinit P) := by
  constructor <;> simp [tinit, init_sent]
  exact fun hw => absurd hw (init_phase_ne_waiting P)

/-- the invariant mentions `now` only as an upper bound -/
theorem tinv_later (s : TState) (t : Nat) (h : TInv P s) (ht : s.now ≤ t) : TInv P { s with now := t } :=
  { h with
    t0_le := Nat.le_trans h.t0_le ht
    times_le := fun w hw => Nat.le_trans (h.times_le w hw) ht
    tick := fun tk htk =>
      { h.tick tk htk with delivered_due := Nat.le_trans (h.tick tk htk).delivered_due ht } }

theorem forall_mem_snoc {α} {p : α → Prop} {l : List α} {x : α} (hl : ∀ w ∈ l, p w) (hx : p x) :
    ∀ w ∈ l ++ [x], p w :=
  List.forall_mem_append.2 ⟨hl, fun _ hw => List.mem_singleton.1 hw ▸ hx⟩

theorem pairwise_snoc {α} {r : α → α → Prop} {l : List α} {x : α} (hl : l.Pairwise r)
    (hx : ∀ a ∈ l, r a x) : (l ++ [x]).Pairwise r :=
  List.pairwise_append.2 ⟨hl, List.pairwise_singleton r x, fun a ha _ hb => List.mem_singleton.1 hb ▸ hx a ha⟩

/-- Time passes (`tinv_later`), then the event happens at the current instant; a field that is not
    listed in a case is untouched by that event. -/
theorem tinv_step (s : TState) (te : TEvent) (h : TInv P s) (he : enabled P s te = true) :
    TInv P (tstep H P s te) := by
  have hlen := tstep_len H P s te h.len
  rcases te with ⟨t, x⟩
  replace h := tinv_later P s t h (by
    simp only [enabled, Bool.and_eq_true, decide_eq_true_eq] at he
    exact he.1)
  cases x with
  | fire k =>
    obtain ⟨tk, htk, hk, hdue⟩ := enabled_fire P s t k he
    have ti := h.tick tk htk
    rw [tstep_fire, htk, Option.map_some, Ticker.deliver_eq]
    have hcons := ti.conserve
    exact { h with
      dialing := fun hp => nomatch (h.dialing hp).1.symm.trans htk
      no_ticker := fun hn => nomatch hn
      waiting_ticker := fun _ _ hn => nomatch hn
      tick := fun tk' htk' => by
        cases htk'
        exact { ti with
          next_pos := Nat.succ_pos k
          delivered_due := hdue
          writes_lt := fun w hw => Nat.lt_succ_of_le (Nat.le_trans (Nat.le_of_lt (ti.writes_lt w hw)) hk)
          chan_ok := fun k' hk' => by
            cases hk'
            cases hc : tk.chan with
            | none =>
              exact ⟨Nat.le_trans ti.next_pos hk, Nat.lt_succ_self k,
                fun w hw => Nat.lt_of_lt_of_le (ti.writes_lt w hw) hk⟩
            | some k0 =>
              obtain ⟨c1, c2, c3⟩ := ti.chan_ok k0 hc
              exact ⟨c1, Nat.lt_succ_of_le (Nat.le_trans (Nat.le_of_lt c2) hk), c3⟩
          conserve := by
            simp only [Option.isSome_some, if_true]
            omega } }
  | ev e =>
    by_cases hd : e = .dialOk ∧ s.logic.phase = .dialing
    · obtain ⟨rfl, hph⟩ := hd
      rw [tstep_dial H P s _ hph, (h.dialing hph).2] at hlen ⊢
      have hnd := step_dial_leaves_dialing H P s.logic .dialOk (Or.inl rfl)
      -- the state is explicit: the fields are evaluated; `len` and the fresh ticker remain
      constructor <;> simp [hnd]
      case len => simpa using hlen
      case tick =>
        intro hr
        constructor <;> simp [Ticker.fresh, hr]
    · by_cases ht : e = .tick
      · subst ht
        obtain ⟨tk, k, htk, hk, hal⟩ := enabled_tick P s t he
        have ti := h.tick tk htk
        obtain ⟨c1, c2, c3⟩ := ti.chan_ok k hk
        have hnd : s.logic.phase ≠ .dialing := fun hp => nomatch (h.dialing hp).1.symm.trans htk
        have hcons : tk.taken + 1 + tk.lost + 0 + 1 = tk.next := by
          have := ti.conserve
          simp only [hk, Option.isSome_some, if_true] at this
          omega
        -- the firing received was due by now, since every delivered firing was
        have hdk : s.t0 + k * period P ≤ t :=
          Nat.le_trans (Nat.add_le_add_left (Nat.mul_le_mul_right _ (Nat.le_sub_one_of_lt c2)) _)
            ti.delivered_due
        have hwl := ti.writes_le_taken
        rw [tstep_tick H P s _ tk k htk hk ti.retry_pos hal] at hlen ⊢
        by_cases hc : s.logic.phase = .waiting
        · rw [if_pos hc] at hlen ⊢
          obtain ⟨a, as, hws⟩ := List.exists_cons_of_length_pos ti.writes_pos
          exact {
            len := hlen
            t0_le := h.t0_le
            times_le := forall_mem_snoc h.times_le (Nat.le_refl _)
            due_le := forall_mem_snoc h.due_le hdk
            incr := pairwise_snoc h.incr c3
            sorted := pairwise_snoc h.sorted h.times_le
            dialing := fun hp => absurd hp (step_phase_ne_dialing H P s.logic .tick hnd)
            first := fun w hw => h.first w (by rw [hws] at hw ⊢; exact hw)
            no_ticker := fun hn => nomatch hn
            waiting_ticker := fun _ _ hn => nomatch hn
            tick := fun tk' htk' => by
              cases htk'
              exact { ti with
                writes_lt := forall_mem_snoc ti.writes_lt c2
                chan_ok := fun _ hn => nomatch hn
                conserve := hcons
                writes_le_taken := by simpa using hwl
                writes_pos := by simp } }
        · rw [if_neg hc] at hlen ⊢
          exact { h with
            len := hlen
            dialing := fun hp => absurd hp (step_phase_ne_dialing H P s.logic .tick hnd)
            no_ticker := fun hn => nomatch hn
            waiting_ticker := fun _ _ hn => nomatch hn
            tick := fun tk' htk' => by
              cases htk'
              exact { ti with
                chan_ok := fun _ hn => nomatch hn
                conserve := hcons
                writes_le_taken := Nat.le_succ_of_le hwl } }
      · rw [tstep_other H P s _ e hd ht] at hlen ⊢
        exact { h with
          len := hlen
          dialing := fun hp => h.dialing
            (Decidable.of_not_not fun hn => step_phase_ne_dialing H P s.logic e hn hp)
          waiting_ticker := fun hp hr => ((step_dial_only H P s.logic e).1 hp).elim
            (fun hw => h.waiting_ticker hw hr) (fun hdl => absurd hdl hd)
          tick := fun tk htk => { h.tick tk htk with } }

theorem tinv_run_from (s : TState) (evs : List TEvent) (h : TInv P s)
    (hw : wellTimedFrom H P s evs = true) : TInv P (trun H P s evs) := by
  induction evs generalizing s with
  | nil => exact h
  | cons te es ih =>
    simp only [wellTimedFrom, Bool.and_eq_true] at hw
    exact ih (tstep H P s te) (tinv_step H P s te h hw.1) hw.2

theorem tinv_reach (evs : List TEvent) (hw : wellTimed H P evs = true) : TInv P (treach H P evs) :=
  tinv_run_from H P (tinit P) evs (tinv_init P) hw

theorem wellTimedFrom_append (s : TState) (a b : List TEvent) :
    wellTimedFrom H P s (a ++ b) = (wellTimedFrom H P s a && wellTimedFrom H P (trun H P s a) b) := by
  induction a generalizing s with
  | nil => simp [wellTimedFrom, trun]
  | cons te es ih => simp [wellTimedFrom, trun_cons, ih, Bool.and_assoc]

theorem wellTimed_split (a b : List TEvent) (te : TEvent) (h : wellTimed H P (a ++ te :: b) = true) :
    wellTimed H P a = true ∧ enabled P (treach H P a) te = true := by
  unfold wellTimed at h
  simp only [wellTimedFrom_append, wellTimedFrom, Bool.and_eq_true] at h
  exact ⟨h.1, h.2.1⟩

theorem snd_ge_index (l : List (Nat × Nat)) (hp : l.Pairwise (fun a b => a.2 < b.2))
    (i : Nat) (h : i < l.length) : i ≤ (l[i]).2 := by
  induction i with
  | zero => exact Nat.zero_le _
  | succ j ih =>
    exact Nat.lt_of_le_of_lt (ih (Nat.lt_of_succ_lt h))
      (List.pairwise_iff_getElem.1 hp j (j + 1) _ h (Nat.lt_succ_self j))

/-- never early, for ANY subsequence of the writes: its i-th member was caused by a firing with number
    at least `i`, and no write precedes the due time of its firing -/
theorem tinv_not_early (s : TState) (h : TInv P s) (ws : List (Nat × Nat)) (hsub : ws.Sublist s.writes)
    (i : Nat) (hi : i < ws.length) : s.t0 + i * period P ≤ (ws[i]).1 :=
  Nat.le_trans
    (Nat.add_le_add_left (Nat.mul_le_mul_right _ (snd_ge_index ws (h.incr.sublist hsub) i hi)) _)
    (h.due_le _ (hsub.subset (List.getElem_mem hi)))

theorem resend_not_early (evs : List TEvent) (hw : wellTimed H P evs = true)
    (i : Nat) (h : i < (treach H P evs).writes.length) :
    (treach H P evs).t0 + i * period P ≤ ((treach H P evs).writes[i]).1 :=
  tinv_not_early P _ (tinv_reach H P evs hw) _ (List.Sublist.refl _) i h

theorem period_pos (hr : P.retry > 0) : 0 < period P := by
  unfold period
  omega

theorem period_zero (hr : P.retry ≤ 0) : period P = 0 := by
  unfold period
  omega

theorem tinv_no_ticker (s : TState) (h : TInv P s) (hr : P.retry ≤ 0) : s.ticker = none := by
  cases htk : s.ticker with
  | none => rfl
  | some tk => exact absurd (h.tick tk htk).retry_pos (by omega)

/-- with `Retry ≤ 0`, `d = 0` and `x / 0 = 0`: then there is at most the first write -/
theorem tinv_index_le (s : TState) (h : TInv P s) (ws : List (Nat × Nat)) (hsub : ws.Sublist s.writes)
    (T i : Nat) (hi : i < ws.length) (hT : (ws[i]).1 ≤ T) : i ≤ (T - s.t0) / period P := by
  by_cases hr : P.retry > 0
  · have h1 := tinv_not_early P s h ws hsub i hi
    rw [Nat.le_div_iff_mul_le (period_pos P hr)]
    omega
  · have h1 := h.no_ticker (tinv_no_ticker P s h (by omega))
    have h2 := hsub.length_le
    exact Nat.le_trans (by omega : i ≤ 0) (Nat.zero_le _)

theorem tinv_length_le (s : TState) (h : TInv P s) (ws : List (Nat × Nat)) (hsub : ws.Sublist s.writes)
    (T : Nat) (hT : ∀ w ∈ ws, w.1 ≤ T) : ws.length ≤ 1 + (T - s.t0) / period P := by
  cases hl : ws.length with
  | zero => exact Nat.zero_le _
  | succ n =>
    have hn : n < ws.length := by omega
    have := tinv_index_le P s h ws hsub T n hn (hT _ (List.getElem_mem hn))
    omega

theorem resend_index_le (evs : List TEvent) (hw : wellTimed H P evs = true) (T i : Nat)
    (h : i < (treach H P evs).writes.length) (hT : ((treach H P evs).writes[i]).1 ≤ T) :
    i ≤ (T - (treach H P evs).t0) / period P :=
  tinv_index_le P _ (tinv_reach H P evs hw) _ (List.Sublist.refl _) T i h hT

theorem resend_count_le (evs : List TEvent) (hw : wellTimed H P evs = true) (T : Nat) :
    (treach H P evs).writes.countP (fun w => decide (w.1 ≤ T)) ≤ 1 + (T - (treach H P evs).t0) / period P := by
  rw [List.countP_eq_length_filter]
  exact tinv_length_le P _ (tinv_reach H P evs hw) _ List.filter_sublist T
    (fun w hw => of_decide_eq_true (List.mem_filter.1 hw).2)

theorem sent_length_le (evs : List TEvent) (hw : wellTimed H P evs = true) (T : Nat)
    (hT : (treach H P evs).now ≤ T) :
    (treach H P evs).logic.sent.length ≤ 1 + (T - (treach H P evs).t0) / period P :=
  writes_parallel_sent H P evs ▸ tinv_length_le P _ (tinv_reach H P evs hw) _ (List.Sublist.refl _) T
    (fun w hm => Nat.le_trans ((tinv_reach H P evs hw).times_le w hm) hT)

theorem resend_spacing_or_late (evs : List TEvent) (hw : wellTimed H P evs = true)
    (i : Nat) (h : i + 1 < (treach H P evs).writes.length) :
    let s := treach H P evs
    let a := s.writes[i]
    let b := s.writes[i + 1]
    a.2 < b.2 ∧ a.1 ≤ b.1 ∧ due P s a.2 ≤ a.1 ∧ due P s a.2 + period P ≤ b.1 ∧
      a.1 + period P ≤ b.1 + (a.1 - due P s a.2) := by
  intro s a b
  have inv := tinv_reach H P evs hw
  have h1 : a.2 < b.2 := (List.pairwise_iff_getElem.1 inv.incr) i (i + 1) (by omega) h (by omega)
  have h2 : a.1 ≤ b.1 := (List.pairwise_iff_getElem.1 inv.sorted) i (i + 1) (by omega) h (by omega)
  have h3 : s.t0 + a.2 * period P ≤ a.1 := inv.due_le a (List.getElem_mem _)
  have h4 : s.t0 + b.2 * period P ≤ b.1 := inv.due_le b (List.getElem_mem _)
  have h5 : (a.2 + 1) * period P ≤ b.2 * period P := Nat.mul_le_mul_right _ h1
  rw [Nat.add_mul] at h5
  unfold due
  refine ⟨h1, h2, h3, ?_, ?_⟩ <;> omega

theorem no_resend_without_retry_timed (hr : P.retry ≤ 0) (evs : List TEvent) (hw : wellTimed H P evs = true) :
    (treach H P evs).ticker = none ∧
    (∀ t k, enabled P (treach H P evs) (t, .fire k) = false) ∧
    (∀ t, enabled P (treach H P evs) (t, .ev .tick) = false) ∧
    (∀ te, te ∈ evs → te.2 ≠ .ev .tick ∧ ∀ k, te.2 ≠ .fire k) ∧
    (treach H P evs).logic.sent.length ≤ 1 := by
  have hnone := fun evs' hw' => tinv_no_ticker P _ (tinv_reach H P evs' hw') hr
  have hn := hnone evs hw
  refine ⟨hn, fun t k => Bool.eq_false_iff.2 fun he => (enabled_no_ticker P _ _ hn he).2 k rfl,
    fun t => Bool.eq_false_iff.2 fun he => (enabled_no_ticker P _ _ hn he).1 rfl, ?_,
    timed_refines H P evs ▸ (inv_run H P (erase evs)).no_retry_one hr⟩
  intro te hte
  obtain ⟨a, b, rfl⟩ := List.append_of_mem hte
  obtain ⟨hwa, hen⟩ := wellTimed_split H P a b te hw
  exact enabled_no_ticker P _ te (hnone a hwa) hen

/-- while the call waits and its helper runs: nothing was lost, every receive caused a write, and what
    waits in the channel is the latest firing -/
def Prompt (s : TState) : Prop :=
  s.logic.phase = .waiting → s.logic.helperAlive = true → ∀ tk, s.ticker = some tk →
    tk.lost = 0 ∧ s.writes.length = tk.taken + 1 ∧ ∀ k, tk.chan = some k → k + 1 = tk.next

theorem prompt_step (L : Nat) (hL : L < period P) (s : TState) (te : TEvent) (h : TInv P s)
    (hj : Prompt s) (he : enabled P s te = true) (ho : onTime P L s te.1 = true)
    (hs : noSkip s te = true) : Prompt (tstep H P s te) := by
  rcases te with ⟨t, k | e⟩
  · obtain ⟨tk, htk, -, hdue⟩ := enabled_fire P s t k he
    intro hp ha tk' htk'
    rw [tstep_fire, htk, Option.map_some, Ticker.deliver_eq] at htk'
    cases htk'
    obtain ⟨j1, j2, j3⟩ := hj hp ha tk htk
    simp only [noSkip, htk, decide_eq_true_eq] at hs
    -- the channel is empty: a tick waiting in it would be firing `k - 1`, overdue by a whole interval
    have hc : tk.chan = none := by
      cases hc : tk.chan with
      | none => rfl
      | some k0 =>
        simp only [onTime, htk, hc, Bool.and_eq_true, decide_eq_true_eq] at ho
        have h0 : t ≤ s.t0 + k0 * period P + L := ho.2
        rw [hs, ← j3 k0 hc, Nat.add_mul] at hdue
        omega
    exact ⟨by simp [hc, hs, j1], j2, fun k' hk' => by rw [hc] at hk'; cases hk'; rfl⟩
  · by_cases hd : e = .dialOk ∧ s.logic.phase = .dialing
    · obtain ⟨rfl, hph⟩ := hd
      rw [tstep_dial H P s t hph, (h.dialing hph).2]
      intro _ _ tk htk
      split at htk
      · cases htk
        simp [Ticker.fresh]
      · cases htk
    · intro hp ha
      have hpw : s.logic.phase = .waiting := ((step_dial_only H P s.logic e).1 hp).resolve_right hd
      have hal : s.logic.helperAlive = true := ((step_dial_only H P s.logic e).2 ha).resolve_right hd
      by_cases ht : e = .tick
      · subst ht
        obtain ⟨tk, k, htk, hk, -⟩ := enabled_tick P s t he
        obtain ⟨j1, j2, -⟩ := hj hpw hal tk htk
        rw [tstep_tick H P s t tk k htk hk (h.tick tk htk).retry_pos hal, if_pos hpw]
        intro tk' htk'
        cases htk'
        simp [j1, j2]
      · rw [tstep_other H P s t e hd ht]
        exact hj hpw hal

theorem prompt_run_from (L : Nat) (hL : L < period P) (s : TState) (evs : List TEvent) (h : TInv P s)
    (hj : Prompt s) (hw : wellTimedFrom H P s evs = true) (hr : responsiveFrom H P L s evs = true) :
    Prompt (trun H P s evs) := by
  induction evs generalizing s with
  | nil => exact hj
  | cons te es ih =>
    simp only [wellTimedFrom, Bool.and_eq_true] at hw
    simp only [responsiveFrom, Bool.and_eq_true] at hr
    exact ih (tstep H P s te) (tinv_step H P s te h hw.1)
      (prompt_step H P L hL s te h hj hw.1 hr.1.1 hr.1.2) hw.2 hr.2

theorem resend_count_ge_under_latency (hr : P.retry > 0) (L : Nat) (hL : L < period P)
    (evs : List TEvent) (hw : wellTimed H P evs = true) (hresp : responsive H P L evs = true)
    (T : Nat) (hset : settled P L (treach H P evs) T = true)
    (hwait : (treach H P evs).logic.phase = .waiting)
    (halive : (treach H P evs).logic.helperAlive = true) :
    (∀ tk, (treach H P evs).ticker = some tk → tk.lost = 0) ∧
    (T - (treach H P evs).t0 - L) / period P ≤ (treach H P evs).logic.sent.length - 1 := by
  have inv := tinv_reach H P evs hw
  cases htk : (treach H P evs).ticker with
  | none => exact absurd htk (inv.waiting_ticker hwait hr)
  | some tk =>
    have hp : Prompt (treach H P evs) :=
      prompt_run_from H P L hL (tinit P) evs (tinv_init P) (fun _ _ _ htk => nomatch htk) hw hresp
    obtain ⟨j1, j2, j3⟩ := hp hwait halive tk htk
    refine ⟨fun tk' h' => by cases h'; exact j1, ?_⟩
    rw [← writes_parallel_sent, j2]
    have hcons := (inv.tick tk htk).conserve
    simp only [settled, htk, Bool.and_eq_true, decide_eq_true_eq] at hset
    -- what is outstanding (the tick in the channel, else the next firing) is firing number `taken + 1`
    have hT : T < (treach H P evs).t0 + (tk.taken + 1) * period P + L := by
      cases hc : tk.chan with
      | none =>
        have hn : tk.taken + 1 = tk.next := by simpa [hc, j1] using hcons
        rw [hn]
        exact hset.1
      | some k =>
        have hk : tk.taken + 1 = k := by have := j3 k hc; simp [hc] at hcons; omega
        rw [hc] at hset
        rw [hk]
        exact of_decide_eq_true hset.2
    have hd := period_pos P hr
    have hpos : 0 < (tk.taken + 1) * period P := Nat.mul_pos (Nat.succ_pos _) hd
    exact Nat.le_sub_one_of_lt ((Nat.div_lt_iff_lt_mul hd).2 (by omega))

theorem obsNotEarlyFrom_iff (d tol : Nat) (j : Nat) (as : List Nat) :
    obsNotEarlyFrom d tol j as = true ↔ ∀ i (h : i < as.length), (j + i) * d ≤ as[i] + tol := by
  induction as generalizing j with
  | nil => simp [obsNotEarlyFrom]
  | cons a as ih =>
    simp only [obsNotEarlyFrom, Bool.and_eq_true, decide_eq_true_eq, ih]
    constructor
    · rintro ⟨h0, h1⟩ (_ | i) hi
      · exact h0
      · exact Nat.add_right_comm j 1 i ▸ h1 i (Nat.lt_of_succ_lt_succ hi)
    · exact fun h => ⟨h 0 (Nat.zero_lt_succ _),
        fun i hi => Nat.add_right_comm j 1 i ▸ h (i + 1) (Nat.succ_lt_succ hi)⟩

theorem tinv_obs (s : TState) (h : TInv P s) (c : Nat) (hc : c ≤ s.t0) (arr : List Nat) (fin tol : Nat)
    (hlen : arr.length ≤ s.writes.length)
    (hearly : ∀ i (hi : i < arr.length), s.t0 + i * period P ≤ c + arr[i])
    (hfin : s.now ≤ c + fin) :
    obsNotEarly (period P) tol arr = true ∧ obsCountOk (period P) tol fin arr = true := by
  constructor
  · rw [obsNotEarly, obsNotEarlyFrom_iff]
    intro i hi
    have := hearly i hi
    rw [Nat.zero_add]
    omega
  · have h1 := tinv_length_le P s h _ (List.Sublist.refl _) (c + fin)
      (fun w hw => Nat.le_trans (h.times_le w hw) hfin)
    have h2 : (c + fin - s.t0) / period P ≤ (fin + tol) / period P := Nat.div_le_div_right (by omega)
    exact decide_eq_true (by omega)

theorem observation_within_model_bounds_lossy (evs : List TEvent) (hw : wellTimed H P evs = true)
    (c : Nat) (hc : c ≤ (treach H P evs).t0) (ws : List (Nat × Nat)) (arr : List Nat) (fin tol : Nat)
    (hsub : ws.Sublist (treach H P evs).writes)
    (hlen : arr.length = ws.length)
    (harr : ∀ i (h1 : i < arr.length) (h2 : i < ws.length), (ws[i]).1 ≤ c + arr[i])
    (hfin : (treach H P evs).now ≤ c + fin) :
    obsNotEarly (period P) tol arr = true ∧ obsCountOk (period P) tol fin arr = true :=
  have h := tinv_reach H P evs hw
  tinv_obs P _ h c hc arr fin tol (hlen ▸ hsub.length_le)
    (fun i hi => Nat.le_trans (tinv_not_early P _ h ws hsub i (hlen ▸ hi)) (harr i hi (hlen ▸ hi))) hfin

theorem observation_within_model_bounds (evs : List TEvent) (hw : wellTimed H P evs = true)
    (c : Nat) (hc : c ≤ (treach H P evs).t0) (arr : List Nat) (fin tol : Nat)
    (hlen : arr.length = (treach H P evs).writes.length)
    (harr : ∀ i (h1 : i < arr.length) (h2 : i < (treach H P evs).writes.length),
      ((treach H P evs).writes[i]).1 ≤ c + arr[i])
    (hfin : (treach H P evs).now ≤ c + fin) :
    obsNotEarly (period P) tol arr = true ∧ obsCountOk (period P) tol fin arr = true :=
  observation_within_model_bounds_lossy H P evs hw c hc _ arr fin tol (List.Sublist.refl _) hlen harr hfin

theorem strictMono_ge_id (f : Nat → Nat) (n : Nat) (hmono : ∀ i j, i < j → j < n → f i < f j)
    (i : Nat) (hi : i < n) : i ≤ f i := by
  induction i with
  | zero => exact Nat.zero_le _
  | succ k ih => exact Nat.lt_of_le_of_lt (ih (Nat.lt_of_succ_lt hi)) (hmono k (k + 1) (Nat.lt_succ_self k) hi)

theorem observation_within_model_bounds_lossy_idx (evs : List TEvent) (hw : wellTimed H P evs = true)
    (c : Nat) (hc : c ≤ (treach H P evs).t0) (arr : List Nat) (f : Nat → Nat) (fin tol : Nat)
    (hmono : ∀ i j, i < j → j < arr.length → f i < f j)
    (hrange : ∀ i, i < arr.length → f i < (treach H P evs).writes.length)
    (harr : ∀ i (h1 : i < arr.length) (h2 : f i < (treach H P evs).writes.length),
      ((treach H P evs).writes[f i]).1 ≤ c + arr[i])
    (hfin : (treach H P evs).now ≤ c + fin) :
    obsNotEarly (period P) tol arr = true ∧ obsCountOk (period P) tol fin arr = true := by
  have hid := strictMono_ge_id f arr.length hmono
  refine tinv_obs P _ (tinv_reach H P evs hw) c hc arr fin tol ?_ (fun i hi => ?_) hfin
  · cases hn : arr.length with
    | zero => exact Nat.zero_le _
    | succ n =>
      have h3 := hid n (by omega)
      have h4 := hrange n (by omega)
      omega
  · have h3 := resend_not_early H P evs hw (f i) (hrange i hi)
    have h4 := harr i hi (hrange i hi)
    have h5 : i * period P ≤ f i * period P := Nat.mul_le_mul_right _ (hid i hi)
    omega

theorem observation_lower_bound_under_latency (hr : P.retry > 0) (L : Nat) (hL : L < period P)
    (evs : List TEvent) (hw : wellTimed H P evs = true) (hresp : responsive H P L evs = true)
    (T : Nat) (hset : settled P L (treach H P evs) T = true)
    (hwait : (treach H P evs).logic.phase = .waiting)
    (halive : (treach H P evs).logic.helperAlive = true)
    (c t0' fin : Nat) (arr : List Nat)
    (hlen : arr.length = (treach H P evs).writes.length)
    (ht0 : (treach H P evs).t0 ≤ c + t0')
    (hfin : c + fin ≤ T) :
    obsCountGe (period P) L t0' fin arr = true := by
  have inv := tinv_reach H P evs hw
  have h1 := (resend_count_ge_under_latency H P hr L hL evs hw hresp T hset hwait halive).2
  rw [← writes_parallel_sent, ← hlen] at h1
  have hpos : 1 ≤ arr.length := by
    cases htk : (treach H P evs).ticker with
    | none => exact absurd htk (inv.waiting_ticker hwait hr)
    | some tk => exact hlen ▸ (inv.tick tk htk).writes_pos
  have h2 : (fin - t0' - L) / period P ≤ (T - (treach H P evs).t0 - L) / period P :=
    Nat.div_le_div_right (by omega)
  exact decide_eq_true (by omega)

end RV.Exchange.Timed
