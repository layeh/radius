/-
  C16, rejections.  First the wrappers every rejection theorem of RV.Props.C16 goes through
  (`reject_after_lines`: a refused line after a `GoodPrefix` fails the parse at its own line; `reject_line`:
  the same for a line given by its tokens, with its instances `reject_flags` and `reject_type`;
  `unclosed_after_lines`), then, token kind by token kind, what
  the argument parsers refuse (numbers, OIDs, types, flags, vendor formats), the field counts and keywords
  the switch does not take, and the evaluated sample text.
-/
import RV.Proofs.DictParser
namespace RV.DictParser
open RV RV.Dict RV.DictParser.Lex RV.DictParser.Spec RV.DictParser.Grammar

/-- the preconditions shared by the rejection theorems: the lines before the fault are well-formed
    where they stand, laid out properly, short, and (without fix #11) free of indented fillers -/
structure GoodPrefix (cfg : Cfg) (ℓ : Layout) (ls : List ALine) : Prop where
  wf : linesOK (none, {}) ls = true
  layout : layoutOKFrom ℓ 0 ls = true
  short : ∀ p ∈ physFrom ℓ 0 ls, p.1.length + 1 < maxTokenSize
  fillers : cfg.skipNoFields = true ∨ noIndentFrom ℓ 0 ls = true

/-- the physical lines of the prefix (fillers included) are numbered from 1, so the refused line is number
    `(physFrom ℓ 0 ls).length + 1`; the lines before it enter only through `stateAfter ls` -/
theorem reject_after_lines (cfg : Cfg) (ign : Bool) (ℓ : Layout) (ls : List ALine) (bad R : Bytes) (c : ErrClass)
    (hp : GoodPrefix cfg ℓ ls) (hclean : clean bad = true) (hshort : bad.length + 1 < maxTokenSize)
    (hstep : ∀ inc file lineNo (st : St), st.dict = (stateAfter ls).2 →
      stepLine cfg ign inc file lineNo (stateAfter ls).1 st bad = .fail (.decl c file lineNo) st) :
    (parseText cfg ign (textOfLines ℓ ls ++ bad ++ 10 :: R)).1 = some (.decl c [] ((physFrom ℓ 0 ls).length + 1)) := by
  obtain ⟨inc, _, hinc⟩ := parseText_eq_noinc cfg ign (textOfLines ℓ ls ++ bad ++ 10 :: R)
  have hclean' := physFrom_clean ℓ ls 0 (linesOK_all _ _ hp.wf) hp.layout
  have hl1 := lines_joinPhys_append (physFrom ℓ 0 ls) (bad ++ 10 :: R) hclean' hp.short
  have hl2 : Lex.lines (bad ++ 10 :: R) = (bad :: (Lex.lines R).1, (Lex.lines R).2) := by
    simpa [eol] using lines_line (bad, false) R hclean hshort
  rw [hinc]
  simp only [parseBody, textOfLines, List.append_assoc, hl1, hl2]
  rw [parseLines_render_rest cfg ign inc [] _ ℓ _ ls 0 1 none {} hp.wf hp.layout hp.fillers]
  have := hstep inc [] (1 + (physFrom ℓ 0 ls).length) { dict := (stateAfter ls).2, log := [] } rfl
  simp only [stateAfter] at this
  simp only [parseLines]
  rw [this]
  simp only [Option.some.injEq, Failure.decl.injEq, true_and]
  omega

/-- `reject_after_lines` for a line given by its tokens in any layout `ll`: what has to be shown is that
    `dispatch` refuses the tokens in the state after the prefix -/
theorem reject_line (cfg : Cfg) (ign : Bool) (ℓ : Layout) (ls : List ALine) (ll : LineLayout) (toks : List Bytes) (R : Bytes)
    (c : ErrClass) (hp : GoodPrefix cfg ℓ ls) (hll : ll.ok = true) (hne : toks ≠ []) (htok : ∀ t ∈ toks, tokenOK t = true)
    (hshort : (ll.content toks).length + 1 < maxTokenSize)
    (hd : ∀ inc file lineNo (st : St), st.dict = (stateAfter ls).2 →
      dispatch cfg ign inc file lineNo (stateAfter ls).1 st toks = .fail (.decl c file lineNo) st) :
    (parseText cfg ign (textOfLines ℓ ls ++ ll.content toks ++ 10 :: R)).1
      = some (.decl c [] ((physFrom ℓ 0 ls).length + 1)) := by
  apply reject_after_lines cfg ign ℓ ls _ R c hp (clean_content ll toks hll htok) hshort
  intro inc file lineNo st hst
  rw [stepLine_tokens cfg ign inc file lineNo _ st ll toks hll hne htok]
  exact hd inc file lineNo st hst

theorem unclosed_after_lines (cfg : Cfg) (ign : Bool) (ℓ : Layout) (ls : List ALine) (n : Bytes)
    (hp : GoodPrefix cfg ℓ ls) (hopen : (stateAfter ls).1 = some n) :
    (parseText cfg ign (textOfLines ℓ ls)).1 = some (.decl .unclosedVendorBlock [] (physFrom ℓ 0 ls).length) := by
  obtain ⟨inc, _, hinc⟩ := parseText_eq_noinc cfg ign (textOfLines ℓ ls)
  have hclean' := physFrom_clean ℓ ls 0 (linesOK_all _ _ hp.wf) hp.layout
  have hl1 := lines_joinPhys_append (physFrom ℓ 0 ls) [] hclean' hp.short
  rw [hinc]
  simp only [List.append_nil] at hl1
  have hnil : Lex.lines [] = ([], false) := rfl
  simp only [parseBody, textOfLines, hl1, hnil]
  rw [parseLines_render_rest cfg ign inc [] false ℓ [] ls 0 1 none {} hp.wf hp.layout hp.fillers]
  simp only [stateAfter] at hopen
  rw [show ({} : St).dict = ({} : Dictionary) from rfl, hopen]
  simp only [parseLines, Bool.false_eq_true, if_false, Option.some.injEq, Failure.decl.injEq, true_and]
  omega

/-- `reject_line` for an ATTRIBUTE line whose flag field is the well-formed flags of `a` followed by parts `rest`
    that the flag loop refuses -/
theorem reject_flags (cfg : Cfg) (ign : Bool) (ℓ : Layout) (ls : List ALine) (ll : LineLayout) (a : AAttr)
    (rest : List Bytes) (R : Bytes) (c : ErrClass) (hp : GoodPrefix cfg ℓ ls) (hll : ll.ok = true) (ha : a.ok = true)
    (hne : rest ≠ []) (hfield : tokenOK (Spec.intercalate 44 (a.flags.map flagToken ++ rest)) = true)
    (hcomma : ∀ t ∈ rest, t.all (· != 44) = true)
    (hshort : (ll.content [kwATTRIBUTE, a.name, showOID a.oid, typeToken ll.caseMask a,
        Spec.intercalate 44 (a.flags.map flagToken ++ rest)]).length + 1 < maxTokenSize)
    (h : parseFlags rest a.toAttribute = .error c) :
    (parseText cfg ign (textOfLines ℓ ls ++ ll.content [kwATTRIBUTE, a.name, showOID a.oid, typeToken ll.caseMask a,
        Spec.intercalate 44 (a.flags.map flagToken ++ rest)] ++ 10 :: R)).1
      = some (.decl c [] ((physFrom ℓ 0 ls).length + 1)) := by
  have hat := attrTokens_ok ll.caseMask a ha
  refine reject_line cfg ign ℓ ls ll _ R c hp hll (by simp)
    (List.forall_mem_cons.2 ⟨by decide, List.forall_mem_cons.2 ⟨hat _ (by simp [attrTokens]),
      List.forall_mem_cons.2 ⟨hat _ (by simp [attrTokens]), List.forall_mem_cons.2 ⟨hat _ (by simp [attrTokens]),
        List.forall_mem_singleton.2 hfield⟩⟩⟩⟩) hshort fun inc file lineNo st _ => ?_
  rw [show [kwATTRIBUTE, a.name, showOID a.oid, typeToken ll.caseMask a, Spec.intercalate 44 (a.flags.map flagToken ++ rest)]
      = [kwATTRIBUTE, a.name, showOID a.oid, typeToken ll.caseMask a] ++ (some (Spec.intercalate 44 (a.flags.map flagToken ++ rest))).toList
      from rfl, dispatch_attr_eq, parseAttribute_flags cfg _ a rest ha (by simp [hne]) hcomma, h]
  rfl

/-- `reject_line` for an ATTRIBUTE line with a well-formed OID whose type token the type switch refuses -/
theorem reject_type (cfg : Cfg) (ign : Bool) (ℓ : Layout) (ls : List ALine) (ll : LineLayout) (name ty R : Bytes)
    (oid : List Nat) (fl : Option Bytes) (e : ErrClass) (hp : GoodPrefix cfg ℓ ls) (hll : ll.ok = true)
    (hname : tokenOK name = true) (hty : tokenOK ty = true) (hfl : ∀ x ∈ fl.toList, tokenOK x = true)
    (hoid : oid ≠ [] ∧ ∀ c ∈ oid, c < 2 ^ 63)
    (hshort : (ll.content ([kwATTRIBUTE, name, showOID oid, ty] ++ fl.toList)).length + 1 < maxTokenSize)
    (h : parseType ty = .error e) :
    (parseText cfg ign (textOfLines ℓ ls ++ ll.content ([kwATTRIBUTE, name, showOID oid, ty] ++ fl.toList) ++ 10 :: R)).1
      = some (.decl e [] ((physFrom ℓ 0 ls).length + 1)) :=
  reject_line cfg ign ℓ ls ll _ R _ hp hll (by simp)
    (List.forall_mem_cons.2 ⟨by decide, List.forall_mem_cons.2 ⟨hname, List.forall_mem_cons.2 ⟨tokenOK_showOID _ hoid.1,
      List.forall_mem_cons.2 ⟨hty, hfl⟩⟩⟩⟩)
    hshort
    (fun inc file lineNo st _ => dispatch_attr_err cfg ign inc file lineNo _ st name _ ty fl _
      (by simp [parseAttribute, parseOID_showOID cfg oid hoid.1 hoid.2, h]))

theorem parseInt32_none_iff (s : Bytes) : parseInt32 s = none ↔ ∀ n, ¬ Int32Lit s n := by
  constructor
  · intro h n hn
    rw [(parseInt32_iff s n).mpr hn] at h; cases h
  · intro h
    cases hp : parseInt32 s with
    | none => rfl
    | some n => exact absurd ((parseInt32_iff s n).mp hp) (h n)

theorem parseInt32_bad (s : Bytes) (h : ∃ b ∈ s, isDigit b = false ∧ b ≠ 43 ∧ b ≠ 45) : parseInt32 s = none := by
  cases hp : parseInt32 s with
  | none => rfl
  | some n =>
    obtain ⟨digits, hdec, hshape, _, _⟩ := (parseInt32_iff s n).mp hp
    obtain ⟨b, hb, hbad, h43, h45⟩ := h
    have hdig : b ∉ digits := fun hm => by
      have := (isDigit_iff b).mpr (hdec.2 b hm)
      rw [hbad] at this; cases this
    rcases hshape with ⟨rfl | rfl, _⟩ | ⟨rfl, _⟩
    · exact absurd hb hdig
    · exact (List.mem_cons.mp hb).elim (fun e => absurd e h43) (fun hm => absurd hm hdig)
    · exact (List.mem_cons.mp hb).elim (fun e => absurd e h45) (fun hm => absurd hm hdig)

theorem not_int32Lit_of_nondigit (s : Bytes) (h : ∃ b ∈ s, isDigit b = false ∧ b ≠ 43 ∧ b ≠ 45) : ∀ n, ¬ Int32Lit s n :=
  (parseInt32_none_iff s).mp (parseInt32_bad s h)

theorem not_int32Lit_nil : ∀ n, ¬ Int32Lit [] n := (parseInt32_none_iff []).mp rfl

theorem not_int32Lit_of_big (v : Nat) (h : 2 ^ 31 ≤ v) : ∀ n, ¬ Int32Lit (showDec v) n := by
  apply (parseInt32_none_iff _).mp
  obtain ⟨d, ds, hs, hdig⟩ := decimal_head (showDec_spec v).1
  have hd := decNat_showDec v
  rw [hs] at hd ⊢
  simp only [parseInt32, isDigit_ne_plus hdig, isDigit_ne_minus hdig, Bool.false_eq_true, if_false, hd, Option.bind_some]
  have : ¬ v < 2 ^ 31 := by omega
  simp [this]

theorem not_int32Lit_of_small (v : Nat) (h : 2 ^ 31 < v) : ∀ n, ¬ Int32Lit (45 :: showDec v) n := by
  apply (parseInt32_none_iff _).mp
  have hd := decNat_showDec v
  have h1 : ((45 : UInt8) == 43) = false := by decide
  simp only [parseInt32, h1, Bool.false_eq_true, if_false, beq_self_eq_true, if_true, hd, Option.bind_some]
  have : ¬ v ≤ 2 ^ 31 := by omega
  simp [this]

theorem decNat_bad (s : Bytes) (h : ∃ b ∈ s, isDigit b = false) : decNat? s = none := by
  obtain ⟨b, hb, hbad⟩ := h
  have : s.all isDigit = false := by
    apply Bool.eq_false_iff.mpr
    intro hall
    have := List.all_eq_true.mp hall b hb
    simp [hbad] at this
  simp [decNat?, this]

theorem parseValue_bad (a n num : Bytes) (h0x : (num.take 2 == kw0x) = false) (h : ∃ b ∈ num, isDigit b = false) :
    parseValue a n num = .error .strconv := by
  simp [parseValue, h0x, parseUint32Dec, decNat_bad num h]

theorem parseVendor_bad_number (cfg : Cfg) (n num : Bytes) (fmt : Option Bytes)
    (h : ∃ b ∈ num, isDigit b = false ∧ b ≠ 43 ∧ b ≠ 45) : parseVendor cfg n num fmt = .error .strconv := by
  simp [parseVendor, parseInt32_bad num h]

/-- a byte that cannot occur in a dotted number -/
def oidBad (b : UInt8) : Bool := !isDigit b && b != 46

theorem parseOID_bad (cfg : Cfg) (s : Bytes) (h : ∃ b ∈ s, oidBad b = true) : parseOID cfg s = none := by
  cases hp : parseOID cfg s with
  | none => rfl
  | some o =>
    -- what `parseOID` accepts is a dotted number in every configuration
    obtain ⟨comps, _, hdec, rfl⟩ := parseOID_dotted cfg s o hp
    obtain ⟨b, hb, hbad⟩ := h
    simp only [oidBad, Bool.and_eq_true, Bool.not_eq_true', bne_iff_ne] at hbad
    rcases mem_intercalate hb with rfl | ⟨t, ht, hx⟩
    · exact absurd rfl hbad.2
    · have := (isDigit_iff b).mpr ((hdec t ht).2 b hx)
      rw [hbad.1] at this; cases this

theorem oidLoop_overflow (cfg : Cfg) (hc : cfg.oidOverflowRejected = true) (ds rest : Bytes) (done : List Int) (cur : Nat)
    (hd : ds.all isDigit = true) (hcur : cur < 2 ^ 63) (hv : 2 ^ 63 ≤ ds.foldl decStep cur) :
    oidLoop cfg (ds ++ rest) done (cur : Int) = none := by
  induction ds generalizing cur with
  | nil => simp at hv; omega
  | cons d ds ih =>
    simp only [List.all_cons, Bool.and_eq_true] at hd
    simp only [List.foldl_cons] at hv
    have hlt := digitVal_lt d hd.1
    rw [List.cons_append, oidLoop.eq_def]
    simp only [isDigit_ne_dot hd.1, Bool.false_eq_true, if_false, hd.1, if_true]
    by_cases hov : decStep cur d < 2 ^ 63
    · rw [oidStep_ok cfg cur d hd.1 hov]
      exact ih _ hd.2 hov hv
    · rw [oidStep_none cfg hc cur d hd.1 hov]

theorem parseOID_overflow_first (cfg : Cfg) (hc : cfg.oidOverflowRejected = true) (n : Nat) (rest : Bytes) (h : 2 ^ 63 ≤ n) :
    parseOID cfg (showDec n ++ rest) = none := by
  obtain ⟨d, ds, hs, hdig⟩ := decimal_head (showDec_spec n).1
  have := oidLoop_overflow cfg hc (showDec n) rest [] 0 ((all_isDigit_iff _).mpr (showDec_spec n).1.2) (by decide)
    (by rw [foldl_decStep_zero, (showDec_spec n).2]; exact h)
  rw [hs] at this ⊢
  rw [List.cons_append, parseOID_eq_loop cfg d _ hdig]
  exact this

theorem parseType_unknown (t : Bytes) (h : ∀ ty, foldEq t (typeName ty) = false) (hbr : t.getLast? ≠ some 93) :
    parseType t = .error .unknownAttributeType := by
  rw [parseType_of_noName h]
  simp [hbr]

theorem mem_applyCase {x : UInt8} (hx : ¬ (97 ≤ x ∧ x ≤ 122)) : ∀ (m : List Bool) (s : Bytes), x ∈ s → x ∈ applyCase m s
  | m, [], h => by cases h
  | [], _ :: _, h => h
  | u :: m, c :: s, h => by
    rw [applyCase]
    rcases List.mem_cons.mp h with rfl | h
    · have : (u && decide (97 ≤ x) && decide (x ≤ 122)) = false := by
        rw [Bool.and_assoc, ← Bool.decide_and, decide_eq_false hx, Bool.and_false]
      simp [this]
    · exact List.mem_cons_of_mem _ (mem_applyCase hx m s h)

/-- no type name has a `[`, so only the `octets[n]` branch of the switch is left -/
theorem parseType_octetsBr_error (m : List Bool) (r : Bytes) (h : ∀ lit n, r = lit ++ [93] → ¬ Int32Lit lit n) :
    parseType (applyCase m kwOctetsBr ++ r) = .error .unknownAttributeType := by
  have hno : ∀ ty, foldEq (applyCase m kwOctetsBr ++ r) (typeName ty) = false := fun ty =>
    Bool.eq_false_iff.mpr fun hf => by
      have h91 : (91 : UInt8) ∈ applyCase m kwOctetsBr ++ r :=
        List.mem_append_left _ (mem_applyCase (by decide) m _ (by decide))
      have := foldsTo_mem_ascii ((foldEq_iff _ _).mp hf) h91 (by decide) (by decide)
      revert this
      cases ty <;> decide
  have hdrop : (applyCase m kwOctetsBr ++ r).drop 7 = r := by
    rw [List.drop_append_of_le_length (by simp [kwOctetsBr]), List.drop_of_length_le (by simp [kwOctetsBr])]
    rfl
  rw [parseType_of_noName hno, hdrop]
  split
  · rename_i hc
    simp only [Bool.and_eq_true, decide_eq_true_eq, beq_iff_eq] at hc
    obtain ⟨⟨hlen, _⟩, hlast⟩ := hc
    have hr : r ≠ [] := by
      intro h0; subst h0
      simp [kwOctetsBr] at hlen
    have hlast' : r.getLast? = some 93 := by
      rw [List.getLast?_append] at hlast
      cases hg : r.getLast? with
      | none => exact absurd (List.getLast?_eq_none_iff.mp hg) hr
      | some x => rw [hg] at hlast; simpa using hlast
    have hsplit : r = r.dropLast ++ [93] := by
      obtain ⟨ys, hys⟩ := List.getLast?_eq_some_iff.mp hlast'
      rw [hys]; simp
    cases hp : parseInt32 r.dropLast with
    | none => rfl
    | some n => exact absurd ((parseInt32_iff _ n).mp hp) (h _ n hsplit)
  · rfl

/-- which flag kinds an attribute already carries -/
def kindSet (a : Attribute) : Flag → Bool
  | .encrypt _ => a.encrypt.isSome
  | .hasTag => a.hasTag.isSome
  | .concat => a.isConcat.isSome

theorem parseFlags_unknown (bad : Bytes) (more : List Bytes) (a : Attribute)
    (h1 : (bad.take 8 == kwEncrypt) = false) (h2 : bad ≠ kwHasTag) (h3 : bad ≠ kwConcat) :
    parseFlags (bad :: more) a = .error .unknownAttributeFlag := by
  simp [parseFlags, h1, h2, h3]

theorem parseFlags_repeated (f : Flag) (more : List Bytes) (a : Attribute) (h : kindSet a f = true) :
    parseFlags (flagToken f :: more) a = .error .duplicateAttributeFlag := by
  cases f with
  | encrypt n =>
    have ht : (kwEncrypt ++ showInt n).take 8 = kwEncrypt := by simp [kwEncrypt]
    simp only [kindSet] at h
    simp [parseFlags, flagToken, ht, h]
  | hasTag =>
    have h1 : (kwHasTag.take 8 == kwEncrypt) = false := by decide
    simp only [kindSet] at h
    simp [parseFlags, flagToken, h1, h]
  | concat =>
    have h1 : (kwConcat.take 8 == kwEncrypt) = false := by decide
    have h2 : (kwConcat == kwHasTag) = false := by decide
    simp only [kindSet] at h
    simp [parseFlags, flagToken, h1, h2, h]

theorem parseFlags_bad_encrypt (bad : Bytes) (more : List Bytes) (a : Attribute) (hfirst : a.encrypt = none)
    (hbad : ∀ n, ¬ Int32Lit bad n) :
    parseFlags ((kwEncrypt ++ bad) :: more) a = .error .invalidAttributeEncryptType := by
  have ht : (kwEncrypt ++ bad).take 8 = kwEncrypt := by simp [kwEncrypt]
  have hd : (kwEncrypt ++ bad).drop 8 = bad := by simp [kwEncrypt]
  simp [parseFlags, ht, hd, hfirst, (parseInt32_none_iff bad).mpr hbad]

theorem vendorByNameOrNumber_some (vs : List Vendor) (name : Bytes) (num : Int)
    (h : ∃ w ∈ vs, w.name = name ∨ w.number = num) : ∃ w, vendorByNameOrNumber vs name num = some w := by
  cases hx : vendorByNameOrNumber vs name num with
  | some x => exact ⟨x, rfl⟩
  | none =>
    obtain ⟨w, hw, hc⟩ := h
    have := (vendorByNameOrNumber_none_iff vs name num).mp hx w hw
    exact hc.elim (absurd · this.1) (absurd · this.2)

theorem parseVendor_bad_format (cfg : Cfg) (hc : cfg.formatLenChecked = true) (n : Bytes) (num : Int) (f : Bytes)
    (hnum : int32OK num = true) (hbad : ¬ isFormatToken f) :
    parseVendor cfg n (showInt num) (some f) = .error .invalidVendorFormat := by
  have : formatOK cfg f = false := by
    apply Bool.eq_false_iff.mpr
    exact fun h => hbad (formatOK_shape cfg hc f h)
  simp [parseVendor, parseInt32_showInt num hnum, this]

section shape
/- the keywords are unfolded so that `simp` compares them byte by byte -/

theorem shapeOK_attribute (args : List Bytes) : shapeOK (kwATTRIBUTE :: args) = (args.length == 3 || args.length == 4) := by
  simp [shapeOK, kwATTRIBUTE, kwVALUE, kwVENDOR, kwBEGIN, kwEND, kwINCLUDE]

theorem shapeOK_value (args : List Bytes) : shapeOK (kwVALUE :: args) = (args.length == 3) := by
  simp [shapeOK, kwATTRIBUTE, kwVALUE, kwVENDOR, kwBEGIN, kwEND, kwINCLUDE]

theorem shapeOK_vendor (args : List Bytes) : shapeOK (kwVENDOR :: args) = (args.length == 2 || args.length == 3) := by
  simp [shapeOK, kwATTRIBUTE, kwVALUE, kwVENDOR, kwBEGIN, kwEND, kwINCLUDE]

theorem shapeOK_begin (args : List Bytes) : shapeOK (kwBEGIN :: args) = (args.length == 1) := by
  simp [shapeOK, kwATTRIBUTE, kwVALUE, kwVENDOR, kwBEGIN, kwEND, kwINCLUDE]

theorem shapeOK_end (args : List Bytes) : shapeOK (kwEND :: args) = (args.length == 1) := by
  simp [shapeOK, kwATTRIBUTE, kwVALUE, kwVENDOR, kwBEGIN, kwEND, kwINCLUDE]

theorem shapeOK_include' (args : List Bytes) : shapeOK (kwINCLUDE :: args) = (args.length == 1) := by
  simp [shapeOK, kwATTRIBUTE, kwVALUE, kwVENDOR, kwBEGIN, kwEND, kwINCLUDE]

theorem shapeOK_unknown_keyword (kw : Bytes) (args : List Bytes) (h1 : kw ≠ kwATTRIBUTE) (h2 : kw ≠ kwVALUE)
    (h3 : kw ≠ kwVENDOR) (h4 : kw ≠ kwBEGIN) (h5 : kw ≠ kwEND) (h6 : kw ≠ kwINCLUDE) : shapeOK (kw :: args) = false := by
  simp [shapeOK, h1, h2, h3, h4, h5, h6]
end shape

/-- `RV.C16.sampleText` under `RV.C16.cfgEval` (the fixes #11 #12 #13 with the include rule as found, whose
    `parseText` recurses on fuel, so that the kernel can evaluate it).  The text and the dictionary are
    written out here because RV.Props.C16 imports this file; its examples use this lemma up to unfolding
    `sampleText`, `sampleDict`, `cfgEval`, so the two copies have to stay the same. -/
theorem sampleText_parses :
    parseText ⟨true, true, true, false⟩ false
      (bs "VENDOR Acme 99 format=2,1\n \t\nBEGIN-VENDOR Acme\r\nATTRIBUTE X 1.2 OcTeTs[+16] encrypt=-1,has_tag\nVALUE X y 0x1F # c\nEND-VENDOR Acme")
    = (none, { log := [], dict := { vendors := [
        { name := bs "Acme", number := 99, typeOctets := some 2, lengthOctets := some 1,
          attributes := [{ name := [88], oid := [1, 2], typ := .octets, size := some 16, encrypt := some (-1),
                           hasTag := some true }],
          values := [{ attrName := [88], name := [121], number := 31 }] }] } }) := by
  decide +kernel

end RV.DictParser
