/-
  C17 helper lemmas: declared names are pairwise distinct.

  Idea: cut a name at its first byte that is not a letter or digit.  `identifier` yields letters and digits
  only, and every suffix the templates append starts with `_` or `.` (or is empty), so for a name
  `<identifier><suffix>` the cut gives back the identifier (`own`) and the suffix (`rest`); the names of vendor
  sections start with `_` and have `own = []`.  Two names are then told apart by `own` (identifiers are distinct:
  the collision check of the validity loops) or, under one identifier, by `rest` (the suffix lists are
  duplicate-free; `_Type` occurs only on the type constants).  The names of the output are five lists `L1 … L5` in
  emission order; each is duplicate-free and any two are disjoint.
-/
import RV.Proofs.GenShape
import RV.Proofs.GenRun
namespace RV.Gen
open RV.Dict RV.Gen.Spec

/-- what `identifier` returns: letters and digits only -/
private def clean (x : Bytes) : Prop := ∀ c ∈ x, isAlnum c = true
/-- a suffix at which the cut stops: empty, or starting with a byte that is not a letter or digit -/
private def good : Bytes → Bool
  | [] => true
  | c :: _ => !isAlnum c
/-- the part of a name before the cut: the identifier it was made from -/
private def own (n : Bytes) : Bytes := n.takeWhile isAlnum
/-- the part of a name from the cut on: the suffix -/
private def rest (n : Bytes) : Bytes := n.dropWhile isAlnum

private theorem own_append {x s : Bytes} (hx : clean x) (hs : good s = true) : own (x ++ s) = x := by
  rw [own, List.takeWhile_append_of_pos hx]
  cases s with
  | nil => exact List.append_nil x
  | cons c r => simp [good] at hs; simp [hs]

private theorem rest_append {x s : Bytes} (hx : clean x) (hs : good s = true) : rest (x ++ s) = s := by
  rw [rest, List.dropWhile_append_of_pos hx]
  cases s with
  | nil => rfl
  | cons c r => simp [good] at hs; simp [hs]

private theorem clean_ident (n : Bytes) : clean (identifier n) := identifier_alnum n

private theorem split_inj {x x' s s' : Bytes} (hx : clean x) (hx' : clean x') (hs : good s = true) (hs' : good s' = true)
    (h : x ++ s = x' ++ s') : x = x' ∧ s = s' := by
  have h1 := congrArg own h
  have h2 := congrArg rest h
  rw [own_append hx hs, own_append hx' hs'] at h1
  rw [rest_append hx hs, rest_append hx' hs'] at h2
  exact ⟨h1, h2⟩

private def strSfx : List Bytes :=
  [bs "_Add", bs "_AddString", bs "_Get", bs "_GetString", bs "_Gets", bs "_GetStrings", bs "_Lookup",
   bs "_LookupString", bs "_Set", bs "_SetString", bs "_Del"]
private def concatSfx : List Bytes :=
  [bs "_Get", bs "_GetString", bs "_Lookup", bs "_LookupString", bs "_Set", bs "_SetString", bs "_Del"]
private def simpleSfx : List Bytes :=
  [bs "_Add", bs "_Get", bs "_Gets", bs "_Lookup", bs "_Set", bs "_Del"]
private def intTailSfx : List Bytes :=
  [bs "_Strings", bs ".String", bs "_Add", bs "_Get", bs "_Gets", bs "_Lookup", bs "_Set", bs "_Del"]
private def intSfx (vis : List Bytes) : List Bytes :=
  [[]] ++ vis.map (bs "_Value_" ++ ·) ++ intTailSfx

/-- a suffix of a helper declaration: the cut stops at it, and it is not the suffix of the type constant -/
private def sfxOK (s : Bytes) : Prop := good s = true ∧ s ≠ bs "_Type"

private theorem strSfx_ok : strSfx.Nodup ∧ ∀ s ∈ strSfx, sfxOK s := by
  unfold sfxOK; decide +kernel
private theorem concatSfx_ok : concatSfx.Nodup ∧ ∀ s ∈ concatSfx, sfxOK s := by
  unfold sfxOK; decide +kernel
private theorem simpleSfx_ok : simpleSfx.Nodup ∧ ∀ s ∈ simpleSfx, sfxOK s := by
  unfold sfxOK; decide +kernel
/-- `[95, 86]` is `"_V"`: no fixed suffix of the integer template starts like a `_Value_<name>` constant -/
private theorem intTailSfx_ok : intTailSfx.Nodup ∧ (∀ s ∈ intTailSfx, sfxOK s) ∧ [] ∉ intTailSfx
    ∧ ∀ s ∈ intTailSfx, s.take 2 ≠ [95, 86] := by
  unfold sfxOK; decide +kernel

private theorem intSfx_ok (vis : List Bytes) (h : vis.Nodup) : (intSfx vis).Nodup ∧ ∀ s ∈ intSfx vis, sfxOK s := by
  obtain ⟨h1, h2, h3, h4⟩ := intTailSfx_ok
  have hval : ∀ v : Bytes, (bs "_Value_" ++ v).take 2 = [95, 86] := fun v => rfl
  constructor
  · unfold intSfx
    rw [List.nodup_append, List.nodup_append]
    refine ⟨⟨by simp, ?_, ?_⟩, h1, ?_⟩
    · rw [List.Nodup, List.pairwise_map]
      exact h.imp (fun hne he => hne (List.append_cancel_left he))
    · intro a ha b hb
      simp only [List.mem_singleton] at ha
      simp only [List.mem_map] at hb
      obtain ⟨v, _, rfl⟩ := hb
      subst ha
      intro he
      have := congrArg (List.take 2) he
      rw [hval] at this
      simp at this
    · intro a ha b hb he
      subst he
      simp only [List.mem_append, List.mem_singleton, List.mem_map] at ha
      rcases ha with rfl | ⟨v, _, rfl⟩
      · exact h3 hb
      · exact h4 _ hb (hval v)
  · intro s hs
    simp only [intSfx, List.mem_append, List.mem_singleton, List.mem_map] at hs
    rcases hs with (rfl | ⟨v, _, rfl⟩) | hs
    · exact ⟨rfl, by decide⟩
    · refine ⟨rfl, ?_⟩
      intro he
      have := congrArg (List.take 2) he
      rw [hval] at this
      revert this
      decide
    · exact h2 s hs

private def aNames (vendor : Bool) (a : Attribute) (vals : List Value) : List Bytes :=
  (attrDecls vendor a vals).map (·.name)

/-- the duplicate half of `valuesOK`: the constants of an integer attribute have distinct identifiers -/
def valsOK (a : Attribute) (vals : List Value) : Prop :=
  isIntKind a.typ = true → ((attrValues a.name vals).map (fun v => identifier v.name)).Nodup

private theorem aNames_sfx (vendor : Bool) (a : Attribute) (vals : List Value) (hv : valsOK a vals) :
    ∃ sfx : List Bytes, aNames vendor a vals = sfx.map (ident a ++ ·) ∧ sfx.Nodup ∧ ∀ s ∈ sfx, sfxOK s := by
  have hint : ∀ (bits : Nat), isIntKind a.typ = true →
      ∃ sfx : List Bytes, (intDecls (ident a) a bits (attrValues a.name vals)).map (·.name) = sfx.map (ident a ++ ·)
        ∧ sfx.Nodup ∧ ∀ s ∈ sfx, sfxOK s := by
    intro bits hk
    have := intSfx_ok _ (hv hk)
    refine ⟨_, ?_, this.1, this.2⟩
    simp [intDecls, intSfx, intTailSfx, fn, Role.suffix, List.map_map, Function.comp_def, List.append_assoc]
  unfold aNames
  rw [attrDecls_eq]
  split
  · split
    · exact ⟨concatSfx, rfl, concatSfx_ok.1, concatSfx_ok.2⟩
    · exact ⟨strSfx, rfl, strSfx_ok.1, strSfx_ok.2⟩
  · split
    · rename_i n hn
      exact hint n (by rw [isIntKind, hn]; rfl)
    · split
      · exact ⟨simpleSfx, rfl, simpleSfx_ok.1, simpleSfx_ok.2⟩
      · exact ⟨[], rfl, List.nodup_nil, nofun⟩

private theorem aNames_nodup (vendor : Bool) (a : Attribute) (vals : List Value) (hv : valsOK a vals) :
    (aNames vendor a vals).Nodup := by
  obtain ⟨sfx, he, hn, _⟩ := aNames_sfx vendor a vals hv
  rw [he, List.Nodup, List.pairwise_map]
  exact hn.imp (fun hne he => hne (List.append_cancel_left he))

private theorem aNames_own (vendor : Bool) (a : Attribute) (vals : List Value) (hv : valsOK a vals) :
    ∀ n ∈ aNames vendor a vals, own n = ident a ∧ rest n ≠ bs "_Type" := by
  obtain ⟨sfx, he, _, hs⟩ := aNames_sfx vendor a vals hv
  intro n hn
  rw [he, List.mem_map] at hn
  obtain ⟨s, hsm, rfl⟩ := hn
  obtain ⟨hg, hne⟩ := hs s hsm
  exact ⟨own_append (clean_ident _) hg, by rw [rest_append (clean_ident _) hg]; exact hne⟩

private def notInit (d : Decl) : Bool := d.role != .extInit

private theorem attrDecls_filter (vendor : Bool) (a : Attribute) (vals : List Value) :
    (attrDecls vendor a vals).filter notInit = attrDecls vendor a vals :=
  List.filter_eq_self.2 fun d hd => bne_iff_ne.2 (attrDecls_for vendor a vals d hd).role.2

private theorem rep1 : Cfg.repaired.sortFixed = true := rfl
private theorem rep2 : Cfg.repaired.rejectDupIdents = true := rfl
private theorem rep3 : Cfg.repaired.rejectUnimplEncrypt = true := rfl
private theorem rep4 : Cfg.repaired.rejectBadIdent = true := rfl
private theorem rep5 : Cfg.repaired.rejectRanges = true := rfl
private theorem rep6 : Cfg.repaired.dropIgnoredVendorAttrs = true := rfl

theorem aLocal_exported {cfg : Cfg} (hb : cfg.rejectBadIdent = true) {vendor : Bool} {a : Attribute}
    (h : aLocal cfg vendor a = true) : exportedIdent (ident a) = true := by
  rw [aLocal, Bool.and_eq_true, hb, Bool.true_and] at h
  simpa using h.1

theorem checkAttrs_ok {cfg : Cfg} (hb : cfg.rejectBadIdent = true) (vendor : Bool) (as : List Attribute)
    (seen seen' : List Bytes) (h : checkAttrs cfg vendor seen as = .ok seen') :
    (∀ x, x ∈ seen' ↔ x ∈ seen ∨ x ∈ as.map ident) ∧ (as.map ident).Nodup
    ∧ ∀ a ∈ as, ident a ∉ seen ∧ exportedIdent (ident a) = true := by
  obtain ⟨⟨hl, hn, hd⟩, rfl⟩ := (checkAttrs_iff _ vendor as seen seen').1 h
  refine ⟨fun x => ?_, hn, fun a ha => ⟨hd _ (List.mem_map_of_mem ha), aLocal_exported hb (hl a ha)⟩⟩
  rw [List.mem_append, List.mem_reverse]
  exact or_comm

private theorem ite_err_ne {c : Prop} [Decidable c] {e1 e2 : Err} {u : Unit} :
    (if c then (Except.error e1 : Except Err Unit) else .error e2) ≠ .ok u := by
  by_cases c <;> simp [*]

theorem valuesOK_ok {cfg : Cfg} (hd : cfg.rejectDupIdents = true) (bits : Option Nat) (vals : List Value)
    (h : valuesOK cfg bits vals = .ok ()) : (vals.map (fun v => identifier v.name)).Nodup := by
  by_cases hn : (vals.map (fun v => identifier v.name)).Nodup
  · exact hn
  · exfalso
    simp only [valuesOK, hd, Bool.true_and, hn, decide_false, Bool.not_false, if_true] at h
    exact ite_err_ne h

theorem checkAttrValues_ok {cfg : Cfg} (hd : cfg.rejectDupIdents = true) (as : List Attribute) (vals : List Value)
    (h : checkAttrValues cfg as vals = .ok ()) : ∀ a ∈ as, valsOK a vals := by
  intro a ha hk
  have := (forM_ok_iff _ _).1 h a ha
  simp only [isIntKind] at hk
  split at this
  · exact valuesOK_ok hd _ _ this
  · rename_i hnone
    rw [hnone] at hk
    cases hk

theorem mem_sortAttrs {cfg : Cfg} (as : List Attribute) (a : Attribute) : a ∈ sortAttrs cfg as ↔ a ∈ as :=
  mem_sortStable _ _ _

/-- per emitted vendor: what `checkVendors` guarantees, relative to the identifiers taken before -/
def vendorOK (seen vseen : List Bytes) (vs : List Vendor) (v : EVendor) : Prop :=
  (v.attrs.map ident).Nodup ∧ identifier v.name ∉ vseen ∧
  ∀ a ∈ v.attrs, ident a ∉ seen ∧ exportedIdent (ident a) = true ∧ (∃ v0 ∈ vs, a ∈ v0.attributes) ∧ valsOK a v.values

def vendorsApart (v w : EVendor) : Prop :=
  identifier v.name ≠ identifier w.name ∧ ∀ a ∈ v.attrs, ∀ b ∈ w.attrs, ident a ≠ ident b

theorem checkVendors_ok {cfg : Cfg} (hb : cfg.rejectBadIdent = true) (hd : cfg.rejectDupIdents = true)
    (hdrop : cfg.dropIgnoredVendorAttrs = true) (o : Options) (vs : List Vendor) (seen vseen : List Bytes)
    (evs : List EVendor) (imps : List Imp) (h : checkVendors cfg o seen vseen vs = .ok (evs, imps)) :
    (∀ v ∈ evs, vendorOK seen vseen vs v) ∧ evs.Pairwise vendorsApart := by
  obtain ⟨⟨hloc, hids, hseen, hvid⟩, hr⟩ := (checkVendors_iff _ o vs seen vseen _).1 h
  obtain ⟨hvn, hvs⟩ := hvid hd
  obtain ⟨rfl, _⟩ := Prod.mk.inj hr
  rw [List.Nodup, List.pairwise_flatMap] at hids
  have hsrc : ∀ v : Vendor, (mkEV cfg o v).attrs = sortAttrs cfg (kept o v.attributes) :=
    fun v => by rw [mkEV, vsrc, hdrop, if_pos rfl]
  have hattrs : ∀ v : Vendor, ∀ a, a ∈ (mkEV cfg o v).attrs ↔ a ∈ kept o v.attributes :=
    fun v a => by rw [hsrc]; exact mem_sortAttrs _ a
  constructor
  · intro ev hev
    obtain ⟨v, hv, rfl⟩ := List.mem_map.1 hev
    obtain ⟨_, _, hl, hvals⟩ := hloc v hv
    refine ⟨by rw [hsrc]; exact ((sortStable_perm _ _).map ident).nodup_iff.2 (hids.1 v hv),
      hvs _ (List.mem_map_of_mem hv), ?_⟩
    intro a ha
    have ha' := (hattrs v a).1 ha
    exact ⟨hseen _ (List.mem_flatMap.2 ⟨v, hv, List.mem_map_of_mem ha'⟩), aLocal_exported hb (hl a ha'),
      ⟨v, hv, (List.mem_filter.1 ha').1⟩, checkAttrValues_ok hd _ _ hvals a ha⟩
  · rw [List.pairwise_map]
    refine ((List.pairwise_map.1 hvn).and hids.2).imp ?_
    rintro v w ⟨hne, hdis⟩
    exact ⟨hne, fun a ha b hb => hdis _ (List.mem_map_of_mem ((hattrs v a).1 ha)) _ (List.mem_map_of_mem ((hattrs w b).1 hb))⟩

private def namesOf (secs : List (Origin × List Decl)) : List Bytes :=
  secs.flatMap (fun s => (s.2.filter notInit).map (·.name))

private theorem declaredNames_eq (out : Output) : declaredNames out = namesOf out.sections := by
  simp only [declaredNames, Output.decls, namesOf, List.filter_flatMap, List.map_flatMap]
  rfl

private def helperSfx : List Bytes :=
  [bs "_NewVendor", bs "_AddVendor", bs "_GetsVendor", bs "_LookupVendor", bs "_SetVendor", bs "_DelVendor"]

private def hNames (vid : Bytes) : List Bytes := helperSfx.map (fun s => bs "_" ++ vid ++ s)

/-- the `<id>_Type` constants of the top-level attributes -/
private def L1 (cfg : Cfg) (d : Dictionary) (o : Options) : List Bytes := (gAttrs cfg d o).map (fun a => ident a ++ bs "_Type")
/-- the `_<vendor>_VendorID` constants -/
private def L2 (evs : List EVendor) : List Bytes := evs.map (fun v => bs "_" ++ identifier v.name ++ bs "_VendorID")
/-- the `<id>_Value_<name>` constants of the external (`-ref`) attributes -/
private def L3 (cfg : Cfg) (d : Dictionary) (o : Options) : List Bytes :=
  (gExts o).flatMap (fun e => (gExtVals cfg d o e).map (fun v => identifier v.attrName ++ bs "_Value_" ++ identifier v.name))
/-- the helper declarations of the top-level attributes -/
private def L4 (cfg : Cfg) (d : Dictionary) (o : Options) : List Bytes := (gAttrs cfg d o).flatMap (fun a => aNames false a (gLocals cfg d o))
/-- the names of one vendor: its six private helper functions, then the helper declarations of its attributes -/
private def block (v : EVendor) : List Bytes :=
  hNames (identifier v.name) ++ v.attrs.flatMap (fun a => aNames true a v.values)
private def L5 (evs : List EVendor) : List Bytes := evs.flatMap block

private theorem flatMap_single {α β} (l : List α) (f : α → List β) (g : α → β) (h : ∀ a, f a = [g a]) :
    l.flatMap f = l.map g := by
  induction l with
  | nil => rfl
  | cons a l ih => simp [List.flatMap_cons, h, ih]

private theorem ext_names (l : List Value) :
    (((⟨.func, .extInit, bs "init", [], []⟩ : Decl) :: l.map (fun v => (⟨.const, .extValue, identifier v.attrName ++ bs "_Value_" ++ identifier v.name, [], [.named (identifier v.attrName)]⟩ : Decl))).filter notInit).map (·.name)
    = l.map (fun v => identifier v.attrName ++ bs "_Value_" ++ identifier v.name) := by
  have : ∀ l : List Value, ((l.map (fun v => (⟨.const, .extValue, identifier v.attrName ++ bs "_Value_" ++ identifier v.name, [], [.named (identifier v.attrName)]⟩ : Decl))).filter notInit).map (·.name)
      = l.map (fun v => identifier v.attrName ++ bs "_Value_" ++ identifier v.name) := by
    intro l
    induction l with
    | nil => rfl
    | cons v l ih =>
      rw [List.map_cons, List.filter_cons_of_pos (by rfl), List.map_cons, ih, List.map_cons]
  rw [List.filter_cons_of_neg (by decide)]
  exact this l

private theorem namesOf_gSections (cfg : Cfg) (d : Dictionary) (o : Options) (evs : List EVendor) :
    namesOf (gSections cfg d o evs) = L1 cfg d o ++ L2 evs ++ L3 cfg d o ++ L4 cfg d o ++ L5 evs := by
  simp only [namesOf, gSections, sectionsOf, List.flatMap_append, List.flatMap_map, List.flatMap_assoc, List.flatMap_cons,
    attrDecls_filter, L1, L2, L3, L4, L5]
  congr 1
  congr 1
  congr 1
  congr 1
  · exact flatMap_single _ _ _ (fun a => rfl)
  · exact flatMap_single _ _ _ (fun a => rfl)
  · congr 1
    funext e
    exact ext_names _

private theorem own_us (x : Bytes) : own (95 :: x) = [] := rfl

private theorem exported_ne_nil {x : Bytes} (h : exportedIdent x = true) : x ≠ [] := by
  intro e
  subst e
  cases h

private theorem L1_nodup (cfg : Cfg) (d : Dictionary) (o : Options) (hT : ((gAttrs cfg d o).map ident).Nodup) : (L1 cfg d o).Nodup := by
  unfold L1
  rw [List.Nodup, List.pairwise_map]
  exact (List.pairwise_map.1 hT).imp (fun hne he => hne (List.append_cancel_right he))

private theorem mem_L1 {cfg : Cfg} {d : Dictionary} {o : Options} {n : Bytes} (h : n ∈ L1 cfg d o) :
    (∃ a ∈ gAttrs cfg d o, own n = ident a) ∧ rest n = bs "_Type" := by
  obtain ⟨a, ha, rfl⟩ := List.mem_map.1 h
  exact ⟨⟨a, ha, own_append (clean_ident a.name) rfl⟩, rest_append (clean_ident a.name) rfl⟩

private theorem L2_nodup (evs : List EVendor) (hp : evs.Pairwise vendorsApart) : (L2 evs).Nodup := by
  unfold L2
  rw [List.Nodup, List.pairwise_map]
  exact hp.imp (fun hne he => hne.1 (List.append_cancel_left (List.append_cancel_right he)))

private theorem mem_L2 {evs : List EVendor} {n : Bytes} (h : n ∈ L2 evs) :
    ∃ v ∈ evs, n = 95 :: (identifier v.name ++ bs "_VendorID") := by
  obtain ⟨v, hv, rfl⟩ := List.mem_map.1 h
  exact ⟨v, hv, rfl⟩

private theorem extName_own (x z : Bytes) : own (identifier x ++ bs "_Value_" ++ z) = identifier x := by
  rw [List.append_assoc]
  exact own_append (clean_ident x) rfl

private theorem mem_L3 {cfg : Cfg} {d : Dictionary} {o : Options} {n : Bytes}
    (hn : ∀ e ∈ gExts o, ∀ v ∈ gExtVals cfg d o e, v.attrName = e.1) (h : n ∈ L3 cfg d o) :
    ∃ e ∈ gExts o, own n = identifier e.1 := by
  obtain ⟨e, he, hm⟩ := List.mem_flatMap.1 h
  obtain ⟨v, hv, rfl⟩ := List.mem_map.1 hm
  refine ⟨e, he, ?_⟩
  rw [hn e he v hv]
  exact extName_own _ _

private theorem L3_nodup (cfg : Cfg) (d : Dictionary) (o : Options)
    (hv : ∀ e ∈ gExts o, ((gExtVals cfg d o e).map (fun v => identifier v.name)).Nodup)
    (hn : ∀ e ∈ gExts o, ∀ v ∈ gExtVals cfg d o e, v.attrName = e.1)
    (hp : (gExts o).Pairwise (fun e e' => identifier e.1 ≠ identifier e'.1)) : (L3 cfg d o).Nodup := by
  unfold L3
  rw [List.Nodup, List.pairwise_flatMap]
  constructor
  · intro e he
    rw [List.pairwise_map]
    refine (List.pairwise_map.1 (hv e he)).imp_of_mem ?_
    intro v w hv hw hne heq
    rw [hn e he v hv, hn e he w hw] at heq
    exact hne (List.append_cancel_left heq)
  · refine hp.imp_of_mem ?_
    intro e e' he he' hne x hx y hy hxy
    obtain ⟨v, hv, rfl⟩ := List.mem_map.1 hx
    obtain ⟨w, hw, rfl⟩ := List.mem_map.1 hy
    have := congrArg own hxy
    rw [hn e he v hv, hn e' he' w hw, extName_own, extName_own] at this
    exact hne this

private theorem mem_attrsNames {vendor : Bool} {as : List Attribute} {vals : List Value} {n : Bytes}
    (hv : ∀ a ∈ as, valsOK a vals) (h : n ∈ as.flatMap (fun a => aNames vendor a vals)) :
    ∃ a ∈ as, own n = ident a ∧ rest n ≠ bs "_Type" := by
  obtain ⟨a, ha, hm⟩ := List.mem_flatMap.1 h
  exact ⟨a, ha, aNames_own vendor a vals (hv a ha) n hm⟩

private theorem attrsNames_nodup (vendor : Bool) (as : List Attribute) (vals : List Value)
    (hn : (as.map ident).Nodup) (hv : ∀ a ∈ as, valsOK a vals) :
    (as.flatMap (fun a => aNames vendor a vals)).Nodup := by
  rw [List.Nodup, List.pairwise_flatMap]
  refine ⟨fun a ha => aNames_nodup vendor a vals (hv a ha), ?_⟩
  refine (List.pairwise_map.1 hn).imp_of_mem ?_
  intro a b ha hb hne x hx y hy hxy
  have h1 := (aNames_own vendor a vals (hv a ha) x hx).1
  have h2 := (aNames_own vendor b vals (hv b hb) y hy).1
  rw [hxy, h2] at h1
  exact hne h1.symm

private theorem helperSfx_ok : helperSfx.Nodup ∧ (∀ s ∈ helperSfx, good s = true) ∧ bs "_VendorID" ∉ helperSfx := by
  decide +kernel

private theorem mem_hNames {vid n : Bytes} (h : n ∈ hNames vid) : ∃ s ∈ helperSfx, n = 95 :: (vid ++ s) := by
  obtain ⟨s, hs, rfl⟩ := List.mem_map.1 h
  exact ⟨s, hs, rfl⟩

private theorem mem_block {v : EVendor} {n : Bytes} (hv : ∀ a ∈ v.attrs, valsOK a v.values) (h : n ∈ block v) :
    (∃ s ∈ helperSfx, n = 95 :: (identifier v.name ++ s))
    ∨ (∃ a ∈ v.attrs, own n = ident a ∧ rest n ≠ bs "_Type") := by
  rcases List.mem_append.1 h with h | h
  · exact Or.inl (mem_hNames h)
  · exact Or.inr (mem_attrsNames hv h)

private theorem block_nodup (v : EVendor) (hn : (v.attrs.map ident).Nodup)
    (hv : ∀ a ∈ v.attrs, valsOK a v.values) (hne : ∀ a ∈ v.attrs, ident a ≠ []) : (block v).Nodup := by
  unfold block
  rw [List.nodup_append]
  refine ⟨?_, attrsNames_nodup true _ _ hn hv, ?_⟩
  · unfold hNames
    rw [List.Nodup, List.pairwise_map]
    exact helperSfx_ok.1.imp (fun hne he => hne (List.append_cancel_left he))
  · intro x hx y hy hxy
    obtain ⟨s, _, rfl⟩ := mem_hNames hx
    obtain ⟨a, ha, h1, _⟩ := mem_attrsNames hv hy
    rw [← hxy, own_us] at h1
    exact hne a ha h1.symm

private theorem L5_nodup (evs : List EVendor)
    (hok : ∀ v ∈ evs, (v.attrs.map ident).Nodup ∧ ∀ a ∈ v.attrs, ident a ≠ [] ∧ valsOK a v.values)
    (hp : evs.Pairwise vendorsApart) : (L5 evs).Nodup := by
  rw [L5, List.Nodup, List.pairwise_flatMap]
  refine ⟨fun v hv => block_nodup v (hok v hv).1 (fun a ha => ((hok v hv).2 a ha).2) (fun a ha => ((hok v hv).2 a ha).1), ?_⟩
  refine hp.imp_of_mem ?_
  intro v w hv hw hvw x hx y hy hxy
  subst hxy
  rcases mem_block (fun a ha => ((hok v hv).2 a ha).2) hx with ⟨s, hs, hx⟩ | ⟨a, ha, h1, _⟩
  · rcases mem_block (fun a ha => ((hok w hw).2 a ha).2) hy with ⟨s', hs', hy⟩ | ⟨b, hb, h2, _⟩
    · rw [hx] at hy
      have := split_inj (clean_ident _) (clean_ident _) (helperSfx_ok.2.1 s hs) (helperSfx_ok.2.1 s' hs')
        (List.cons.inj hy).2
      exact hvw.1 this.1
    · rw [hx, own_us] at h2
      exact ((hok w hw).2 b hb).1 h2.symm
  · rcases mem_block (fun a ha => ((hok w hw).2 a ha).2) hy with ⟨s', hs', hy⟩ | ⟨b, hb, h2, _⟩
    · rw [hy, own_us] at h1
      exact ((hok v hv).2 a ha).1 h1.symm
    · exact hvw.2 a ha b hb (h1.symm.trans h2)

private theorem mem_L5 {evs : List EVendor} {n : Bytes} (hv : ∀ v ∈ evs, ∀ a ∈ v.attrs, valsOK a v.values)
    (h : n ∈ L5 evs) :
    (∃ v ∈ evs, ∃ s ∈ helperSfx, n = 95 :: (identifier v.name ++ s))
    ∨ ((∃ v ∈ evs, ∃ a ∈ v.attrs, own n = ident a) ∧ rest n ≠ bs "_Type") := by
  obtain ⟨v, hve, hm⟩ := List.mem_flatMap.1 h
  rcases mem_block (hv v hve) hm with ⟨s, hs, hx⟩ | ⟨a, ha, h1, h2⟩
  · exact Or.inl ⟨v, hve, s, hs, hx⟩
  · exact Or.inr ⟨⟨v, hve, a, ha, h1⟩, h2⟩

private theorem nodup_append5 {α} {l1 l2 l3 l4 l5 : List α}
    (h1 : l1.Nodup) (h2 : l2.Nodup) (h3 : l3.Nodup) (h4 : l4.Nodup) (h5 : l5.Nodup)
    (d12 : ∀ n, n ∈ l1 → n ∈ l2 → False) (d13 : ∀ n, n ∈ l1 → n ∈ l3 → False)
    (d14 : ∀ n, n ∈ l1 → n ∈ l4 → False) (d15 : ∀ n, n ∈ l1 → n ∈ l5 → False)
    (d23 : ∀ n, n ∈ l2 → n ∈ l3 → False) (d24 : ∀ n, n ∈ l2 → n ∈ l4 → False)
    (d25 : ∀ n, n ∈ l2 → n ∈ l5 → False) (d34 : ∀ n, n ∈ l3 → n ∈ l4 → False)
    (d35 : ∀ n, n ∈ l3 → n ∈ l5 → False) (d45 : ∀ n, n ∈ l4 → n ∈ l5 → False) :
    (l1 ++ l2 ++ l3 ++ l4 ++ l5).Nodup := by
  simp only [List.nodup_append, List.mem_append]
  refine ⟨⟨⟨⟨h1, h2, ?_⟩, h3, ?_⟩, h4, ?_⟩, h5, ?_⟩
  · intro a ha b hb e; subst e; exact d12 _ ha hb
  · rintro a (ha | ha) b hb e <;> subst e
    · exact d13 _ ha hb
    · exact d23 _ ha hb
  · rintro a ((ha | ha) | ha) b hb e <;> subst e
    · exact d14 _ ha hb
    · exact d24 _ ha hb
    · exact d34 _ ha hb
  · rintro a (((ha | ha) | ha) | ha) b hb e <;> subst e
    · exact d15 _ ha hb
    · exact d25 _ ha hb
    · exact d35 _ ha hb
    · exact d45 _ ha hb

theorem route_ext {attrs : List Attribute} {exts : List (Bytes × Bytes)} {v : Value} {n : Bytes}
    (h : route attrs exts v = .ext n) : v.attrName = n := by
  unfold route at h
  split at h
  · cases h
  · split at h
    · rename_i e he
      have hf := List.find?_some he
      simp only [Route.ext.injEq] at h
      rw [← h]
      exact (eq_of_beq hf).symm
    · cases h

theorem idents_unique_repaired' :
    ∀ (d : Dictionary) (o : Options) (out : Output), generate Cfg.repaired d o = .ok out →
    (∀ r ∈ o.refs, ∀ a, (a ∈ d.attributes ∨ ∃ v ∈ d.vendors, a ∈ v.attributes) → identifier r.1 ≠ identifier a.name) →
    (∀ r ∈ o.refs, exportedIdent (identifier r.1) = true) →
    (o.refs.map (fun r => identifier r.1)).Nodup →
    (declaredNames out).Nodup := by
  intro d o out h hdis hrefok hrefids
  obtain ⟨seen, evs0, vimps, hca, hcv, hfx, hve, hsec, _⟩ := generate_ok h
  rw [declaredNames_eq, hsec, namesOf_gSections]
  obtain ⟨c1, c2, c3⟩ := checkAttrs_ok rfl false _ _ _ hca
  obtain ⟨v1, v2⟩ := checkVendors_ok rfl rfl rfl o _ _ _ _ _ hve
  have memA : ∀ a, a ∈ gAttrs Cfg.repaired d o ↔ a ∈ kept o d.attributes := fun a => mem_sortAttrs _ _
  have hT : ((gAttrs Cfg.repaired d o).map ident).Nodup := ((sortStable_perm _ _).map ident).nodup_iff.2 c2
  have neT : ∀ a ∈ gAttrs Cfg.repaired d o, ident a ≠ [] := fun a ha => exported_ne_nil (c3 a ((memA a).1 ha)).2
  have inT : ∀ a ∈ gAttrs Cfg.repaired d o, a ∈ d.attributes := fun a ha => (List.mem_filter.1 ((memA a).1 ha)).1
  have seenT : ∀ a ∈ gAttrs Cfg.repaired d o, ident a ∈ seen :=
    fun a ha => (c1 _).2 (Or.inr (List.mem_map_of_mem ((memA a).1 ha)))
  have valT := checkAttrValues_ok rfl _ _ hcv
  generalize hevs : sortVendors Cfg.repaired evs0 = evs
  have memV : ∀ v, v ∈ evs ↔ v ∈ evs0 := fun v => by rw [← hevs]; exact mem_sortStable _ _ _
  have apV : evs.Pairwise vendorsApart := by
    rw [← hevs]
    exact (sortStable_perm _ _).symm.pairwise v2
      (fun h => ⟨Ne.symm h.1, fun a ha b hb e => h.2 b hb a ha e.symm⟩)
  have okV : ∀ v ∈ evs, vendorOK seen [] d.vendors v := fun v hv => v1 v ((memV v).1 hv)
  have valV : ∀ v ∈ evs, ∀ a ∈ v.attrs, valsOK a v.values := fun v hv a ha => ((okV v hv).2.2 a ha).2.2.2
  have neV : ∀ v ∈ evs, ∀ a ∈ v.attrs, ident a ≠ [] :=
    fun v hv a ha => exported_ne_nil ((okV v hv).2.2 a ha).2.1
  have memE : ∀ e, e ∈ gExts o ↔ e ∈ o.refs := fun e => mem_sortStable _ _ _
  have nameE : ∀ e ∈ gExts o, ∀ v ∈ gExtVals Cfg.repaired d o e, v.attrName = e.1 := by
    intro e _ v hv
    exact route_ext (eq_of_beq (List.mem_filter.1 hv).2)
  have valE : ∀ e ∈ gExts o, ((gExtVals Cfg.repaired d o e).map (fun v => identifier v.name)).Nodup :=
    fun e he => valuesOK_ok rfl _ _ ((forM_ok_iff _ _).1 hfx e he)
  have apE : (gExts o).Pairwise (fun e e' => identifier e.1 ≠ identifier e'.1) :=
    (sortStable_perm _ _).symm.pairwise (List.pairwise_map.1 hrefids) (fun h => Ne.symm h)
  have neE : ∀ e ∈ gExts o, identifier e.1 ≠ [] := fun e he => exported_ne_nil (hrefok e ((memE e).1 he))
  have disET : ∀ e ∈ gExts o, ∀ a ∈ gAttrs Cfg.repaired d o, identifier e.1 ≠ ident a :=
    fun e he a ha => hdis e ((memE e).1 he) a (Or.inl (inT a ha))
  have disEV : ∀ e ∈ gExts o, ∀ v ∈ evs, ∀ a ∈ v.attrs, identifier e.1 ≠ ident a :=
    fun e he v hv a ha => hdis e ((memE e).1 he) a (Or.inr ((okV v hv).2.2 a ha).2.2.1)
  apply nodup_append5
  · exact L1_nodup _ d o hT
  · exact L2_nodup evs apV
  · exact L3_nodup _ d o valE nameE apE
  · exact attrsNames_nodup false _ _ hT valT
  · exact L5_nodup evs (fun v hv => ⟨(okV v hv).1, fun a ha => ⟨neV v hv a ha, valV v hv a ha⟩⟩) apV
  · -- `_Type` constants / vendor identifiers: `own` is an identifier, resp. empty
    intro n h1 h2
    obtain ⟨⟨a, ha, e1⟩, _⟩ := mem_L1 h1
    obtain ⟨v, _, rfl⟩ := mem_L2 h2
    rw [own_us] at e1
    exact neT a ha e1.symm
  · -- `_Type` constants / external constants: the `-ref` identifiers differ from the attributes'
    intro n h1 h2
    obtain ⟨⟨a, ha, e1⟩, _⟩ := mem_L1 h1
    obtain ⟨e, he, e2⟩ := mem_L3 nameE h2
    exact disET e he a ha (e2.symm.trans e1)
  · -- `_Type` constants / helpers of top-level attributes: `rest` is `_Type`, resp. is not
    intro n h1 h2
    obtain ⟨_, r1⟩ := mem_L1 h1
    obtain ⟨a, _, _, r2⟩ := mem_attrsNames valT h2
    exact r2 r1
  · -- `_Type` constants / vendor blocks
    intro n h1 h2
    obtain ⟨⟨a, ha, e1⟩, r1⟩ := mem_L1 h1
    rcases mem_L5 valV h2 with ⟨v, _, s, _, rfl⟩ | ⟨_, r2⟩
    · rw [own_us] at e1
      exact neT a ha e1.symm
    · exact r2 r1
  · -- vendor identifiers / external constants: `own` is empty, resp. an exported identifier
    intro n h1 h2
    obtain ⟨v, _, rfl⟩ := mem_L2 h1
    obtain ⟨e, he, e2⟩ := mem_L3 nameE h2
    rw [own_us] at e2
    exact neE e he e2.symm
  · -- vendor identifiers / helpers of top-level attributes
    intro n h1 h2
    obtain ⟨v, _, rfl⟩ := mem_L2 h1
    obtain ⟨a, ha, e2, _⟩ := mem_attrsNames valT h2
    rw [own_us] at e2
    exact neT a ha e2.symm
  · -- vendor identifiers / vendor blocks: `_VendorID` is none of the six helper suffixes
    intro n h1 h2
    obtain ⟨v, _, rfl⟩ := mem_L2 h1
    rcases mem_L5 valV h2 with ⟨w, _, s, hs, e⟩ | ⟨⟨w, hw, a, ha, e2⟩, _⟩
    · have := split_inj (clean_ident _) (clean_ident _) (by rfl) (helperSfx_ok.2.1 s hs) (List.cons.inj e).2
      exact helperSfx_ok.2.2 (this.2 ▸ hs)
    · rw [own_us] at e2
      exact neV w hw a ha e2.symm
  · -- external constants / helpers of top-level attributes
    intro n h1 h2
    obtain ⟨e, he, e1⟩ := mem_L3 nameE h1
    obtain ⟨a, ha, e2, _⟩ := mem_attrsNames valT h2
    exact disET e he a ha (e1.symm.trans e2)
  · -- external constants / vendor blocks
    intro n h1 h2
    obtain ⟨e, he, e1⟩ := mem_L3 nameE h1
    rcases mem_L5 valV h2 with ⟨w, _, s, _, rfl⟩ | ⟨⟨w, hw, a, ha, e2⟩, _⟩
    · rw [own_us] at e1
      exact neE e he e1.symm
    · exact disEV e he w hw a ha (e1.symm.trans e2)
  · -- helpers of top-level attributes / vendor blocks: a vendor attribute's identifier was not yet taken
    intro n h1 h2
    obtain ⟨a, ha, e1, _⟩ := mem_attrsNames valT h1
    rcases mem_L5 valV h2 with ⟨w, _, s, _, rfl⟩ | ⟨⟨w, hw, b, hb, e2⟩, _⟩
    · rw [own_us] at e1
      exact neT a ha e1.symm
    · apply ((okV w hw).2.2 b hb).1
      rw [← e2, e1]
      exact seenT a ha

/-- `hexp` is not used. -/
theorem idents_unique_partial' (d : Dictionary) (o : Options) (out : Output)
    (h : generate Cfg.asIs d o = .ok out)
    (hvend : d.vendors = []) (hvals : d.values = []) (hrefs : o.refs = [])
    (hexp : ∀ a ∈ d.attributes, exportedIdent (identifier a.name) = true) :
    (declaredNames out).Nodup := by
  have _ := hexp
  obtain ⟨seen, evs0, vimps, hca, _, _, hve, hsec, _⟩ := generate_ok h
  rw [hvend] at hve
  simp only [checkVendors, Except.ok.injEq, Prod.mk.injEq] at hve
  obtain ⟨rfl, _⟩ := hve
  rw [declaredNames_eq, hsec, namesOf_gSections]
  have hl : gLocals Cfg.asIs d o = [] := by
    unfold gLocals gVals
    rw [hvals]
    rfl
  have he : gExts o = [] := by
    unfold gExts
    rw [hrefs]
    rfl
  have h3 : L3 Cfg.asIs d o = [] := by
    unfold L3
    rw [he]
    rfl
  have h2 : L2 (sortVendors Cfg.asIs []) = [] := rfl
  have h5 : L5 (sortVendors Cfg.asIs []) = [] := rfl
  rw [h2, h3, h5]
  simp only [List.append_nil]
  have c2 := ((checkAttrs_iff _ _ _ _ _).1 hca).1.2.1
  have hT : ((gAttrs Cfg.asIs d o).map ident).Nodup := ((sortStable_perm _ _).map ident).nodup_iff.2 c2
  have valT : ∀ a ∈ gAttrs Cfg.asIs d o, valsOK a (gLocals Cfg.asIs d o) := by
    intro a _ _
    rw [hl]
    exact List.nodup_nil
  rw [List.nodup_append]
  refine ⟨L1_nodup _ d o hT, attrsNames_nodup false _ _ hT valT, ?_⟩
  intro x h1 y h4 e
  subst e
  obtain ⟨_, r1⟩ := mem_L1 h1
  obtain ⟨a, _, _, r2⟩ := mem_attrsNames valT h4
  exact r2 r1

end RV.Gen
