/-
  C17 helper lemmas: `generate` phase by phase.

  `generate` is the sequence of four phases: top-level `checkAttrs`, the VALUE checks `gmid`, `checkVendors`,
  the emission `gtail` (`generate_eq`).  Success of the two validity loops is characterised by conditions that
  do not depend on the order of the input (`AGood`, `VGood`), together with what they return.

  Two inversions of `generate cfg d o = .ok out`.  `generate_ok_iff` is an equivalence in terms of the phases
  (`AGood`, `gmid`, `VGood`, `gtail`): the one to use when acceptance itself is the subject (GenPerm).
  `generate_ok` goes one way and spells the output out in the vocabulary `gAttrs … gSections` of one run: the
  one to use for statements about what an accepted dictionary emits.
-/
import RV.Proofs.GenBasic
namespace RV.Gen
open RV.Dict RV.Gen.Spec

theorem forM_ok_iff {α} (f : α → Except Err PUnit) : ∀ l : List α,
    l.forM f = .ok ⟨⟩ ↔ ∀ a ∈ l, f a = .ok ⟨⟩
  | [] => by simp [pure, Except.pure]
  | a :: l => by
    have ih := forM_ok_iff f l
    rw [List.forM]
    cases h : f a with
    | error e => simp [bind, Except.bind, h]
    | ok u => cases u; simp only [bind, Except.bind, h, List.forall_mem_cons, true_and]; exact ih

/-- what the validity loop checks of one attribute by itself (exported identifier, validity block); the
    collision check is the other half, in `AGood` -/
def aLocal (cfg : Cfg) (vendor : Bool) (a : Attribute) : Bool :=
  !(cfg.rejectBadIdent && !exportedIdent (identifier a.name)) && !invalidAttr cfg vendor a

abbrev ident (a : Attribute) : Bytes := identifier a.name

theorem aLocal_valid {cfg : Cfg} {vendor : Bool} {a : Attribute} (h : aLocal cfg vendor a = true) :
    invalidAttr cfg vendor a = false := by
  rw [aLocal, Bool.and_eq_true] at h
  exact (Bool.not_eq_true' _).mp h.2

/-- `checkAttrs` accepts `as` on top of the identifiers `seen` -/
def AGood (cfg : Cfg) (vendor : Bool) (seen : List Bytes) (as : List Attribute) : Prop :=
  (∀ a ∈ as, aLocal cfg vendor a = true) ∧ (as.map ident).Nodup ∧ ∀ x ∈ as.map ident, x ∉ seen

theorem checkAttrs_iff (cfg : Cfg) (vendor : Bool) : ∀ (as : List Attribute) (seen s : List Bytes),
    checkAttrs cfg vendor seen as = .ok s ↔ AGood cfg vendor seen as ∧ s = (as.map ident).reverse ++ seen
  | [], seen, s => by
    simp only [checkAttrs, AGood, Except.ok.injEq, List.map_nil, List.reverse_nil, List.nil_append]
    constructor
    · intro h; exact ⟨⟨by simp, by simp, by simp⟩, h.symm⟩
    · intro h; exact h.2.symm
  | a :: rest, seen, s => by
    have ih := checkAttrs_iff cfg vendor rest (ident a :: seen) s
    rw [checkAttrs]
    by_cases h1 : (cfg.rejectBadIdent && !exportedIdent (identifier a.name)) = true
    · simp only [h1, if_true, reduceCtorEq, false_iff]
      rintro ⟨⟨h, _, _⟩, _⟩
      have := h a (by simp)
      simp [aLocal, h1] at this
    by_cases h2 : seen.contains (identifier a.name) = true
    · simp only [h1, h2, if_true, if_false, reduceCtorEq, false_iff]
      rintro ⟨⟨_, _, h⟩, _⟩
      exact h (ident a) (by simp) (by simpa using h2)
    by_cases h3 : invalidAttr cfg vendor a = true
    · simp only [h1, h2, h3, if_true, if_false, reduceCtorEq, false_iff]
      rintro ⟨⟨h, _, _⟩, _⟩
      have := h a (by simp)
      simp [aLocal, h3] at this
    simp only [h1, h2, h3, if_false, Bool.false_eq_true]
    rw [ih]
    have h2' : ident a ∉ seen := by simpa using h2
    have hl : aLocal cfg vendor a = true := by
      simp only [Bool.not_eq_true] at h1 h3
      simp [aLocal, h1, h3]
    simp only [AGood, List.map_cons, List.nodup_cons, List.mem_cons, List.reverse_cons, List.append_assoc,
      List.singleton_append, forall_eq_or_imp, not_or]
    constructor
    · rintro ⟨⟨g1, g2, g3⟩, rfl⟩
      exact ⟨⟨⟨hl, g1⟩, ⟨fun hm => (g3 _ hm).1 rfl, g2⟩, h2', fun x hx => (g3 x hx).2⟩, rfl⟩
    · rintro ⟨⟨⟨_, g1⟩, ⟨g0, g2⟩, _, g3⟩, rfl⟩
      exact ⟨⟨g1, g2, fun x hx => ⟨fun e => g0 (e ▸ hx), g3 x hx⟩⟩, rfl⟩

/-- the attributes of a vendor that are emitted: all of them as found, the non-ignored ones after the repair -/
def vsrc (cfg : Cfg) (o : Options) (v : Vendor) : List Attribute :=
  if cfg.dropIgnoredVendorAttrs then kept o v.attributes else v.attributes

/-- the vendor as `checkVendors` returns it -/
def mkEV (cfg : Cfg) (o : Options) (v : Vendor) : EVendor :=
  ⟨v.name, v.number, sortAttrs cfg (vsrc cfg o v), sortValues v.values⟩

/-- the identifiers the vendor's attributes add to `seen` -/
def vids (o : Options) (v : Vendor) : List Bytes := (kept o v.attributes).map ident

/-- what the vendor's attributes put into `baseImports` -/
def vimps (o : Options) (v : Vendor) : List Imp := (kept o v.attributes).flatMap declaredImports

abbrev vid (v : Vendor) : Bytes := identifier v.name

/-- what the vendor loop checks of one vendor by itself; identifier collisions are in `VGood` -/
def vLocal (cfg : Cfg) (o : Options) (v : Vendor) : Prop :=
  (v.lengthOctets.getD 1 != 1 || v.typeOctets.getD 1 != 1) = false ∧
  (cfg.rejectRanges && (decide (v.number < 0) || decide (v.number > 4294967295))) = false ∧
  (∀ a ∈ kept o v.attributes, aLocal cfg true a = true) ∧
  checkAttrValues cfg (sortAttrs cfg (vsrc cfg o v)) (sortValues v.values) = .ok ()

theorem checkVendors_step (cfg : Cfg) (o : Options) (seen vseen : List Bytes) (v : Vendor) (rest : List Vendor) :
    checkVendors cfg o seen vseen (v :: rest) =
      if (v.lengthOctets.getD 1 != 1 || v.typeOctets.getD 1 != 1) = true then .error .vendorFormat
      else if (cfg.rejectRanges && (decide (v.number < 0) || decide (v.number > 4294967295))) = true then .error .range
      else if (cfg.rejectDupIdents && vseen.contains (vid v)) = true then .error .duplicate
      else match checkAttrs cfg true seen (kept o v.attributes) with
        | .error e => .error e
        | .ok seen' =>
          match checkAttrValues cfg (sortAttrs cfg (vsrc cfg o v)) (sortValues v.values) with
          | .error e => .error e
          | .ok _ =>
            match checkVendors cfg o seen' (vid v :: vseen) rest with
            | .error e => .error e
            | .ok r => .ok (mkEV cfg o v :: r.1, vimps o v ++ r.2) := by
  rw [checkVendors]
  unfold mkEV vimps vsrc vid
  dsimp only
  generalize (v.lengthOctets.getD 1 != 1 || v.typeOctets.getD 1 != 1) = b1
  cases b1 with
  | true => rfl
  | false =>
    generalize (cfg.rejectRanges && (decide (v.number < 0) || decide (v.number > 4294967295))) = b2
    cases b2 with
    | true => rfl
    | false =>
      generalize (cfg.rejectDupIdents && vseen.contains (vid v)) = b3
      cases b3 with
      | true => rfl
      | false =>
        generalize checkAttrs cfg true seen (kept o v.attributes) = r1
        cases r1 with
        | error e => rfl
        | ok seen' =>
          generalize checkAttrValues cfg _ _ = r2
          cases r2 with
          | error e => rfl
          | ok u =>
            dsimp only [bind, Except.bind]
            generalize checkVendors cfg o seen' (identifier v.name :: vseen) rest = r3
            cases r3 with
            | error e => rfl
            | ok p => cases p; rfl

/-- `checkVendors` accepts `vs` on top of the attribute identifiers `seen` and the vendor identifiers `vseen` -/
def VGood (cfg : Cfg) (o : Options) (seen vseen : List Bytes) (vs : List Vendor) : Prop :=
  (∀ v ∈ vs, vLocal cfg o v) ∧ (vs.flatMap (vids o)).Nodup ∧ (∀ x ∈ vs.flatMap (vids o), x ∉ seen) ∧
  (cfg.rejectDupIdents = true → (vs.map vid).Nodup ∧ ∀ x ∈ vs.map vid, x ∉ vseen)

theorem VGood_cons (cfg : Cfg) (o : Options) (seen vseen : List Bytes) (v : Vendor) (rest : List Vendor) :
    VGood cfg o seen vseen (v :: rest) ↔
      vLocal cfg o v ∧ (cfg.rejectDupIdents = true → vid v ∉ vseen) ∧ (vids o v).Nodup ∧ (∀ x ∈ vids o v, x ∉ seen) ∧
      VGood cfg o ((vids o v).reverse ++ seen) (vid v :: vseen) rest := by
  simp only [VGood, List.forall_mem_cons]
  simp only [List.flatMap_cons, List.nodup_append, List.mem_append, List.map_cons,
    List.nodup_cons, List.mem_cons, List.mem_reverse, not_or]
  constructor
  · rintro ⟨⟨g1, g2⟩, ⟨g3, g4, g5⟩, g6, g7⟩
    refine ⟨g1, fun hd => ((g7 hd).2 _ (Or.inl rfl)), g3, fun x hx => g6 x (Or.inl hx), g2, g4,
      fun x hx => ⟨fun hx' => g5 x hx' x hx rfl, g6 x (Or.inr hx)⟩, fun hd => ⟨(g7 hd).1.2, fun x hx => ⟨?_, (g7 hd).2 x (Or.inr hx)⟩⟩⟩
    rintro rfl
    exact (g7 hd).1.1 hx
  · rintro ⟨g1, g2, g3, g4, g5, g6, g7, g8⟩
    refine ⟨⟨g1, g5⟩, ⟨g3, g6, fun a ha b hb e => (g7 b hb).1 (e ▸ ha)⟩, fun x hx => ?_, fun hd => ⟨⟨fun hm => ((g8 hd).2 _ hm).1 rfl, (g8 hd).1⟩, fun x hx => ?_⟩⟩
    · rcases hx with hx | hx
      · exact g4 x hx
      · exact (g7 x hx).2
    · rcases hx with rfl | hx
      · exact g2 hd
      · exact ((g8 hd).2 x hx).2

theorem checkVendors_iff (cfg : Cfg) (o : Options) : ∀ (vs : List Vendor) (seen vseen : List Bytes) (r : List EVendor × List Imp),
    checkVendors cfg o seen vseen vs = .ok r ↔
      VGood cfg o seen vseen vs ∧ r = (vs.map (mkEV cfg o), vs.flatMap (vimps o))
  | [], seen, vseen, r => by
    rw [checkVendors]
    constructor
    · intro h; cases h
      exact ⟨⟨by simp, by simp, by simp, fun _ => by simp⟩, rfl⟩
    · rintro ⟨_, rfl⟩; rfl
  | v :: rest, seen, vseen, r => by
    rw [checkVendors_step, VGood_cons]
    by_cases h1 : (v.lengthOctets.getD 1 != 1 || v.typeOctets.getD 1 != 1) = true
    · simp only [h1, if_true, reduceCtorEq, false_iff]
      rintro ⟨⟨⟨h, _⟩, _⟩, _⟩
      rw [h1] at h; cases h
    by_cases h2 : (cfg.rejectRanges && (decide (v.number < 0) || decide (v.number > 4294967295))) = true
    · simp only [h1, h2, if_true, if_false, reduceCtorEq, false_iff]
      rintro ⟨⟨⟨_, h, _⟩, _⟩, _⟩
      rw [h2] at h; cases h
    by_cases h3 : (cfg.rejectDupIdents && vseen.contains (vid v)) = true
    · simp only [h1, h2, h3, if_true, if_false, reduceCtorEq, false_iff]
      rintro ⟨⟨_, h, _⟩, _⟩
      simp only [Bool.and_eq_true, List.contains_iff_mem] at h3
      exact h h3.1 h3.2
    rw [if_neg h1, if_neg h2, if_neg h3]
    have h3' : cfg.rejectDupIdents = true → vid v ∉ vseen := by
      intro hd hm
      apply h3
      simp [hd, hm]
    cases hc : checkAttrs cfg true seen (kept o v.attributes) with
    | error e =>
      simp only [reduceCtorEq, false_iff]
      rintro ⟨⟨⟨_, _, hl, _⟩, _, hn, hd, _⟩, _⟩
      have := (checkAttrs_iff cfg true _ seen ((vids o v).reverse ++ seen)).2 ⟨⟨hl, hn, hd⟩, rfl⟩
      rw [hc] at this; cases this
    | ok seen' =>
      obtain ⟨⟨hl, hn, hd⟩, hs⟩ := (checkAttrs_iff cfg true _ seen seen').1 hc
      change seen' = (vids o v).reverse ++ seen at hs
      subst hs
      cases hv : checkAttrValues cfg (sortAttrs cfg (vsrc cfg o v)) (sortValues v.values) with
      | error e =>
        simp only [reduceCtorEq, false_iff]
        rintro ⟨⟨⟨_, _, _, h⟩, _⟩, _⟩
        rw [hv] at h; cases h
      | ok u =>
        have ih := checkVendors_iff cfg o rest ((vids o v).reverse ++ seen) (vid v :: vseen)
        have hloc : vLocal cfg o v := ⟨by simpa using h1, by simpa using h2, hl, hv⟩
        cases hr : checkVendors cfg o ((vids o v).reverse ++ seen) (vid v :: vseen) rest with
        | error e =>
          simp only [hr, reduceCtorEq, false_iff]
          rintro ⟨⟨_, _, _, _, hg⟩, _⟩
          have := (ih _).2 ⟨hg, rfl⟩
          rw [hr] at this; cases this
        | ok r' =>
          obtain ⟨hg, hr'⟩ := (ih r').1 hr
          subst hr'
          simp only [hr, Except.ok.injEq, List.map_cons, List.flatMap_cons]
          constructor
          · rintro rfl
            exact ⟨⟨hloc, h3', hn, hd, hg⟩, rfl⟩
          · rintro ⟨_, rfl⟩; rfl

/-- go/format would refuse the text emitted for the attribute -/
def fmtBad (a : Attribute) : Bool :=
  !lexesAsIdent (identifier a.name) || (isIntKind a.typ && (identifier a.name).isEmpty)

/-- second phase of `generate`: routing of the VALUE lines and the checks on them; `rt` is `route attrs`, kept
    apart so that a permutation of `attrs` can be rewritten in one place only -/
def gmid (cfg : Cfg) (o : Options) (values : List Value)
    (rt : List (Bytes × Bytes) → Value → Route) (attrs : List Attribute) : Except Err Unit := do
  let exts := sortStable (fun a b => bytesLt a.1 b.1) o.refs
  let vals := values.filter (fun v => !o.ignore.contains v.attrName)
  if vals.any (fun v => rt exts v == .unknown) then throw .unknownValue
  let locals := sortValues (vals.filter (fun v => rt exts v == .loc))
  let extVals (e : Bytes × Bytes) := vals.filter (fun v => rt exts v == .ext e.1)
  checkAttrValues cfg attrs locals
  exts.forM (fun e => valuesOK cfg none (extVals e))

/-- the `sections` of `generate`, from the values it has computed by then -/
def sectionsOf (attrs : List Attribute) (evs : List EVendor) (exts : List (Bytes × Bytes)) (locals : List Value)
    (extVals : Bytes × Bytes → List Value) : List (Origin × List Decl) :=
  attrs.map (fun a => (Origin.attr false a, [(⟨.const, .typeConst, identifier a.name ++ bs "_Type", [], [.radiusType]⟩ : Decl)]))
  ++ evs.map (fun v => (Origin.vendor v.name, [(⟨.const, .vendorId, bs "_" ++ identifier v.name ++ bs "_VendorID", [], [.untyped]⟩ : Decl)]))
  ++ exts.map (fun e => (Origin.ext e.1,
      (⟨.func, .extInit, bs "init", [], []⟩ : Decl)
      :: (extVals e).map (fun v => (⟨.const, .extValue, identifier v.attrName ++ bs "_Value_" ++ identifier v.name, [], [.named (identifier v.attrName)]⟩ : Decl))))
  ++ attrs.map (fun a => (Origin.attr false a, attrDecls false a locals))
  ++ evs.flatMap (fun v => (Origin.vendor v.name, vendorHelperDecls (identifier v.name))
      :: v.attrs.map (fun a => (Origin.attr true a, attrDecls true a v.values)))

/-- last phase of `generate`: the panic and format gates, then the imports and sections -/
def gtail (o : Options) (values : List Value) (rt : List (Bytes × Bytes) → Value → Route)
    (attrs : List Attribute) (evs : List EVendor) (stdI : List Imp) : Except Err Output := do
  let exts := sortStable (fun a b => bytesLt a.1 b.1) o.refs
  let vals := values.filter (fun v => !o.ignore.contains v.attrName)
  let locals := sortValues (vals.filter (fun v => rt exts v == .loc))
  let extVals (e : Bytes × Bytes) := vals.filter (fun v => rt exts v == .ext e.1)
  if evs.any (fun v => v.attrs.any vendorAttrPanics) then throw .panic
  if attrs.any fmtBad then throw .format
  if evs.any (fun v => v.attrs.any (fun a => hasTemplate a.typ && fmtBad a)) then throw .format
  if exts.any (fun e => !(extVals e).isEmpty && !lexesAsIdent (identifier e.1)) then throw .format
  let imports :=
    stdI
    ++ (if !attrs.isEmpty || !evs.isEmpty then [Imp.radius] else [])
    ++ (if !evs.isEmpty then [Imp.rfc2865] else [])
    ++ (dedupBytes ((exts.filter (fun e => !(extVals e).isEmpty)).map (·.2))).map Imp.dot
  let sections := sectionsOf attrs evs exts locals extVals
  pure ⟨imports, sections⟩

/-- the format gate on the external attributes: one with a VALUE whose name does not lex as an identifier -/
def extBad (o : Options) (values : List Value) (rt : List (Bytes × Bytes) → Value → Route) : Bool :=
  (sortStable (fun a b => bytesLt a.1 b.1) o.refs).any (fun e =>
    !((values.filter (fun v => !o.ignore.contains v.attrName)).filter
        (fun v => rt (sortStable (fun a b => bytesLt a.1 b.1) o.refs) v == .ext e.1)).isEmpty
    && !lexesAsIdent (identifier e.1))

/-- the standard-library part of the import list -/
def gstd (top vimps : List Imp) (evs : List EVendor) : List Imp :=
  stdImports.filter (top ++ vimps ++ (if !evs.isEmpty then [Imp.std (bs "errors")] else [])).contains

theorem generate_eq (cfg : Cfg) (d : Dictionary) (o : Options) :
    generate cfg d o = (do
      let seen ← checkAttrs cfg false [] (kept o d.attributes)
      gmid cfg o d.values (route (sortAttrs cfg (kept o d.attributes))) (sortAttrs cfg (kept o d.attributes))
      let r ← checkVendors cfg o seen [] d.vendors
      gtail o d.values (route (sortAttrs cfg (kept o d.attributes))) (sortAttrs cfg (kept o d.attributes)) (sortVendors cfg r.1)
        (gstd ((kept o d.attributes).flatMap declaredImports) r.2 (sortVendors cfg r.1))) := by
  unfold generate gmid gtail fmtBad gstd sectionsOf
  dsimp only
  generalize checkAttrs cfg false [] (kept o d.attributes) = r1
  cases r1 with
  | error e => rfl
  | ok seen =>
    generalize (List.any (List.filter (fun v => !o.ignore.contains v.attrName) d.values) _) = b
    cases b with
    | true => rfl
    | false =>
      generalize checkAttrValues cfg _ _ = r2
      cases r2 with
      | error e => rfl
      | ok u =>
        generalize (List.forM (m := Except Err) _ _ : Except Err PUnit) = r3
        cases r3 with
        | error e => rfl
        | ok u =>
          generalize checkVendors cfg o seen [] d.vendors = r4
          cases r4 with
          | error e => rfl
          | ok p =>
            cases p with
            | mk evs vimps => rfl

theorem bind_ok_iff {α β} (x : Except Err α) (f : α → Except Err β) (b : β) :
    (x >>= f) = .ok b ↔ ∃ a, x = .ok a ∧ f a = .ok b := by
  cases x <;> simp [bind, Except.bind]

/-- a test evaluated on a run that succeeds: the run's output passes it -/
theorem exists_ok_of_test {ε α} {x : Except ε α} {P : α → Bool}
    (h : (match x with | .ok a => P a | .error _ => false) = true) : ∃ a, x = .ok a ∧ P a = true := by
  cases x with
  | ok a => exact ⟨a, rfl, h⟩
  | error e => cases h

theorem bind_error_iff {α β} (x : Except Err α) (f : α → Except Err β) (e : Err) :
    (x >>= f) = .error e ↔ x = .error e ∨ ∃ a, x = .ok a ∧ f a = .error e := by
  cases x <;> simp [bind, Except.bind]

theorem gtail_ok_iff (o : Options) (values : List Value) (rt : List (Bytes × Bytes) → Value → Route)
    (attrs : List Attribute) (evs : List EVendor) (stdI : List Imp) :
    (∃ out, gtail o values rt attrs evs stdI = .ok out) ↔
      evs.any (fun v => v.attrs.any vendorAttrPanics) = false ∧ attrs.any fmtBad = false ∧
      evs.any (fun v => v.attrs.any (fun a => hasTemplate a.typ && fmtBad a)) = false ∧
      extBad o values rt = false := by
  unfold gtail extBad
  dsimp only
  generalize evs.any (fun v => v.attrs.any vendorAttrPanics) = b1
  generalize attrs.any fmtBad = b2
  generalize evs.any (fun v => v.attrs.any (fun a => hasTemplate a.typ && fmtBad a)) = b3
  generalize (sortStable (fun a b => bytesLt a.1 b.1) o.refs).any _ = b4
  cases b1 <;> cases b2 <;> cases b3 <;> cases b4 <;>
    simp [bind, Except.bind, pure, Except.pure, throw, throwThe, MonadExceptOf.throw]

theorem generate_ok_iff (cfg : Cfg) (d : Dictionary) (o : Options) (out : Output) :
    generate cfg d o = .ok out ↔
      AGood cfg false [] (kept o d.attributes) ∧
      gmid cfg o d.values (route (sortAttrs cfg (kept o d.attributes))) (sortAttrs cfg (kept o d.attributes)) = .ok () ∧
      VGood cfg o (((kept o d.attributes).map ident).reverse ++ []) [] d.vendors ∧
      gtail o d.values (route (sortAttrs cfg (kept o d.attributes))) (sortAttrs cfg (kept o d.attributes))
        (sortVendors cfg (d.vendors.map (mkEV cfg o)))
        (gstd ((kept o d.attributes).flatMap declaredImports) (d.vendors.flatMap (vimps o)) (sortVendors cfg (d.vendors.map (mkEV cfg o)))) = .ok out := by
  rw [generate_eq, bind_ok_iff]
  constructor
  · rintro ⟨seen, h1, h2⟩
    rw [bind_ok_iff] at h2
    obtain ⟨u, h2, h3⟩ := h2
    rw [bind_ok_iff] at h3
    obtain ⟨r, h3, h4⟩ := h3
    obtain ⟨g1, rfl⟩ := (checkAttrs_iff cfg false _ _ _).1 h1
    obtain ⟨g3, rfl⟩ := (checkVendors_iff cfg o _ _ _ _).1 h3
    exact ⟨g1, h2, g3, h4⟩
  · rintro ⟨g1, g2, g3, g4⟩
    refine ⟨_, (checkAttrs_iff cfg false _ _ _).2 ⟨g1, rfl⟩, ?_⟩
    rw [bind_ok_iff]
    refine ⟨(), g2, ?_⟩
    rw [bind_ok_iff]
    exact ⟨_, (checkVendors_iff cfg o _ _ _ _).2 ⟨g3, rfl⟩, g4⟩

/-! The values a run of `generate cfg d o` computes on its way, by the names `generate` gives them. -/

/-- `attrs`: the top-level attributes as emitted -/
def gAttrs (cfg : Cfg) (d : Dictionary) (o : Options) : List Attribute := sortAttrs cfg (kept o d.attributes)
/-- `exts`: the `-ref` options, sorted by name -/
def gExts (o : Options) : List (Bytes × Bytes) := sortStable (fun a b => bytesLt a.1 b.1) o.refs
/-- `vals`: the VALUE lines of attributes not on the ignore list -/
def gVals (d : Dictionary) (o : Options) : List Value := d.values.filter (fun v => !o.ignore.contains v.attrName)
/-- `locals`: the VALUE lines of the dictionary's own attributes, sorted by number -/
def gLocals (cfg : Cfg) (d : Dictionary) (o : Options) : List Value :=
  sortValues ((gVals d o).filter (fun v => route (gAttrs cfg d o) (gExts o) v == .loc))
/-- `extVals e`: the VALUE lines of the external attribute `e` -/
def gExtVals (cfg : Cfg) (d : Dictionary) (o : Options) (e : Bytes × Bytes) : List Value :=
  (gVals d o).filter (fun v => route (gAttrs cfg d o) (gExts o) v == .ext e.1)

/-- `sections`, given the sorted vendors -/
def gSections (cfg : Cfg) (d : Dictionary) (o : Options) (evs : List EVendor) : List (Origin × List Decl) :=
  sectionsOf (gAttrs cfg d o) evs (gExts o) (gLocals cfg d o) (gExtVals cfg d o)

theorem mem_gSections {cfg : Cfg} {d : Dictionary} {o : Options} {evs : List EVendor} {s : Origin × List Decl}
    (hs : s ∈ gSections cfg d o evs) :
    (∃ a ∈ gAttrs cfg d o, s = (Origin.attr false a, [(⟨.const, .typeConst, identifier a.name ++ bs "_Type", [], [.radiusType]⟩ : Decl)])) ∨
    (∃ v ∈ evs, s = (Origin.vendor v.name, [(⟨.const, .vendorId, bs "_" ++ identifier v.name ++ bs "_VendorID", [], [.untyped]⟩ : Decl)])) ∨
    (∃ e ∈ gExts o, s = (Origin.ext e.1, (⟨.func, .extInit, bs "init", [], []⟩ : Decl)
        :: (gExtVals cfg d o e).map (fun v => (⟨.const, .extValue, identifier v.attrName ++ bs "_Value_" ++ identifier v.name, [], [.named (identifier v.attrName)]⟩ : Decl)))) ∨
    (∃ a ∈ gAttrs cfg d o, s = (Origin.attr false a, attrDecls false a (gLocals cfg d o))) ∨
    (∃ v ∈ evs, s = (Origin.vendor v.name, vendorHelperDecls (identifier v.name))) ∨
    (∃ v ∈ evs, ∃ a ∈ v.attrs, s = (Origin.attr true a, attrDecls true a v.values)) := by
  simp only [gSections, sectionsOf, List.mem_append, List.mem_map, List.mem_flatMap, List.mem_cons] at hs
  rcases hs with (((⟨a, ha, rfl⟩ | ⟨v, hv, rfl⟩) | ⟨e, he, rfl⟩) | ⟨a, ha, rfl⟩) | ⟨v, hv, rfl | ⟨a, ha, rfl⟩⟩
  · exact Or.inl ⟨a, ha, rfl⟩
  · exact Or.inr (Or.inl ⟨v, hv, rfl⟩)
  · exact Or.inr (Or.inr (Or.inl ⟨e, he, rfl⟩))
  · exact Or.inr (Or.inr (Or.inr (Or.inl ⟨a, ha, rfl⟩)))
  · exact Or.inr (Or.inr (Or.inr (Or.inr (Or.inl ⟨v, hv, rfl⟩))))
  · exact Or.inr (Or.inr (Or.inr (Or.inr (Or.inr ⟨v, hv, a, ha, rfl⟩))))

theorem generate_ok {cfg : Cfg} {d : Dictionary} {o : Options} {out : Output} (h : generate cfg d o = .ok out) :
    ∃ seen evs0 imps,
      checkAttrs cfg false [] (kept o d.attributes) = .ok seen ∧
      checkAttrValues cfg (gAttrs cfg d o) (gLocals cfg d o) = .ok () ∧
      (gExts o).forM (fun e => valuesOK cfg none (gExtVals cfg d o e)) = .ok () ∧
      checkVendors cfg o seen [] d.vendors = .ok (evs0, imps) ∧
      out.sections = gSections cfg d o (sortVendors cfg evs0) ∧
      out.imports =
        stdImports.filter ((kept o d.attributes).flatMap declaredImports ++ imps
          ++ (if !(sortVendors cfg evs0).isEmpty then [Imp.std (bs "errors")] else [])).contains
        ++ (if !(gAttrs cfg d o).isEmpty || !(sortVendors cfg evs0).isEmpty then [Imp.radius] else [])
        ++ (if !(sortVendors cfg evs0).isEmpty then [Imp.rfc2865] else [])
        ++ (dedupBytes (((gExts o).filter (fun e => !(gExtVals cfg d o e).isEmpty)).map (·.2))).map Imp.dot ∧
      (∀ e ∈ gExts o, gExtVals cfg d o e ≠ [] → lexesAsIdent (identifier e.1) = true) := by
  rw [generate_eq, bind_ok_iff] at h
  obtain ⟨seen, hca, h⟩ := h
  rw [bind_ok_iff] at h
  obtain ⟨_, hmid, h⟩ := h
  rw [bind_ok_iff] at h
  obtain ⟨r, hve, h⟩ := h
  unfold gmid at hmid
  dsimp only at hmid
  revert hmid
  generalize (List.any (List.filter (fun v => !o.ignore.contains v.attrName) d.values) _) = b
  cases b
  case true => intro hmid; cases hmid
  intro hmid
  obtain ⟨_, hcv, hfx⟩ := (bind_ok_iff _ _ _).1 hmid
  unfold gtail at h
  dsimp only at h
  revert h
  generalize (sortVendors cfg r.1).any (fun v => v.attrs.any vendorAttrPanics) = b1
  generalize (sortAttrs cfg (kept o d.attributes)).any fmtBad = b2
  generalize (sortVendors cfg r.1).any (fun v => v.attrs.any (fun a => hasTemplate a.typ && fmtBad a)) = b3
  generalize hext : (sortStable (fun a b => bytesLt a.1 b.1) o.refs).any _ = b4
  cases b1
  case true => intro h; cases h
  cases b2
  case true => intro h; cases h
  cases b3
  case true => intro h; cases h
  cases b4
  case true => intro h; cases h
  intro h
  cases h
  refine ⟨seen, r.1, r.2, hca, hcv, hfx, hve, rfl, rfl, ?_⟩
  intro e he hne
  cases hl : lexesAsIdent (identifier e.1)
  · refine absurd (List.any_eq_true.2 ⟨e, he, ?_⟩) (ne_true_of_eq_false hext)
    rw [hl, Bool.and_eq_true]
    exact ⟨by rw [Bool.not_eq_true', List.isEmpty_eq_false_iff]; exact hne, rfl⟩
  · rfl

end RV.Gen
