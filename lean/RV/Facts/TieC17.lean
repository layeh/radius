/-
  Ties (see TieC01.lean for the conventions) — the part that belongs to C17: the identifiers the tree's
  generator derives from attribute names (first-digit words, `+` ↦ Plus, field splitting, golint
  initialisms, Title-casing, refusal of names without an exported identifier), read off generated code for
  every candidate name, equal what the model's `generate` produces for the same one-attribute dictionary.
-/
import RV.Facts.Generated
import RV.Facts.ExpectedC17
namespace RV.Facts.C17
open RV RV.Facts

theorem tie_c17Ident : Generated.c17Ident = ExpectedC17.c17Ident := by decide +kernel
/-- The probe lists its candidates in the order of `mustNames` (with others in between), so one merge pass
    (`List.isSublist`) shows the cover; a search through the candidates for each required name is slow to check. -/
theorem candidates_cover : ExpectedC17.covers = true := by
  have h : ExpectedC17.mustNames.isSublist (Generated.c17Names.map ExpectedC17.toBytes) = true := by decide +kernel
  exact List.all_eq_true.2 fun m hm => List.contains_iff_mem.2 ((List.isSublist_iff_sublist.1 h).subset hm)

end RV.Facts.C17
