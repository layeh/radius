/-
  How the per-package ties of C18 (`RV/Facts/C18/T<k>.lean`) are evaluated.

  `ExpectedC18.agrees d o imports decls` compares the model generator's rendered inventory with byte
  strings that the probe writes as `B n len` (the `len` octets of `n`).  Evaluated as it stands, the kernel
  unpacks every `B n len` lazily (`Bacc` hands `n / 256 / 256 / …` on unevaluated), and terms that differ
  only in the high part of a large numeral share one slot of its caches (a numeral is hashed by its low
  limb): the work grows with the square of the number of strings that end alike.  The ties therefore go
  another way, in two parts:

  * the two tables are never unpacked.  The model's octets are packed into one number (`pack`, one
    multiplication and one addition per octet) and compared with the probe's numeral as a number;
    `agreesPacked_sound`: when that comparison says yes, `agrees` holds (the direction a tie needs; the other
    fails for a numeral that does not fit its length, since `B` truncates).  A tie rewrites its tables into
    `List.map unB [(n, len), …]` (`B_eq_unB`, `unB_singleton`, `unB_cons`) and evaluates `agreesPacked`;
  * the names inside the dictionary have to be unpacked, since the generator reads them.  `Bs` does what
    `Bacc` does, but matches on every quotient and remainder before it goes on, so that the terms the kernel
    keeps hold small numerals only (`B_eq_Bs : B n len = Bs n len []`).
-/
import RV.Facts.ExpectedC18
namespace RV.Facts.ExpectedC18
open RV RV.Dict RV.Gen

/-- the octets as one big-endian number -/
def pack (l : Bytes) : Nat := l.foldl (fun acc b => acc * 256 + b.toNat) 0

/-- a byte string as the probe writes it -/
def unB (p : Nat × Nat) : Bytes := B p.1 p.2

/-- Unpacking `l.length + k` octets of `l` packed on top of `a` gives back `l`, in front of what `k` more octets of
    `a` give: the `+ k` and the start value `a` are what the induction on `l` needs, since `Bacc` peels the LAST octet
    first while `foldl` consumes the first. -/
theorem Bacc_foldl (l : Bytes) (a k : Nat) (acc : Bytes) :
    Bacc (l.foldl (fun acc b => acc * 256 + b.toNat) a) (l.length + k) acc = Bacc a k (l ++ acc) := by
  induction l generalizing a k acc with
  | nil => simp
  | cons b l ih =>
    have hb := b.toNat_lt
    rw [List.foldl_cons, List.length_cons, Nat.add_assoc, Nat.add_comm 1 k, ih, Bacc]
    have h1 : (a * 256 + b.toNat) / 256 = a := by omega
    have h2 : (a * 256 + b.toNat) % 256 = b.toNat := by omega
    rw [h1, h2, UInt8.ofNat_toNat, List.cons_append]

/-- unpacking inverts packing, whatever the octets -/
theorem B_pack (l : Bytes) : B (pack l) l.length = l := by
  simpa [B, pack, Bacc] using Bacc_foldl l 0 0 []

/-- `xs = ps.map unB`, decided on the packed side -/
def eqPacked : List Bytes → List (Nat × Nat) → Bool
  | [], [] => true
  | x :: xs, p :: ps => pack x == p.1 && x.length == p.2 && eqPacked xs ps
  | _, _ => false

theorem eqPacked_sound {xs : List Bytes} {ps : List (Nat × Nat)} (h : eqPacked xs ps = true) :
    xs = ps.map unB := by
  induction xs generalizing ps with
  | nil => cases ps <;> simp_all [eqPacked]
  | cons x xs ih =>
    cases ps with
    | nil => simp [eqPacked] at h
    | cons p ps =>
      simp only [eqPacked, Bool.and_eq_true, beq_iff_eq] at h
      rw [List.map_cons, ← ih h.2, unB, ← h.1.1, ← h.1.2, B_pack]

/-- `agrees` with both tables given as (numeral, length) pairs -/
def agreesPacked (d : Dictionary) (o : Options) (imports decls : List (Nat × Nat)) : Bool :=
  match generate Cfg.current d o with
  | .ok out =>
    eqPacked (sortBytes (out.imports.map renderImp)) imports &&
    eqPacked (out.decls.map renderDecl) decls
  | .error _ => false

theorem agreesPacked_sound {d : Dictionary} {o : Options} {imports decls : List (Nat × Nat)}
    (h : agreesPacked d o imports decls = true) : agrees d o (imports.map unB) (decls.map unB) = true := by
  unfold agreesPacked at h
  unfold agrees
  cases hg : generate Cfg.current d o with
  | error e => simp [hg] at h
  | ok out =>
    simp only [hg, Bool.and_eq_true] at h
    simp [eqPacked_sound h.1, eqPacked_sound h.2]

/-- `k n`, with `n` evaluated first: the match makes the kernel reduce `n` to a numeral before `k` sees it -/
def strict {α : Type} (n : Nat) (k : Nat → α) : α :=
  match n with
  | 0 => k 0
  | m + 1 => k (m + 1)

theorem strict_eq {α : Type} (n : Nat) (k : Nat → α) : strict n k = k n := by cases n <;> rfl

/-- `Bacc`, evaluating quotient and remainder at every octet -/
def Bs (n : Nat) : Nat → Bytes → Bytes
  | 0, acc => acc
  | k + 1, acc => strict (n / 256) fun q => strict (n % 256) fun r => Bs q k (UInt8.ofNat r :: acc)

theorem Bs_eq (n k : Nat) (acc : Bytes) : Bs n k acc = Bacc n k acc := by
  induction k generalizing n acc with
  | zero => rfl
  | succ k ih => rw [Bs, strict_eq, strict_eq, ih, Bacc]

theorem B_eq_Bs (n len : Nat) : B n len = Bs n len [] := (Bs_eq n len []).symm

/-! The rewriting that brings a table `[B n₁ len₁, B n₂ len₂, …]` into the form `List.map unB [(n₁, len₁), …]`. -/

theorem B_eq_unB (n len : Nat) : B n len = unB (n, len) := rfl
theorem unB_singleton (p : Nat × Nat) : [unB p] = List.map unB [p] := rfl
theorem unB_cons (p : Nat × Nat) (ps : List (Nat × Nat)) : unB p :: List.map unB ps = List.map unB (p :: ps) := rfl

end RV.Facts.ExpectedC18
